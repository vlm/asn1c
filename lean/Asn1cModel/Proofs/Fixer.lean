import Asn1cModel.Impl.Fixer
import Asn1cModel.Spec.TagRules
/- C11, tags.  `asn1f_fetch_outmost_tag` returns the only possible outermost tag (`directTag_eq`,
   `fetchOutmost_tag`).  The tag fix and the automatic numbering, taken by the standard's case distinction
   (`fixConstr_spec`), leave every member with the (class, number) and the untagged type
   the X.680 tagging environment gives it (`comps_rel`, stated with the pointwise relation `AllRel`).
   Hence `_asn1f_compare_tags` reports exactly the intersecting outer-tag sets (`compareTags_sound`), and
   the two distinctness loops are the X.680 rules in recursive form (`checkDistinct_spec`,
   `allOk_iff_tagsDistinct`); end to end, the loop over the members as the code has fixed them decides the
   rule on the members the standard speaks of (`checkDistinct_tagsDistinct`). -/
namespace Asn1c.Proofs.Fixer
open Asn1c.Fix Asn1c.Impl.Fixer Asn1c.Spec.Fix

/-- `expr_type2uclass_value[]` is X.680 Table 1, with 0 where the table has no entry -/
theorem univTag_uclass (t : Ty) (n : Nat) : univTag t = some n ↔ (uclass t = n ∧ n ≠ 0) := by
  have h : univTag t = if uclass t = 0 then none else some (uclass t) := by
    cases t with
    | prim g p => cases p <;> rfl
    | constr g k r h a => cases k <;> rfl
    | _ => rfl
  rw [h]
  split
  · next h0 => exact ⟨nofun, fun ⟨e, hn⟩ => (hn (e ▸ h0)).elim⟩
  · next h0 => exact ⟨fun e => by cases e; exact ⟨rfl, h0⟩, fun ⟨e, _⟩ => e ▸ rfl⟩

theorem uclass_zero (t : Ty) (h : uclass t = 0) :
    (∃ g n, t = .ref g n) ∨ (∃ g r hx a, t = .constr g .choice r hx a) := by
  cases t with
  | ref g n => exact .inl ⟨g, n, rfl⟩
  | constr g k r hx a => cases k with | choice => exact .inr ⟨g, r, hx, a, rfl⟩ | _ => cases h
  | prim g p => cases p <;> cases h
  | _ => cases h

/-- the tag the code finds without following a reference, in the standard's terms: the C table of universal
    class numbers is X.680 Table 1 -/
theorem directTag_eq (t : Ty) : directTag t =
    match t.tag with
    | some g => some (.key g.cls g.num)
    | none => (univTag t).map (.key .universal) := by
  unfold directTag
  cases t.tag with
  | some g => rfl
  | none =>
    cases t with
    | prim g p => cases p <;> rfl
    | constr g k r h a => cases k <;> rfl
    | _ => rfl

theorem hasOuter_ext {M : Module} {g : OTag} : HasOuter M .ext g ↔ g = .extp :=
  ⟨fun h => by cases h; rfl, fun h => h ▸ .ext⟩

theorem directTag_some {M : Module} {t : Ty} {d : OTag} (h : directTag t = some d) (g : OTag) :
    HasOuter M (.ty t) g ↔ g = d := by
  rw [directTag_eq] at h
  constructor
  · intro hg
    cases hg with
    | tagged ht => rw [ht] at h; cases h; rfl
    | univ ht hu => rw [ht, hu] at h; cases h; rfl
    | ref _ _ => cases h
    | choice _ _ => cases h
  · rintro rfl
    split at h
    · cases h; exact .tagged ‹_›
    · obtain ⟨n, hu, rfl⟩ := Option.map_eq_some_iff.1 h
      exact .univ ‹_› hu

theorem directTag_none {t : Ty} (h : directTag t = none) :
    (∃ n, t = .ref none n) ∨ (∃ r hx a, t = .constr none .choice r hx a) := by
  cases t with
  | ref g n => cases g with | none => exact Or.inl ⟨n, rfl⟩ | some _ => cases h
  | constr g k r hx a =>
    cases g with
    | some _ => cases h
    | none => cases k with | choice => exact Or.inr ⟨r, hx, a, rfl⟩ | _ => cases h
  | prim g p => cases g <;> cases p <;> cases h
  | _ => cases ‹Option Tag› <;> cases h

theorem hasOuter_ref {M : Module} {n : String} {g : OTag} :
    HasOuter M (.ty (.ref none n)) g ↔ ∃ t', M.lookup n = some t' ∧ HasOuter M (.ty t') g := by
  constructor
  · intro h
    cases h with
    | tagged h' => simp [Ty.tag] at h'
    | univ _ h' => simp [univTag] at h'
    | ref h1 h2 => exact ⟨_, h1, h2⟩
  · rintro ⟨t', h1, h2⟩; exact .ref h1 h2

theorem hasOuter_choice {M : Module} {r : List Comp} {hx : Bool} {a : List Comp} {g : OTag} :
    HasOuter M (.ty (.constr none .choice r hx a)) g ↔
      ∃ s, s ∈ Asn1c.Spec.Fix.comps M r hx a ∧ HasOuter M s.ex g := by
  constructor
  · intro h
    cases h with
    | tagged h' => simp [Ty.tag] at h'
    | univ _ h' => simp [univTag] at h'
    | choice h1 h2 => exact ⟨_, h1, h2⟩
  · rintro ⟨s, h1, h2⟩; exact .choice h1 h2

@[simp] theorem fetchOutmost_ext (M : Module) (f : Nat) : fetchOutmost M f .ext = .tag .extp := by
  cases f <;> rfl

theorem fetchOutmost_direct (M : Module) (f : Nat) {t : Ty} {d : OTag} (h : directTag t = some d) :
    fetchOutmost M f (.ty t) = .tag d := by
  cases f <;> (unfold fetchOutmost; simp only [h])

@[simp] theorem fetchOutmost_choice (M : Module) (f : Nat) (r : List Comp) (h : Bool) (a : List Comp) :
    fetchOutmost M f (.ty (.constr none .choice r h a)) = .fail := by
  cases f <;> rfl

@[simp] theorem fetchOutmost_ref_zero (M : Module) (n : String) :
    fetchOutmost M 0 (.ty (.ref none n)) = .loop := rfl

theorem fetchOutmost_ref_succ (M : Module) (f : Nat) (n : String) :
    fetchOutmost M (f + 1) (.ty (.ref none n)) =
      match M.lookup n with
      | none => .fail
      | some t' => fetchOutmost M f (.ty t') := rfl

/-- a fetched tag is *the* outermost tag: the set of possible outermost tags is that singleton -/
theorem fetchOutmost_tag (M : Module) (f : Nat) (x : Ex) (g : OTag) (h : fetchOutmost M f x = .tag g)
    (g' : OTag) : HasOuter M x g' ↔ g' = g := by
  fun_induction fetchOutmost M f x with
  | case1 => cases h; exact hasOuter_ext
  | case2 f t d hd => cases h; exact directTag_some hd g'
  | case5 tg n f t' hl hd ih =>
    cases tg with
    | some _ => cases hd
    | none => rw [hasOuter_ref, hl, ← ih h]; simp
  | _ => cases h

theorem fetchOutmost_fail_shape (M : Module) (f : Nat) (x : Ex) (h : fetchOutmost M f x = .fail) :
    (∃ n, x = .ty (.ref none n)) ∨ (∃ r hx a, x = .ty (.constr none .choice r hx a)) := by
  cases x with
  | ext => simp at h
  | ty t =>
    cases hd : directTag t with
    | some d => rw [fetchOutmost_direct M f hd] at h; cases h
    | none =>
      rcases directTag_none hd with ⟨n, rfl⟩ | ⟨r, hx, a, rfl⟩
      · exact Or.inl ⟨n, rfl⟩
      · exact Or.inr ⟨r, hx, a, rfl⟩

/-- what the branch taken by `_asn1f_compare_tags` says about its arguments; the final `return 0`
    is never reached: in this algebra a failed fetch means "untagged reference or untagged CHOICE",
    and both are looked into -/
theorem classify_spec (M : Module) (a b : Ex) : ∀ s, classify M a b = s →
    match s with
    | .both x y => fetchOutmost M (fuel M) a = .tag x ∧ fetchOutmost M (fuel M) b = .tag y
    | .followA n => a = .ty (.ref none n)
    | .choiceA r h ad => a = .ty (.constr none .choice r h ad)
    | .done => False
    | _ => True := by
  rintro _ rfl
  fun_cases classify M a b with
  | case1 | case2 | case4 => trivial
  | case3 hfa hfb => rcases fetchOutmost_fail_shape M _ _ hfa with ⟨n, rfl⟩ | ⟨r, hx, ad, rfl⟩ <;> rfl
  | case5 x hfa y hfb => exact ⟨hfa, hfb⟩
  | case6 x hfa hfb => rcases fetchOutmost_fail_shape M _ _ hfb with ⟨n, rfl⟩ | ⟨r, hx, ad, rfl⟩ <;> trivial

/-- two lists of the same length whose members are related one by one (`List.Forall₂`, spelled out) -/
inductive AllRel {α β : Type} (R : α → β → Prop) : List α → List β → Prop
  | nil : AllRel R [] []
  | cons {a b l l'} : R a b → AllRel R l l' → AllRel R (a :: l) (b :: l')

theorem AllRel.append {α β : Type} {R : α → β → Prop} {l1 l2 : List α} {m1 m2 : List β}
    (h1 : AllRel R l1 m1) (h2 : AllRel R l2 m2) : AllRel R (l1 ++ l2) (m1 ++ m2) := by
  induction h1 with
  | nil => exact h2
  | cons hr _ ih => exact .cons hr ih

theorem AllRel.map {α β γ δ : Type} {R : α → β → Prop} {S : γ → δ → Prop} {f : α → γ} {g : β → δ}
    (hfg : ∀ a b, R a b → S (f a) (g b)) {l : List α} {m : List β} (h : AllRel R l m) :
    AllRel S (l.map f) (m.map g) := by
  induction h with
  | nil => exact .nil
  | cons hr _ ih => exact .cons (hfg _ _ hr) ih

theorem AllRel.length {α β : Type} {R : α → β → Prop} {l : List α} {m : List β}
    (h : AllRel R l m) : l.length = m.length := by
  induction h with
  | nil => rfl
  | cons _ _ ih => simp [ih]

theorem AllRel.mem_left {α β : Type} {R : α → β → Prop} {l : List α} {m : List β}
    (h : AllRel R l m) {a : α} (ha : a ∈ l) : ∃ b, b ∈ m ∧ R a b := by
  induction h with
  | nil => cases ha
  | cons hr _ ih =>
    rcases List.mem_cons.1 ha with rfl | ha'
    · exact ⟨_, List.mem_cons_self, hr⟩
    · obtain ⟨b, hb, hr'⟩ := ih ha'; exact ⟨b, List.mem_cons_of_mem _ hb, hr'⟩

theorem AllRel.mem_right {α β : Type} {R : α → β → Prop} {l : List α} {m : List β}
    (h : AllRel R l m) {b : β} (hb : b ∈ m) : ∃ a, a ∈ l ∧ R a b := by
  induction h with
  | nil => cases hb
  | cons hr _ ih =>
    rcases List.mem_cons.1 hb with rfl | hb'
    · exact ⟨_, List.mem_cons_self, hr⟩
    · obtain ⟨a, ha, hr'⟩ := ih hb'; exact ⟨a, List.mem_cons_of_mem _ ha, hr'⟩

theorem AllRel.exists_congr {α β : Type} {R : α → β → Prop} {P : α → Prop} {Q : β → Prop}
    (hPQ : ∀ a b, R a b → (P a ↔ Q b)) {l : List α} {m : List β} (h : AllRel R l m) :
    (∃ a, a ∈ l ∧ P a) ↔ ∃ b, b ∈ m ∧ Q b :=
  ⟨fun ⟨a, ha, hp⟩ => let ⟨b, hb, hr⟩ := h.mem_left ha; ⟨b, hb, (hPQ a b hr).1 hp⟩,
    fun ⟨b, hb, hq⟩ => let ⟨a, ha, hr⟩ := h.mem_right hb; ⟨a, ha, (hPQ a b hr).2 hq⟩⟩

/-- what of a type's own tag the outermost tag depends on: (class, number), not the mode -/
def keyOf (t : Ty) : Option (TagClass × Nat) := t.tag.map (fun g => (g.cls, g.num))

/-- two types that differ at most in the mode of their own tag -/
def TyRel (t t' : Ty) : Prop := keyOf t = keyOf t' ∧ t.withTag none = t'.withTag none

/-- `TyRel` on types, the extension marker related to itself only -/
def ExRel : Ex → Ex → Prop
  | .ext, .ext => True
  | .ty t, .ty t' => TyRel t t'
  | _, _ => False

/-- members as the distinctness rules see them: same OPTIONAL-ness, `ExRel`-related types -/
def SlotRel (s s' : Slot) : Prop := s.opt = s'.opt ∧ ExRel s.ex s'.ex

/-- components with the same identifier and OPTIONAL-ness and `TyRel`-related types -/
def CompRel (c c' : Comp) : Prop := c.name = c'.name ∧ c.opt = c'.opt ∧ TyRel c.ty c'.ty

theorem withTag_tag (t : Ty) (g : Option Tag) : (t.withTag g).tag = g := by
  cases t <;> rfl

theorem withTag_withTag (t : Ty) (g g' : Option Tag) : (t.withTag g).withTag g' = t.withTag g' := by
  cases t <;> rfl

theorem withTag_self (t : Ty) : t.withTag t.tag = t := by
  cases t <;> rfl

theorem TyRel.refl (t : Ty) : TyRel t t := ⟨rfl, rfl⟩

theorem ExRel.refl (x : Ex) : ExRel x x := by
  cases x
  · exact TyRel.refl _
  · trivial

theorem TyRel.hasOuter {M : Module} {t t' : Ty} (h : TyRel t t') (g : OTag) :
    HasOuter M (.ty t) g ↔ HasOuter M (.ty t') g := by
  obtain ⟨hk, hb⟩ := h
  -- equal keys: tagged on both sides or on neither
  cases ht : t.tag <;> cases ht' : t'.tag <;> simp [keyOf, ht, ht'] at hk
  · rw [← withTag_self t, ← withTag_self t', ht, ht', hb]
  · -- both tagged, with the same class and number: that is the outermost tag on either side
    rw [directTag_some (by rw [directTag_eq, ht]), directTag_some (by rw [directTag_eq, ht']), hk.1, hk.2]

theorem ExRel.hasOuter {M : Module} {x x' : Ex} (h : ExRel x x') (g : OTag) :
    HasOuter M x g ↔ HasOuter M x' g := by
  cases x <;> cases x' <;> simp [ExRel] at h
  · exact TyRel.hasOuter h g
  · exact Iff.rfl

theorem ExRel.clash {M : Module} {a a' b b' : Ex} (ha : ExRel a a') (hb : ExRel b b') :
    Clash M a b ↔ Clash M a' b' :=
  exists_congr fun g => and_congr (ha.hasOuter g) (hb.hasOuter g)

theorem TyRel.withMode {t : Ty} {g : Tag} (ht : t.tag = some g) (m : TagMode) :
    TyRel (t.withTag (some { g with mode := m })) t :=
  ⟨by simp [keyOf, withTag_tag, ht], withTag_withTag _ _ _⟩

theorem fixTypeTag_rel {M : Module} {t t' : Ty} {f : Bool} (h : fixTypeTag M t = some (t', f)) :
    TyRel t' t := by
  revert h
  -- whichever branch is taken, only the mode of the tag is rewritten
  fun_cases fixTypeTag M t with
  | case1 => intro h; cases h; exact TyRel.refl _
  | case2 => nofun
  | case3 g ht | case4 g ht | case5 g ht => intro h; cases h; exact TyRel.withMode ht _

theorem fixComps_rel {M : Module} {cs cs' : List Comp} {f : Bool} (h : fixComps M cs = some (cs', f)) :
    AllRel CompRel cs' cs := by
  fun_induction fixComps M cs generalizing cs' f with
  | case1 => cases h; exact .nil
  | case2 c rest t' f1 rest' fr hr hc ih =>
    cases h
    refine .cons ⟨rfl, rfl, ?_⟩ (ih hr)
    split at hc
    · exact fixTypeTag_rel hc
    · cases hc; exact TyRel.refl _
  | case3 => cases h

theorem comp_withTag_ty (c : Comp) (g : Option Tag) : (c.withTag g).ty = c.ty.withTag g := by
  cases c; rfl

theorem comp_withTag_name (c : Comp) (g : Option Tag) : (c.withTag g).name = c.name := by
  cases c; rfl

theorem comp_withTag_opt (c : Comp) (g : Option Tag) : (c.withTag g).opt = c.opt := by
  cases c; rfl

theorem autoNumber_rel {M : Module} (cs cs' : List Comp) (i : Nat)
    (h : autoNumber M i cs = some cs') : AllRel CompRel cs' (number i cs) := by
  fun_induction autoNumber M i cs generalizing cs' with
  | case1 => cases h; exact .nil
  | case2 i c rest me rest' hn hm ih =>
    cases h
    refine .cons ⟨?_, ?_, ?_, ?_⟩ (ih _ hn)
    · rw [comp_withTag_name, comp_withTag_name]
    · rw [comp_withTag_opt, comp_withTag_opt]
    · rw [comp_withTag_ty, comp_withTag_ty]; simp [keyOf, withTag_tag]
    · rw [comp_withTag_ty, comp_withTag_ty, withTag_withTag, withTag_withTag]
  | case3 => cases h

theorem anyTagged_rel {cs cs' : List Comp} (h : AllRel CompRel cs' cs) :
    anyTagged cs' = anyTagged cs := by
  induction h with
  | nil => rfl
  | cons hr _ ih =>
    -- equal (class, number) keys: tagged or not on both sides
    have := congrArg Option.isSome hr.2.2.1
    simp only [keyOf, Option.isSome_map] at this
    simp only [anyTagged, List.any_cons] at ih ⊢
    rw [ih, this]

theorem all_untagged (cs : List Comp) : cs.all (fun c => c.ty.tag.isNone) = !anyTagged cs := by
  unfold anyTagged
  induction cs with
  | nil => rfl
  | cons c rest ih => simp only [List.all_cons, List.any_cons, ih]; cases c.ty.tag <;> rfl

theorem autoSelected_iff {M : Module} {r a : List Comp} : autoSelected M r a = true ↔
    M.dflt = .automatic ∧ (∀ c ∈ r, c.ty.tag = none) ∧ (∀ c ∈ a, c.ty.tag = none) := by
  simp [autoSelected, and_assoc]

theorem fixComps_untagged {M : Module} (cs : List Comp) (h : ∀ c ∈ cs, c.ty.tag = none) :
    fixComps M cs = some (cs, false) := by
  induction cs with
  | nil => rfl
  | cons c rest ih =>
    rw [fixComps, ih (fun c hc => h c (List.mem_cons_of_mem _ hc)), h c List.mem_cons_self]
    cases c; rfl

theorem CompRel.slot (c c' : Comp) (h : CompRel c c') : SlotRel c.slot c'.slot :=
  ⟨congrArg Opt.isOpt h.2.1, h.2.2⟩

theorem slotsOf_rel {r r' a a' : List Comp} (h : Bool) (hr : AllRel CompRel r r')
    (ha : AllRel CompRel a a') : AllRel SlotRel (slotsOf r h a) (slotsOf r' h a') := by
  unfold slotsOf
  apply AllRel.append (hr.map CompRel.slot)
  cases h
  · exact ha.map CompRel.slot
  · exact .cons ⟨rfl, trivial⟩ (ha.map CompRel.slot)

/-- `asn1f_fix_constr_tag` + `asn1f_fix_constr_autotag` by the standard's case distinction (the code's
    `auto_tags_OK` is "automatic tagging is selected"): where it is, the tag fix changes nothing and raises no
    FATAL, and the root, then the additions are numbered; where it is not, the members are those the tag fix
    leaves -/
theorem fixConstr_spec {M : Module} {r a : List Comp} {fc : FixC} (h : fixConstr M r a = some fc) :
    if autoSelected M r a = true then
      autoNumber M 0 r = some fc.root ∧ autoNumber M r.length a = some fc.adds ∧
        fc.fImplicit = false ∧ fc.fExt = false
    else AllRel CompRel fc.root r ∧ AllRel CompRel fc.adds a := by
  have hsel : autoSelected M r a = (M.dflt == .automatic && !anyTagged r && !anyTagged a) := by
    rw [autoSelected, all_untagged, all_untagged]
  revert h
  fun_cases fixConstr M r a with
  | case1 r1 f1 a1 f2 h2 h1 hc hta =>
    intro h; cases h
    rw [if_neg (by simp [hsel, hta])]; exact ⟨fixComps_rel h1, fixComps_rel h2⟩
  | case4 r1 f1 a1 f2 h2 h1 hc =>
    intro h; cases h
    rw [if_neg (by simp [hsel, hc])]; exact ⟨fixComps_rel h1, fixComps_rel h2⟩
  | case2 r1 f1 a1 f2 h2 h1 hc hta r2 a2 h4 h3 =>
    intro h; cases h
    have hs : autoSelected M r a = true := by simp [hsel, hc, hta]
    obtain ⟨_, hr, ha⟩ := autoSelected_iff.1 hs
    -- the tag fix has left the untagged members as they were
    cases h1.symm.trans (fixComps_untagged r hr); cases h2.symm.trans (fixComps_untagged a ha)
    rw [if_pos hs]; exact ⟨h3, h4, rfl, rfl⟩
  | case3 | case5 => nofun

/-- `asn1f_fix_constr_tag` + `asn1f_fix_constr_autotag` realise the X.680 tagging environment
    as far as outermost tags are concerned -/
theorem comps_rel {M : Module} {r a : List Comp} {h : Bool} {ss : List Slot}
    (hc : Asn1c.Impl.Fixer.comps M r h a = some ss) :
    AllRel SlotRel ss (Asn1c.Spec.Fix.comps M r h a) := by
  unfold Asn1c.Impl.Fixer.comps at hc
  split at hc
  · rename_i fc hf
    cases hc
    have hfc := fixConstr_spec hf
    unfold Asn1c.Spec.Fix.comps
    split at hfc
    · rw [if_pos ‹_›]; exact slotsOf_rel h (autoNumber_rel _ _ _ hfc.1) (autoNumber_rel _ _ _ hfc.2.1)
    · rw [if_neg ‹_›]; exact slotsOf_rel h hfc.1 hfc.2
  · cases hc

/-- "first clash wins": a clash is reported because some answer was one; none is, when every answer was "no clash" -/
theorem anyClash_spec : ∀ (l : List (Option Bool)) (r : Bool), anyClash l = some r →
    (r = true → some true ∈ l) ∧ (r = false → ∀ x ∈ l, x = some false)
  | [], _, h => by cases h; exact ⟨nofun, fun _ _ hx => nomatch hx⟩
  | none :: _, _, h => by cases h
  | some true :: _, _, h => by cases h; exact ⟨fun _ => List.mem_cons_self, nofun⟩
  | some false :: l, r, h =>
    have ⟨h1, h2⟩ := anyClash_spec l r h
    ⟨fun hr => List.mem_cons_of_mem _ (h1 hr), fun hr => List.forall_mem_cons.2 ⟨rfl, h2 hr⟩⟩

/-- the loop over the members of a CHOICE: where every single answer is exact, so is "first clash wins" -/
theorem anyClash_map {α : Type} {c : α → Option Bool} {P : α → Prop}
    (hc : ∀ a r, c a = some r → (r = true ↔ P a)) :
    ∀ (l : List α) (r : Bool), anyClash (l.map c) = some r → (r = true ↔ ∃ a, a ∈ l ∧ P a) := by
  intro l r h
  obtain ⟨h1, h2⟩ := anyClash_spec _ r h
  constructor
  · intro hr
    obtain ⟨a, ha, hca⟩ := List.mem_map.1 (h1 hr)
    exact ⟨a, ha, (hc a true hca).1 rfl⟩
  · rintro ⟨a, ha, hp⟩
    cases r with
    | true => rfl
    | false => exact (hc a false (h2 rfl _ (List.mem_map_of_mem ha))).2 hp

theorem Clash.symm {M : Module} {a b : Ex} : Clash M a b ↔ Clash M b a := by
  unfold Clash
  constructor <;> (rintro ⟨g, h1, h2⟩; exact ⟨g, h2, h1⟩)

theorem clash_of_hasOuter {M : Module} {α : Type} {a b : Ex} {P : α → Prop} {e : α → Ex}
    (h : ∀ g, HasOuter M a g ↔ ∃ x, P x ∧ HasOuter M (e x) g) :
    Clash M a b ↔ ∃ x, P x ∧ Clash M (e x) b := by
  simp only [Clash, outerTags, h]
  exact ⟨fun ⟨g, ⟨x, h1, h2⟩, h3⟩ => ⟨x, h1, g, h2, h3⟩, fun ⟨x, h1, g, h2, h3⟩ => ⟨g, ⟨x, h1, h2⟩, h3⟩⟩

theorem clash_ref {M : Module} {n : String} {b : Ex} :
    Clash M (.ty (.ref none n)) b ↔ ∃ t', M.lookup n = some t' ∧ Clash M (.ty t') b :=
  clash_of_hasOuter fun _ => hasOuter_ref

theorem clash_choice {M : Module} {r : List Comp} {hx : Bool} {a : List Comp} {b : Ex} :
    Clash M (.ty (.constr none .choice r hx a)) b ↔
      ∃ s, s ∈ Asn1c.Spec.Fix.comps M r hx a ∧ Clash M s.ex b :=
  clash_of_hasOuter fun _ => hasOuter_choice

/-- **`_asn1f_compare_tags` is exact** whenever it did not run out of fuel: it reports a clash
    iff the two outer-tag sets intersect. -/
theorem compareTags_sound (M : Module) (f : Nat) (a b : Ex) (r : Bool)
    (h : compareTags M f a b = some r) : r = true ↔ Clash M a b := by
  -- the cases in the order of the definition: no fuel, a fetch without fuel, both tags, a reference (undefined,
  -- defined), a CHOICE (its members not to be had, had), swap, the final `return 0`
  fun_induction compareTags M f a b generalizing r with
  | case1 | case2 | case6 => cases h
  | case3 f a b x y hs =>
    -- both tags known: the two singletons intersect iff the tags are equal
    obtain ⟨ha, hb⟩ := classify_spec M a b _ hs
    cases h
    simp only [beq_iff_eq, Clash, outerTags, fetchOutmost_tag M _ _ _ ha, fetchOutmost_tag M _ _ _ hb]
    exact ⟨fun e => ⟨x, rfl, e⟩, fun ⟨g, g1, g2⟩ => g1 ▸ g2⟩
  | case4 f a b n hs hl => cases classify_spec M a b _ hs; cases h; simp [clash_ref, hl]
  | case5 f a b n hs t' hl ih => cases classify_spec M a b _ hs; simp [clash_ref, hl, ih r h]
  | case7 f a b rr hx ad hs ss hcomps ih =>
    cases classify_spec M a b _ hs
    -- the members the code walks over clash with b iff those the standard speaks of do
    rw [clash_choice, ← (comps_rel hcomps).exists_congr fun s s' hr => ExRel.clash hr.2 (ExRel.refl b)]
    exact anyClash_map ih ss r h
  | case8 f a b hs ih => rw [ih r h]; exact Clash.symm
  | case9 f a b hs => exact (classify_spec M a b _ hs).elim

/-- recursive form of the distinctness rules: `a` against the following members -/
def runOk (M : Module) (isSeq : Bool) (a : Slot) : List Slot → Prop
  | [] => True
  | b :: rest => ¬ Clash M a.ex b.ex ∧ ((isSeq && !b.opt) = false → runOk M isSeq a rest)

def allOk (M : Module) (isSeq : Bool) : List Slot → Prop
  | [] => True
  | a :: rest => ((!isSeq || a.opt) = true → runOk M isSeq a rest) ∧ allOk M isSeq rest

theorem checkRun_spec (M : Module) (isSeq : Bool) (v : Slot) (rest : List Slot) (r : Bool)
    (h : checkRun M isSeq v rest = some r) : r = false ↔ runOk M isSeq v rest := by
  fun_induction checkRun M isSeq v rest generalizing r with
  | case1 => cases h; simp [runOk]
  | case2 | case4 => cases h
  | case3 nv rest c hcmp hstop => cases h; simp [runOk, hstop, ← compareTags_sound M _ _ _ _ hcmp]
  | case5 nv rest c hcmp hstop r' hr ih =>
    cases h; simp [runOk, hstop, ← compareTags_sound M _ _ _ _ hcmp, ← ih r' hr]

theorem checkDistinct_spec (M : Module) (isSeq : Bool) (ss : List Slot) (r : Bool)
    (h : checkDistinct M isSeq ss = some r) : r = false ↔ allOk M isSeq ss := by
  fun_induction checkDistinct M isSeq ss generalizing r with
  | case1 => cases h; simp [allOk]
  | case2 v rest c r' hr hv ih =>
    cases h
    rw [allOk, Bool.or_eq_false_iff, ih r' hr]
    split at hv
    next hcond => simp [hcond, checkRun_spec M isSeq v rest c hv]
    next hcond => cases hv; simp [hcond]
  | case3 => cases h

theorem runOk_rel {M : Module} {isSeq : Bool} {a a' : Slot} (ha : SlotRel a a') :
    ∀ {l l' : List Slot}, AllRel SlotRel l l' → (runOk M isSeq a l ↔ runOk M isSeq a' l') := by
  intro l l' h
  induction h with
  | nil => simp [runOk]
  | cons hr _ ih =>
    unfold runOk
    rw [ExRel.clash ha.2 hr.2, hr.1, ih]

theorem allOk_rel {M : Module} {isSeq : Bool} :
    ∀ {l l' : List Slot}, AllRel SlotRel l l' → (allOk M isSeq l ↔ allOk M isSeq l') := by
  intro l l' h
  induction h with
  | nil => simp [allOk]
  | cons hr hrest ih =>
    unfold allOk
    rw [runOk_rel hr hrest, hr.1, ih]

/-- SET / CHOICE: the recursive form is "all pairs" -/
theorem runOk_false_iff (M : Module) (a : Slot) (l : List Slot) :
    runOk M false a l ↔ ∀ b ∈ l, ¬ Clash M a.ex b.ex := by
  induction l with
  | nil => simp [runOk]
  | cons b rest ih => simp [runOk, ih]

theorem allOk_false_iff (M : Module) (ss : List Slot) : allOk M false ss ↔ allDistinct M ss := by
  unfold allDistinct
  induction ss with
  | nil => simp [allOk]
  | cons a rest ih =>
    simp only [allOk, List.pairwise_cons, Bool.not_false, Bool.true_or, forall_const]
    rw [ih, runOk_false_iff]

/-- the ways of writing `c :: rest` as `mid ++ b :: post`: `b` is `c`, or `b` lies in `rest` -/
theorem forall_split_cons {α : Type} {P : List α → α → List α → Prop} (c : α) (rest : List α) :
    (∀ mid b post, c :: rest = mid ++ b :: post → P mid b post) ↔
      P [] c rest ∧ ∀ mid b post, rest = mid ++ b :: post → P (c :: mid) b post := by
  constructor
  · exact fun h => ⟨h [] c rest rfl, fun mid b post e => h (c :: mid) b post (by rw [e]; rfl)⟩
  · rintro ⟨h1, h2⟩ mid b post e
    cases mid with
    | nil => cases e; exact h1
    | cons m mid' => cases e; exact h2 mid' b post rfl

/-- SEQUENCE: the recursive form is the run rule -/
theorem runOk_true_iff (M : Module) (a : Slot) (l : List Slot) :
    runOk M true a l ↔
      ∀ mid b post, l = mid ++ b :: post → (∀ m ∈ mid, m.opt = true) → ¬ Clash M a.ex b.ex := by
  induction l with
  | nil => simp [runOk]
  | cons c rest ih =>
    rw [forall_split_cons, runOk, ih]
    simp only [List.not_mem_nil, false_implies, implies_true, true_implies, List.forall_mem_cons, Bool.true_and,
      Bool.not_eq_false', and_imp]
    exact and_congr_right fun _ =>
      ⟨fun h mid b post e hc => h hc mid b post e, fun h hc mid b post e => h mid b post e hc⟩

/-- the outer loop in split form, whatever the kind: every member that starts a run, against what follows it -/
theorem allOk_iff_split (M : Module) (isSeq : Bool) (ss : List Slot) :
    allOk M isSeq ss ↔
      ∀ pre a tail, ss = pre ++ a :: tail → (!isSeq || a.opt) = true → runOk M isSeq a tail := by
  induction ss with
  | nil => simp [allOk]
  | cons x rest ih => rw [forall_split_cons, allOk, ih]

theorem allOk_true_iff (M : Module) (ss : List Slot) : allOk M true ss ↔ runsDistinct M ss := by
  rw [allOk_iff_split]
  simp only [runOk_true_iff, Bool.not_true, Bool.false_or]
  exact ⟨fun h pre a mid b post e ha hm => h pre a _ e ha mid b post rfl hm,
    fun h pre a tail e ha mid b post e2 hm => h pre a mid b post (e2 ▸ e) ha hm⟩

theorem allOk_iff_tagsDistinct (M : Module) (k : CKind) (ss : List Slot) :
    allOk M (k == .sequence) ss ↔ tagsDistinct M k ss := by
  cases k
  · exact allOk_true_iff M ss
  · exact allOk_false_iff M ss
  · exact allOk_false_iff M ss

/-- `asn1f_check_constr_tags_distinct` on the members as the code has fixed them decides the X.680 rule
    on the members the standard speaks of -/
theorem checkDistinct_tagsDistinct {M : Module} {k : CKind} {r a : List Comp} {h : Bool} {ss : List Slot} {c : Bool}
    (hs : Asn1c.Impl.Fixer.comps M r h a = some ss) (hc : checkDistinct M (k == .sequence) ss = some c) :
    c = false ↔ tagsDistinct M k (Asn1c.Spec.Fix.comps M r h a) := by
  rw [checkDistinct_spec M _ ss c hc, allOk_rel (comps_rel hs), allOk_iff_tagsDistinct]

end Asn1c.Proofs.Fixer
