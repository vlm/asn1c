import Asn1cModel.Impl.ConstraintCheckDom
import Asn1cModel.Proofs.Bits
/-
  The generated constraint checkers and the skeleton walkers of `Impl.ConstraintCheck` against X.680
  (`Spec.ConstraintCheck`), on the guard domain of `Impl.ConstraintCheckDom`.  Each generated test denotes its
  X.680 predicate, a test that is not emitted being read as "holds" (`codeAccepts` for the text of
  `emit_range_comparison_code`, `getD true` for a part of a generated `if`, `genOk` for the whole of it): so the
  lemmas about the INTEGER, SIZE and string checkers are equations (`genInt_ok`, `genSize_ok`, `genStr_spec`),
  and where nothing is emitted the value satisfies the constraint, so that the checker the generated function
  falls back to has only the rest to decide (`str_chk_iff`).  The alphabet data extracted from the tree is
  compared with X.680, the scattered alphabets by evaluation over the 256 octets.  The walkers are one mutual
  induction over the type (`descr_iff`): what a walker calls for a component is a type-level checker under some
  name (`memberChk_descr`).
-/
namespace Asn1c.Proofs.ConstraintCheck
open Asn1c Asn1c.Spec.ConstraintCheck Asn1c.Impl.ConstraintCheck Asn1c.Generated.AlphabetTables

def loOK (lo : Option Int) (x : Int) : Bool := match lo with | none => true | some l => decide (l ≤ x)
def hiOK (hi : Option Int) (x : Int) : Bool := match hi with | none => true | some h => decide (x ≤ h)

theorem mem_eq (r : Range) (x : Int) : r.mem x = (loOK r.lo x && hiOK r.hi x) := rfl

/-- a bound is left out only where the natural range of the C variable implies it, and a bound that is printed
    is a written one -/
theorem ignoreLeft_spec (r : Range) {ns : Option Int} {x : Int} (hns : ∀ s, ns = some s → s ≤ x) :
    if ignoreLeft r ns then loOK r.lo x = true else ∃ l, r.lo = some l := by
  unfold ignoreLeft loOK
  cases r.lo <;> cases ns <;> simp
  -- both written: the bound `l` is left out where `l ≤ s`, and `s ≤ x`
  rename_i l s
  have : s ≤ x := hns s rfl
  omega

theorem ignoreRight_spec (r : Range) {ne : Option Int} {x : Int} (hne : ∀ e, ne = some e → x ≤ e) :
    if ignoreRight r ne then hiOK r.hi x = true else ∃ h, r.hi = some h := by
  unfold ignoreRight hiOK
  cases r.hi <;> cases ne <;> simp
  rename_i h e
  have : x ≤ e := hne e rfl
  omega

/-- one printed group decides membership in its range, for values inside the natural range of
    the C variable; a range that prints nothing contains every such value -/
theorem emitOne_spec (r : Range) (ns ne : Option Int) (x : Int)
    (hns : ∀ s, ns = some s → s ≤ x) (hne : ∀ e, ne = some e → x ≤ e) :
    ((emitOne r ns ne).map (·.eval x)).getD true = r.mem x := by
  rw [mem_eq]
  unfold emitOne
  have hlo := ignoreLeft_spec r hns
  have hhi := ignoreRight_spec r hne
  cases hil : ignoreLeft r ns <;> cases hir : ignoreRight r ne <;>
    simp only [hil, hir, Bool.false_eq_true, if_false, if_true] at hlo hhi
  · -- both bounds printed
    obtain ⟨l, hl⟩ := hlo
    obtain ⟨h, hh⟩ := hhi
    simp only [hl, hh, Option.getD, Bool.false_and, Bool.false_eq_true, if_false]
    by_cases heq : (l == h) = true
    · simp only [heq, if_true, Cmp.eval, loOK, hiOK]
      have : l = h := by simpa using heq
      subst this
      by_cases hx : x = l
      · subst hx; simp
      · simp [hx]; omega
    · simp only [heq, Cmp.eval, loOK, hiOK]
      simp
  · obtain ⟨l, hl⟩ := hlo
    simp [hl, Cmp.eval, loOK, hhi]
  · obtain ⟨h, hh⟩ := hhi
    simp [hh, Cmp.eval, hiOK, hlo]
  · simp [hlo, hhi]

/-- the generated `if` with an empty text means "no test" -/
def codeAccepts (code : Code) (x : Int) : Bool := code.isEmpty || code.eval x

theorem emitRange_cons (r : Range) (rs : Cons) (ns ne : Option Int) :
    emitRange (r :: rs) ns ne =
      (match emitOne r ns ne with | none => emitRange rs ns ne | some c => c :: emitRange rs ns ne) := by
  unfold emitRange
  simp only [List.filterMap_cons]
  cases emitOne r ns ne <;> rfl

/-- the emitted disjunction is the union of the ranges that print something: a range that prints nothing is
    left out of the `||` chain although it contains every value the variable can hold, hence `mixedFree` in `emitRange_spec` -/
theorem emitRange_eval (rs : Cons) (ns ne : Option Int) (x : Int)
    (hns : ∀ s, ns = some s → s ≤ x) (hne : ∀ e, ne = some e → x ≤ e) :
    (emitRange rs ns ne).eval x = rs.any fun r => (emitOne r ns ne).isSome && r.mem x := by
  simp only [emitRange, Code.eval, List.any_filterMap]
  congr 1
  funext r
  have := emitOne_spec r ns ne x hns hne
  cases h : emitOne r ns ne with
  | none => rfl
  | some c => simpa [h] using this

/-- **emit_range_comparison_code is correct** where none of several ranges is dropped (`mixedFree`): for a
    value inside the natural range of the C variable, the emitted condition (empty text = no test) holds iff
    the value lies in the union -/
theorem emitRange_spec (rs : Cons) (ns ne : Option Int) (x : Int)
    (hns : ∀ s, ns = some s → s ≤ x) (hne : ∀ e, ne = some e → x ≤ e)
    (hne0 : rs ≠ []) (hmix : mixedFree rs ns ne = true) :
    codeAccepts (emitRange rs ns ne) x = inCons rs x := by
  unfold codeAccepts
  rw [emitRange_eval rs ns ne x hns hne]
  simp only [mixedFree, Bool.or_eq_true, decide_eq_true_eq, List.all_eq_true] at hmix
  rcases hmix with hlen | hall
  · -- a single range: if it prints nothing it contains the value
    match rs, hne0, hlen with
    | [r], _, _ =>
      cases h : emitOne r ns ne with
      | none => simpa [emitRange, inCons, h] using emitOne_spec r ns ne x hns hne
      | some c => simp [emitRange, inCons, h]
    | _ :: _ :: _, _, h => simp at h
  · -- every range prints something
    have : (emitRange rs ns ne).isEmpty = false := by
      cases rs with
      | nil => exact absurd rfl hne0
      | cons r rs =>
        have := hall r (by simp)
        rw [emitRange_cons]
        cases h : emitOne r ns ne <;> simp [h] at this ⊢
    rw [this, Bool.false_or, inCons, Bool.eq_iff_iff]
    simp only [List.any_eq_true, Bool.and_eq_true]
    exact ⟨fun ⟨r, hr, _, hm⟩ => ⟨r, hr, hm⟩, fun ⟨r, hr, hm⟩ => ⟨r, hr, hall r hr, hm⟩⟩

/-- `unsigned long value` is never declared for an INTEGER held in a `long` -/
theorem sign_nonneg_repr (rs : Cons) (h : nativeLongSign rs ≥ 0) : fitsLong rs ≠ .long := by
  intro hf
  unfold nativeLongSign at h
  rw [hf] at h
  unfold fitsLong at hf
  -- the sign is ≥ 0 under the first test of `fitsLong`, which gives `.ulong`, or for `.wide`
  split at h
  · split at h
    · simp [*] at hf
    · simp at h
  · split at h
    · simp [*] at hf
    · simp at h
  · simp at h

/-- the emitter's vacuity tests drop only what holds anyway: the single range `MIN..MAX` of an INTEGER here, the
    single `0..MAX` or `MIN..MAX` of a SIZE in `keepSize_false_single` -/
theorem dropped_single (rs : Cons) (hd : dropped rs = true) (hne : rs ≠ []) (x : Int) :
    inCons rs x = true := by
  match rs, hne with
  | [r], _ =>
    simp [dropped, overallLo, overallHi] at hd
    simp [inCons, Range.mem, hd.1, hd.2]
  | _ :: _ :: _, _ => simp [dropped] at hd

theorem readInt_ok (r : IntRepr) (u : Bool) (i : Int) (h : reprOK r u i = true) : readInt r u i = some i := by
  cases r with
  | wide => cases u <;> simp [reprOK, readInt] at h ⊢ <;> omega
  | _ => rfl

theorem intNs_le (rs : Cons) (i : Int) (h : reprOK (fitsLong rs) (decide (nativeLongSign rs ≥ 0)) i = true) :
    ∀ s, intNs rs = some s → s ≤ i := by
  intro s hs
  unfold intNs at hs
  split at hs
  · rename_i hsg
    cases hs
    have hnl : fitsLong rs ≠ .long := sign_nonneg_repr rs hsg
    cases hf : fitsLong rs <;> simp [hf, hsg, reprOK] at h hnl ⊢ <;> omega
  · cases hs

/-- a generated test that does not reject: it passes, or nothing was emitted -/
def genOk : Gen → Bool
  | .fail _ => false
  | _ => true

theorem ofGen_walk_iff (nm : String) (w : Verdict) (g : Gen) :
    ofGen nm w w g = .ok ↔ genOk g = true ∧ w = .ok := by
  cases g <;> simp [ofGen, genOk]

/-- the generated INTEGER checker on its domain: the test is there iff `intTests`, it fails with "constraint failed"
    only, and where nothing is tested the constraint holds anyway -/
theorem genInt_spec (rs : Cons) (i : Int) (hd : intDom rs i = true) :
    genInt rs i = (if intTests rs then (if inCons rs i then Gen.pass else Gen.fail .constraintFailed) else Gen.noTest)
    ∧ (intTests rs = false → inCons rs i = true) := by
  unfold intDom at hd
  simp only [Bool.and_eq_true, Bool.not_eq_true'] at hd
  obtain ⟨⟨⟨hne, hrep⟩, hmix⟩, _⟩ := hd
  have hne0 : rs ≠ [] := by intro h; simp [h] at hne
  have hspec := emitRange_spec rs (intNs rs) none i (intNs_le rs i hrep) (by intro e h; cases h) hne0 hmix
  unfold codeAccepts at hspec
  unfold genInt intTests
  cases hdr : dropped rs
  · rw [show (decide (rs.length ≤ 1) && (overallLo rs).isNone && (overallHi rs).isNone) = false from hdr]
    simp only [Bool.false_eq_true, if_false, readInt_ok _ _ i hrep, Bool.not_false, Bool.true_and]
    show (if (emitRange rs (intNs rs) none).isEmpty = true then Gen.noTest
      else if (emitRange rs (intNs rs) none).eval i = true then .pass else .fail .constraintFailed) = _ ∧ _
    rw [← hspec]
    generalize emitRange rs (intNs rs) none = code
    cases code.isEmpty <;> simp
  · rw [show (decide (rs.length ≤ 1) && (overallLo rs).isNone && (overallHi rs).isNone) = true from hdr]
    exact ⟨by simp, fun _ => dropped_single rs hdr hne0 i⟩

theorem genInt_ok (rs : Cons) (i : Int) (hd : intDom rs i = true) : genOk (genInt rs i) = inCons rs i := by
  obtain ⟨h1, h2⟩ := genInt_spec rs i hd
  rw [h1]
  cases ht : intTests rs
  · exact (h2 ht).symm
  · cases inCons rs i <;> rfl

theorem keepSize_false_single (rs : Cons) (hk : keepSize rs = false) (hne : rs ≠ []) (n : Nat) :
    inCons rs (n : Int) = true := by
  match rs, hne with
  | [r], _ =>
    simp [keepSize, overallLo, overallHi] at hk
    obtain ⟨hlo, hhi⟩ := hk
    simp [inCons, Range.mem, hhi]
    by_cases h : r.lo = some 0
    · simp [h]
    · simp [hlo h]
  | _ :: _ :: _, _ => simp [keepSize] at hk

theorem sizeTest_spec (rs : Cons) (n : Nat) (hd : sizeDom rs = true) :
    (sizeTest rs n).getD true = inCons rs (n : Int) := by
  unfold sizeDom at hd
  simp only [Bool.and_eq_true, Bool.not_eq_true'] at hd
  obtain ⟨⟨⟨hne, hmix⟩, _⟩, _⟩ := hd
  rw [← emitRange_spec rs (some 0) none n (by intro s h; cases h; omega) (by intro e h; cases h)
    (by intro h; simp [h] at hne) hmix]
  unfold sizeTest codeAccepts
  cases h : (emitRange rs (some 0) none).isEmpty <;> simp [h]

/-- the size part of a generated checker: `none` = no test emitted -/
def sizePart (size : Option Cons) (n : Nat) : Option Bool :=
  match keptSize size with
  | some rs => sizeTest rs n
  | none => none

theorem sizePart_spec (size : Option Cons) (n : Nat) (hd : sizeOptDom size = true) :
    (sizePart size n).getD true = inOpt size (n : Int) := by
  cases size with
  | none => rfl
  | some rs =>
    unfold sizePart keptSize
    cases hk : keepSize rs <;> simp only [hk, Bool.false_eq_true, if_false, if_true]
    · exact (keepSize_false_single rs hk (by intro h; simp [h, sizeOptDom, sizeDom] at hd) n).symm
    · exact sizeTest_spec rs n hd

/-- the size part of a generated SEQUENCE OF / SET OF checker on its domain, as `genInt_spec` -/
theorem genSize_spec (rs : Cons) (n : Nat) (hd : sizeDom rs = true) :
    genSize rs n = (if sizeTests rs then (if inCons rs (n : Int) then Gen.pass else Gen.fail .constraintFailed) else Gen.noTest)
    ∧ (sizeTests rs = false → inCons rs (n : Int) = true) := by
  have hst := sizeTest_spec rs n hd
  unfold genSize sizeTests
  cases hk : keepSize rs
  · exact ⟨rfl, fun _ => keepSize_false_single rs hk (by intro h; simp [h, sizeDom] at hd) n⟩
  · rw [← hst]
    unfold sizeTest
    generalize emitRange rs (some 0) none = code
    cases code with
    | nil => simp
    | cons c cs => cases h : Code.eval (c :: cs) (n : Int) <;> simp [h]

theorem genSize_ok (rs : Cons) (n : Nat) (hd : sizeDom rs = true) : genOk (genSize rs n) = inCons rs (n : Int) := by
  obtain ⟨h1, h2⟩ := genSize_spec rs n hd
  rw [h1]
  cases ht : sizeTests rs
  · exact (h2 ht).symm
  · cases inCons rs (n : Int) <;> rfl

theorem inCons_le_overallHi (rs : Cons) (x h : Int) (hin : inCons rs x = true) (hh : overallHi rs = some h) : x ≤ h := by
  fun_induction overallHi rs generalizing h with
  | case1 => simp [inCons] at hin
  | case2 r =>
    simp [inCons, Range.mem, hh] at hin
    exact hin.2
  | case3 r rs _ a b ho hr ih =>
    cases hh
    simp only [inCons, List.any_cons, Bool.or_eq_true] at hin
    rcases hin with h1 | h2
    · simp [Range.mem, hr] at h1; omega
    · have : x ≤ b := ih b h2 ho; omega
  | case4 => cases hh

/-- the FROM ranges for which the emitted per-character test is right: asn1c_emit_constraint_tables passes over
    an empty constraint and asserts `fin` (`range->right.type == ARE_VALUE`), `mix` holds of the disjoint unions
    asn1fix_crange produces -/
structure RangesOK (k : StrKind) (rs : Cons) : Prop where
  ne : rs ≠ []
  fin : (overallHi rs).isSome = true
  mix : mixedFree rs (some 0) (some (naturalStop k)) = true

/-- the guard on a written FROM: ranges the loop handles, and within the alphabet of the type on the values the loop
    variable can take (a guard for the 8-bit types; the others have every cell) -/
theorem alphaDom_parts {k : StrKind} {rs : Cons} (h : alphaDom k rs = true) :
    RangesOK k rs ∧
    ∀ c : Nat, (c : Int) ≤ naturalStop k → inCons rs (c : Int) = true → builtinChar k c = true := by
  unfold alphaDom at h
  simp only [Bool.and_eq_true, Bool.or_eq_true, Bool.not_eq_true', List.all_eq_true, List.mem_range] at h
  obtain ⟨⟨⟨hne, hfin⟩, hmix⟩, hsub⟩ := h
  refine ⟨⟨by intro h; simp [h] at hne, hfin, hmix⟩, fun c hc hin => ?_⟩
  cases h8 : is8bit k with
  | false => cases k <;> cases h8 <;> rfl
  | true =>
    have hc' : (c : Int) ≤ 255 := by cases k <;> cases h8 <;> exact hc
    rcases hsub.resolve_left (by simp [h8]) c (by omega) with h | h
    · rw [hin] at h; cases h
    · exact h

/-- a table is emitted only for ranges that end within its 256 (UTF8String: 128) entries -/
theorem useTable_bound {k : StrKind} {rs : Cons} (ht : useTable k rs = true) (hfin : (overallHi rs).isSome = true)
    {x : Int} (hin : inCons rs x = true) : x ≤ 255 ∧ (k = .utf8 → x < 128) := by
  cases ho : overallHi rs with
  | none => simp [ho] at hfin
  | some h =>
    have hxh : x ≤ h := inCons_le_overallHi rs x h hin ho
    simp only [useTable, ho, Option.getD, Bool.and_eq_true, Bool.or_eq_true, decide_eq_true_eq, bne_iff_ne, ne_eq] at ht
    -- the two tests of `useTable` on the upper edge `h`
    have h255 : h ≤ 255 := ht.1.2
    exact ⟨by omega, fun hk => by have : h < 128 := ht.2.resolve_left (not_not_intro hk); omega⟩

theorem charOK_spec (k : StrKind) (rs : Cons) (cv : Nat) (hrs : RangesOK k rs) (hcv : (cv : Int) ≤ naturalStop k) :
    charOK k rs cv = inCons rs (cv : Int) := by
  unfold charOK
  by_cases ht : useTable k rs = true
  · simp only [ht, if_true]
    by_cases hbig : cv > 255
    · -- the table covers 0..255 only because no range reaches beyond 255
      cases hin : inCons rs (cv : Int) with
      | false => simp [hbig]
      | true => have : (cv : Int) ≤ 255 := (useTable_bound ht hrs.fin hin).1; omega
    · simp [hbig]
  · have ht' : useTable k rs = false := by simpa using ht
    simp only [ht', Bool.false_eq_true, if_false]
    exact emitRange_spec rs (some 0) (some (naturalStop k)) cv (by intro s h; cases h; omega)
      (by intro e h; cases h; exact hcv) hrs.ne hrs.mix

theorem loopChars_one : ∀ (fuel : Nat) (bs : List Nat), bs.length ≤ fuel → loopChars 1 fuel bs = bs
  | _, [], _ => by simp [loopChars]
  | 0, _ :: _, h => by simp at h
  | n + 1, b :: bs, h => by simp [loopChars, ofBE, loopChars_one n bs (by simp at h; omega)]

/-- the loop of the generated alphabet check goes over the characters X.680 speaks of: whole groups of `w`
    octets, `bs.length / w` of them, and the value has characters at all iff no octets are left over -/
theorem loopChars_spec (w : Nat) (hw : 0 < w) (fuel : Nat) (bs : List Nat) (h : bs.length ≤ fuel) :
    groupsBE w fuel bs = (if bs.length % w = 0 then some (loopChars w fuel bs) else none) ∧
    (loopChars w fuel bs).length = bs.length / w := by
  fun_induction loopChars w fuel bs with
  | case1 => simp [groupsBE]
  | case2 _ hne => exact absurd (List.eq_nil_of_length_eq_zero (Nat.le_zero.1 h)) hne
  | case3 n l hne hc =>
    have hlt : l.length < w := by simpa [Nat.ne_of_gt hw] using hc
    have hpos : 0 < l.length := List.length_pos_iff.2 hne
    simp [groupsBE.eq_3 _ _ _ hne, hc, Nat.mod_eq_of_lt hlt, Nat.div_eq_of_lt hlt]
    omega
  | case4 n l hne hc ih =>
    have hlt : w ≤ l.length := by simpa [Nat.ne_of_gt hw] using hc
    have hd : (l.drop w).length = l.length - w := List.length_drop
    obtain ⟨ih1, ih2⟩ := ih (by omega)
    -- one group read: `l.length - w` octets remain, with the same remainder and one group fewer
    rw [groupsBE.eq_3 _ _ _ hne, if_neg hc, Nat.mod_eq_sub_mod hlt, Nat.div_eq_sub_div hw hlt, ← hd,
      List.length_cons, ih2, ih1]
    split <;> exact ⟨rfl, rfl⟩

theorem groupsBE_eq (w : Nat) (hw : 0 < w) (bs : List Nat) :
    groupsBE w bs.length bs = if bs.length % w = 0 then some (loopChars w bs.length bs) else none :=
  (loopChars_spec w hw _ bs (Nat.le_refl _)).1

theorem groupsBE_one (bs : List Nat) : groupsBE 1 bs.length bs = some bs := by
  rw [groupsBE_eq 1 (by omega) bs, loopChars_one _ _ (Nat.le_refl _), if_pos (Nat.mod_one _)]

theorem loopChars_bound (w : Nat) (fuel : Nat) (bs : List Nat) (h : ∀ b ∈ bs, b < 256) :
    ∀ c ∈ loopChars w fuel bs, c < 256 ^ w := by
  fun_induction loopChars w fuel bs with
  | case1 | case2 | case3 => simp
  | case4 fuel bs _ _ ih =>
    intro c hc
    simp only [List.mem_cons] at hc
    rcases hc with rfl | hc
    · have h2 : (bs.take w).length ≤ w := by simp [List.length_take]; omega
      exact Nat.lt_of_lt_of_le (Integer.ofBE_lt _ fun x hx => h x (List.mem_of_mem_take hx))
        (Nat.pow_le_pow_right (by omega) h2)
    · exact ih (fun x hx => h x (List.mem_of_mem_drop hx)) c hc

/-- reading one entry of a table that has been compared as a whole, in one pass, with a predicate
    tabulated over `0..n-1` -/
theorem getD_of_map_eq {α : Type} {t : List α} {f : α → Bool} {p : Nat → Bool} {n : Nat}
    (h : t.map f = (List.range n).map p) (d : α) {c : Nat} (hc : c < n) : f (t.getD c d) = p c := by
  have hc' := congrArg (·[c]?) h
  simp only [List.getElem?_map, List.getElem?_range hc, Option.map_some] at hc'
  cases ht : t[c]? with
  | none => simp [ht] at hc'
  | some a => simpa [List.getD_eq_getElem?_getD, ht] using hc'

theorem printable_table : printableTable.map (· != 0) = (List.range 256).map printableChars := by
  decide +kernel

theorem printable_lookup (c : Nat) (hc : c < 256) : (printableTable.getD c 0 != 0) = printableChars c :=
  getD_of_map_eq printable_table 0 hc

theorem numeric_lookup : ∀ c, c < 256 → numericCases.contains c = numericChars c := by
  decide +kernel

/- VisibleString and IA5String are one range each: the tests and the default alphabets are compared with the
   X.680 alphabets by an argument, for every `c`; only the scattered alphabets are gone through octet by octet -/

theorem visible_test (c : Nat) : (!(decide (c < visibleLo) || decide (c > visibleHi))) = visibleChars c := by
  show (!(decide (c < 32) || decide (c > 126))) = (decide (32 ≤ c) && decide (c ≤ 126))
  simp only [Bool.not_or, ← decide_not, Nat.not_lt, gt_iff_lt]

theorem ia5_test (c : Nat) : (!(decide (c > ia5Hi))) = ia5Chars c := by
  rw [Bool.eq_iff_iff]; simp [ia5Hi, ia5Chars]

/-- a table of ranges of naturals, asked about a natural: no integer arithmetic is needed -/
theorem inCons_toCons (rs : List (Nat × Nat)) (c : Nat) :
    inCons (toCons rs) (c : Int) = rs.any (fun p => decide (p.1 ≤ c) && decide (c ≤ p.2)) := by
  simp [inCons, toCons, List.any_map, Range.mem, Function.comp_def]

theorem default_printable : ∀ c : Nat, c < 256 → inCons (toCons compilerPrintable) (c : Int) = printableChars c := by
  simp only [inCons_toCons]
  decide +kernel

theorem default_numeric : ∀ c : Nat, c < 256 → inCons (toCons compilerNumeric) (c : Int) = numericChars c := by
  simp only [inCons_toCons]
  decide +kernel

theorem default_visible (c : Nat) : inCons (toCons compilerVisible) (c : Int) = visibleChars c := by
  simp [inCons_toCons, compilerVisible, visibleChars]

theorem default_ia5 (c : Nat) : inCons (toCons compilerIa5) (c : Int) = ia5Chars c := by
  simp [inCons_toCons, compilerIa5, ia5Chars]

theorem combine_ok (st al : Option Bool) : genOk (combine st al) = (st.getD true && al.getD true) := by
  have h : ∀ b : Bool, genOk (if b then .pass else .fail .constraintFailed) = b := by decide
  match st, al with
  | none, none => rfl
  | some _, none | none, some _ | some _, some _ => exact h _

/-- the generated `if` of a string checker as a conjunction of its SIZE part and its alphabet part (a part that is
    not emitted holds); a value without a size (ill-formed UTF-8) fails the size determination in front of a SIZE
    test, and meets the alphabet test alone where there is none -/
theorem genStr_ok (k : StrKind) (size alpha : Option Cons) (bs : List Nat) (u : Nat) :
    genOk (genStr k size alpha bs u) =
      match strSize k bs u with
      | some n => (sizePart size n).getD true && (alphaCheck k alpha (keptSize size).isSome bs).getD true
      | none => (keptSize size).isNone && (alphaCheck k alpha false bs).getD true := by
  unfold genStr sizePart
  cases keptSize size <;> cases strSize k bs u <;> simp only [combine_ok] <;> rfl

/-- generic assembly: the SIZE test decides `inOpt size n`, the alphabet test decides `B` -/
theorem genStr_of (k : StrKind) (size alpha : Option Cons) (bs : List Nat) (u n : Nat) (B : Bool)
    (hn : strSize k bs u = some n)
    (hsd : sizeOptDom size = true)
    (hsat : strSat k size alpha bs u = (inOpt size (n : Int) && B))
    (ha : (alphaCheck k alpha (keptSize size).isSome bs).getD true = B) :
    genOk (genStr k size alpha bs u) = strSat k size alpha bs u := by
  rw [genStr_ok, hn, hsat, ← sizePart_spec size n hsd, ← ha]

theorem strDom_parts {k : StrKind} {size alpha : Option Cons} {bs : List Nat} {u : Nat}
    (hd : strDom k size alpha bs u = true) :
    (∀ b ∈ bs, b < 256) ∧
    (k = .bit → u ≤ 7 ∧ (bs ≠ [] ∨ u = 0)) ∧
    (sizeOptDom size = true) ∧
    (∀ rs, alpha = some rs → k ≠ .octet ∧ k ≠ .bit ∧ (k = .utf8 → useTable .utf8 rs = true) ∧ alphaDom k rs = true) ∧
    (k = .utf8 → utf8Length bs.length bs = (utf8Decode bs.length bs).map List.length) := by
  unfold strDom at hd
  simp only [Bool.and_eq_true, Bool.or_eq_true, List.all_eq_true, decide_eq_true_eq, bne_iff_ne, ne_eq,
    Bool.not_eq_true', beq_iff_eq] at hd
  obtain ⟨⟨⟨⟨h1, h2⟩, h3⟩, h4⟩, h5⟩ := hd
  -- each guard has the form "not this kind, or …"
  refine ⟨h1, fun hk => ?_, h3, fun rs hrs => ?_, fun hk => ?_⟩
  · have h := h2.resolve_left (not_not_intro hk)
    exact ⟨h.1, h.2.imp_left (by simp)⟩
  · simp only [hrs, Bool.and_eq_true, Bool.or_eq_true, bne_iff_ne, ne_eq] at h4
    exact ⟨h4.1.1.1, h4.1.1.2, fun hk => h4.1.2.resolve_left (not_not_intro hk), h4.2⟩
  · simpa [utf8Agree] using h5.resolve_left (not_not_intro hk)

/-- FROM is not applicable to OCTET STRING / BIT STRING -/
theorem strDom_alpha_none {k : StrKind} {size alpha : Option Cons} {bs : List Nat} {u : Nat}
    (hd : strDom k size alpha bs u = true) (hk : k = .octet ∨ k = .bit) : alpha = none := by
  cases alpha with
  | none => rfl
  | some rs =>
    have := (strDom_parts hd).2.2.2.1 rs rfl
    rcases hk with rfl | rfl
    · exact absurd rfl this.1
    · exact absurd rfl this.2.1

theorem genStr_octet (size alpha : Option Cons) (bs : List Nat) (u : Nat)
    (hd : strDom .octet size alpha bs u = true) : genOk (genStr .octet size alpha bs u) = strSat .octet size alpha bs u := by
  obtain rfl := strDom_alpha_none hd (Or.inl rfl)
  apply genStr_of .octet size none bs u bs.length true rfl (strDom_parts hd).2.2.1
  · simp [strSat, strSatisfies, chars, builtinChar, inOpt]
  · rfl

theorem genStr_bit (size alpha : Option Cons) (bs : List Nat) (u : Nat)
    (hd : strDom .bit size alpha bs u = true) : genOk (genStr .bit size alpha bs u) = strSat .bit size alpha bs u := by
  obtain rfl := strDom_alpha_none hd (Or.inr rfl)
  obtain ⟨_, hbit, hsd, _, _⟩ := strDom_parts hd
  obtain ⟨hu, hemp⟩ := hbit rfl
  apply genStr_of .bit size none bs u (bitLength bs u) true _ hsd
  · simp [strSat, hu, hemp]
  · rfl
  · unfold strSize bitLength
    have : u % 8 = u := Nat.mod_eq_of_lt (by omega)
    cases bs with
    | nil => simp
    | cons b bs => simp [this]

theorem all_congr_mem {α : Type} (l : List α) (f g : α → Bool) (h : ∀ a ∈ l, f a = g a) :
    l.all f = l.all g := by
  induction l with
  | nil => rfl
  | cons a l ih =>
    simp only [List.all_cons]
    rw [h a (by simp), ih (fun x hx => h x (by simp [hx]))]

/-- the compiler's default alphabet of a character string type (UTF8String apart): the loop handles its
    ranges, and on the values the loop variable can take it is the built-in alphabet of the type -/
theorem default_ok : ∀ (k : StrKind) (rs0 : Cons), k ≠ .utf8 → defaultAlphabet k = some rs0 →
    RangesOK k rs0 ∧ ∀ c : Nat, (c : Int) ≤ naturalStop k → inCons rs0 (c : Int) = builtinChar k c
  | .printable, _, _, rfl => ⟨⟨by decide +kernel, by decide +kernel, by decide +kernel⟩,
      fun c hc => default_printable c (by have : (c : Int) ≤ 255 := hc; omega)⟩
  | .numeric, _, _, rfl => ⟨⟨by decide +kernel, by decide +kernel, by decide +kernel⟩,
      fun c hc => default_numeric c (by have : (c : Int) ≤ 255 := hc; omega)⟩
  | .visible, _, _, rfl => ⟨⟨by decide +kernel, by decide +kernel, by decide +kernel⟩, fun c _ => default_visible c⟩
  | .ia5, _, _, rfl => ⟨⟨by decide +kernel, by decide +kernel, by decide +kernel⟩, fun c _ => default_ia5 c⟩
  | .bmp, _, _, rfl => ⟨⟨by decide +kernel, by decide +kernel, by decide +kernel⟩, fun c hc => by
      have : (c : Int) ≤ 65535 := hc
      simp [inCons_toCons, compilerBmp, builtinChar]; omega⟩
  | .universal, _, _, rfl => ⟨⟨by decide +kernel, by decide +kernel, by decide +kernel⟩, fun c hc => by
      have : (c : Int) ≤ 4294967295 := hc
      simp [inCons_toCons, compilerUniversal, builtinChar]; omega⟩
  | .utf8, _, h, _ => absurd rfl h

/-- the ranges the alphabet loop of a character string type tests against (UTF8String apart): the written FROM, else
    the compiler's default alphabet.  The emitted per-character test is right for them, and on the values of the loop
    variable they are the built-in alphabet of the type cut down by FROM -/
theorem alphaRanges_ok {k : StrKind} (hk : k ≠ .utf8) {rs0 : Cons} (hdef : defaultAlphabet k = some rs0)
    (alpha : Option Cons) (hal : ∀ rs, alpha = some rs → alphaDom k rs = true) :
    ∃ rs, alphaRanges k alpha = some rs ∧ RangesOK k rs ∧
      ∀ c : Nat, (c : Int) ≤ naturalStop k → inCons rs (c : Int) = (builtinChar k c && inOpt alpha (c : Int)) := by
  cases alpha with
  | none =>
    obtain ⟨hrs, hmem⟩ := default_ok k rs0 hk hdef
    exact ⟨rs0, hdef, hrs, fun c hc => by simp [hmem c hc, inOpt]⟩
  | some rs =>
    obtain ⟨hrs, hsub⟩ := alphaDom_parts (hal rs rfl)
    refine ⟨rs, rfl, hrs, fun c hc => ?_⟩
    cases hin : inCons rs (c : Int) with
    | false => simp [inOpt, hin]
    | true => simp [inOpt, hin, hsub c hc hin]

/-- the character string types of `w` octets per character: the 8-bit types (`w = 1`), BMPString
    (2), UniversalString (4) -/
theorem genStr_fixed (k : StrKind) (w : Nat) (hw0 : 0 < w) (hw : charWidth k = w)
    (hstop : naturalStop k = (256 ^ w : Nat) - 1) (hk : k ≠ .utf8) (rs0 : Cons) (hdef : defaultAlphabet k = some rs0)
    (hchars : ∀ bs, chars k bs = groupsBE w bs.length bs)
    (hsz : ∀ bs u, strSize k bs u = some (bs.length / w))
    (hac : ∀ alpha g bs, alphaCheck k alpha g bs = (alphaRanges k alpha).map fun rs => alphaFixed k rs bs)
    (hbit : (k == .bit) = false)
    (size alpha : Option Cons) (bs : List Nat) (u : Nat)
    (hd : strDom k size alpha bs u = true) : genOk (genStr k size alpha bs u) = strSat k size alpha bs u := by
  obtain ⟨hb, _, hsd, hal, _⟩ := strDom_parts hd
  let cs := loopChars w bs.length bs
  let B := decide (bs.length % w = 0) && cs.all (fun c => builtinChar k c && inOpt alpha (c : Int))
  have hlen : cs.length = bs.length / w := (loopChars_spec w hw0 _ bs (Nat.le_refl _)).2
  have hbound : ∀ c ∈ cs, (c : Int) ≤ naturalStop k := by
    intro c hc
    have h1 : c < 256 ^ w := loopChars_bound w bs.length bs hb c hc
    rw [hstop]
    have : 0 < 256 ^ w := Nat.pow_pos (by omega)
    omega
  apply genStr_of k size alpha bs u (bs.length / w) B (hsz bs u) hsd
  · simp only [strSat, hbit, Bool.false_eq_true, if_false, strSatisfies, hchars,
      groupsBE_eq w hw0 bs]
    by_cases hm : bs.length % w = 0
    · simp only [hm, if_true, B, decide_true, Bool.true_and]
      rw [hlen]
    · simp [hm, B]
  · obtain ⟨rs, hr, hrs, hmem⟩ := alphaRanges_ok hk hdef alpha (fun rs h => (hal rs h).2.2.2)
    rw [hac, hr]
    simp only [Option.map, Option.getD, alphaFixed, hw, B]
    congr 1
    apply all_congr_mem
    intro c hc
    rw [charOK_spec k rs c hrs (hbound c hc), hmem c (hbound c hc)]

/-- UTF-8 and the 7-bit characters: a code point below 128 is encoded as itself, every other well-formed
    sequence denotes a code point ≥ 128 -/
theorem utf8Step_ge (l : List Nat) (cp : Nat) (rest : List Nat) :
    utf8Step l = some (cp, rest) → 128 ≤ cp ∨ l = cp :: rest := by
  fun_cases utf8Step l <;> intro h <;> simp only [Option.some.injEq, Prod.mk.injEq, reduceCtorEq] at h
  case case2 => exact Or.inr (by rw [h.1, h.2])
  case case3 _ hb _ _ _ =>
    simp only [Bool.and_eq_true, decide_eq_true_eq] at hb
    omega
  case case6 hc | case9 hc =>
    -- the lower bound 2048 (next: 65536) on the code point is part of the tested condition
    simp only [Bool.and_eq_true, decide_eq_true_eq] at hc
    omega

/-- octets below 128 decode to themselves … -/
theorem utf8Decode_ascii (fuel : Nat) (bs : List Nat) (hf : bs.length ≤ fuel) (h : ∀ b ∈ bs, b < 128) :
    utf8Decode fuel bs = some bs := by
  induction fuel generalizing bs with
  | zero => cases bs with
    | nil => simp [utf8Decode]
    | cons b bs => simp at hf
  | succ n ih =>
    cases bs with
    | nil => simp [utf8Decode]
    | cons b bs =>
      have hb : b < 128 := h b (by simp)
      simp only [List.length_cons] at hf
      simp [utf8Decode, utf8Step, hb, ih bs (by omega) (fun x hx => h x (by simp [hx]))]

/-- … and nothing else decodes to code points below 128 -/
theorem utf8Decode_all_ascii (fuel : Nat) (bs cs : List Nat) (hd : utf8Decode fuel bs = some cs)
    (h : ∀ c ∈ cs, c < 128) : bs = cs := by
  fun_induction utf8Decode fuel bs generalizing cs with
  | case1 => exact Option.some.inj hd
  | case2 | case3 => cases hd
  | case4 fuel l hne cp rest hs ih =>
    obtain ⟨cs', hr, rfl⟩ := Option.map_eq_some_iff.1 hd
    rw [(utf8Step_ge _ _ _ hs).resolve_left (Nat.not_le.2 (h cp (by simp))), ih cs' hr fun c hc => h c (by simp [hc])]

/-- a FROM within 0..127 on UTF8String, tested octet by octet through the 128-entry table: the
    test holds iff the octets decode and every code point is permitted -/
theorem utf8_table_spec (rs : Cons) (hlt : ∀ x : Nat, inCons rs (x : Int) = true → x < 128) (bs : List Nat) :
    (bs.all fun cv => !(decide (cv ≥ 128)) && inCons rs (cv : Int)) =
      (match utf8Decode bs.length bs with
       | none => false
       | some cs => cs.all fun c => inCons rs (c : Int)) := by
  by_cases ha : ∀ b ∈ bs, b < 128
  · -- 7-bit octets are their own code points
    rw [utf8Decode_ascii _ bs (Nat.le_refl _) ha]
    exact all_congr_mem bs _ _ fun b hb => by simp [Nat.not_le.2 (ha b hb)]
  · -- an octet ≥ 128 fails the table test; what the octets decode to, if anything, is not all below 128, so not all permitted
    rw [show (bs.all fun cv => !(decide (cv ≥ 128)) && inCons rs (cv : Int)) = false from
      Bool.eq_false_iff.2 fun h => ha fun b hb => by have := List.all_eq_true.1 h b hb; simp at this; omega]
    cases hdec : utf8Decode bs.length bs with
    | none => rfl
    | some cs =>
      refine (Bool.eq_false_iff.2 fun h => ?_).symm
      have hc : ∀ c ∈ cs, c < 128 := fun c hc => hlt c (List.all_eq_true.1 h c hc)
      exact ha (utf8Decode_all_ascii _ bs cs hdec hc ▸ hc)

/-- the emitted alphabet test of a UTF8String (`g`: a SIZE test has determined the length already): for the full
    alphabet the well-formedness test of UTF8String_length, and only where `g` is false; for a FROM within 0..127
    the 128-entry table, octet by octet -/
theorem alphaCheck_utf8_none (g : Bool) (bs : List Nat) :
    alphaCheck .utf8 none g bs = if g then none else some (utf8Length bs.length bs).isSome := by
  simp [alphaCheck, alphaRanges, defaultAlphabet, useTable, overallHi]

theorem alphaCheck_utf8_some (rs : Cons) (g : Bool) (bs : List Nat) (ht : useTable .utf8 rs = true) :
    alphaCheck .utf8 (some rs) g bs = some (bs.all fun cv => !(decide (cv ≥ 128)) && inCons rs (cv : Int)) := by
  simp [alphaCheck, alphaRanges, ht]

/-- either way: the octets decode and every code point is permitted, except that after a SIZE test nothing is
    emitted for the full alphabet -/
theorem alphaCheck_utf8 (alpha : Option Cons) (g : Bool) (bs : List Nat)
    (hal : ∀ rs, alpha = some rs → useTable .utf8 rs = true ∧ (overallHi rs).isSome = true)
    (hag : utf8Length bs.length bs = (utf8Decode bs.length bs).map List.length) :
    (alphaCheck .utf8 alpha g bs).getD true =
      match utf8Decode bs.length bs with
      | none => g && alpha.isNone
      | some cs => cs.all fun c => inOpt alpha (c : Int) := by
  cases alpha with
  | none =>
    rw [alphaCheck_utf8_none, hag]
    cases g <;> cases utf8Decode bs.length bs <;> simp [inOpt]
  | some rs =>
    obtain ⟨ht, hfin⟩ := hal rs rfl
    rw [alphaCheck_utf8_some rs g bs ht, Option.getD_some, utf8_table_spec rs
      (fun x hin => by have : (x : Int) < 128 := (useTable_bound ht hfin hin).2 rfl; omega) bs]
    cases utf8Decode bs.length bs <;> simp [inOpt]

theorem genStr_utf8 (size alpha : Option Cons) (bs : List Nat) (u : Nat)
    (hd : strDom .utf8 size alpha bs u = true) : genOk (genStr .utf8 size alpha bs u) = strSat .utf8 size alpha bs u := by
  obtain ⟨_, _, hsd, hal, hagree⟩ := strDom_parts hd
  have hac := fun g => alphaCheck_utf8 alpha g bs
    (fun rs hrs => ⟨(hal rs hrs).2.2.1 rfl, (alphaDom_parts (hal rs hrs).2.2.2).1.fin⟩) (hagree rfl)
  cases hdec : utf8Decode bs.length bs with
  | none =>
    -- ill-formed octets: rejected by whichever test is emitted
    rw [genStr_ok, show strSize .utf8 bs u = none by simp [strSize, hagree rfl, hdec], hac false, hdec]
    simp [strSat, strSatisfies, chars, hdec]
  | some cs =>
    apply genStr_of .utf8 size alpha bs u cs.length (cs.all fun c => inOpt alpha (c : Int)) _ hsd
    · simp [strSat, strSatisfies, chars, hdec, builtinChar]
    · rw [hac, hdec]
    · simp [strSize, hagree rfl, hdec]

theorem genStr_spec (k : StrKind) (size alpha : Option Cons) (bs : List Nat) (u : Nat)
    (hd : strDom k size alpha bs u = true) : genOk (genStr k size alpha bs u) = strSat k size alpha bs u := by
  cases k with
  | octet => exact genStr_octet size alpha bs u hd
  | bit => exact genStr_bit size alpha bs u hd
  | utf8 => exact genStr_utf8 size alpha bs u hd
  | ia5 | visible | printable | numeric =>
    exact genStr_fixed _ 1 (by omega) rfl rfl (by decide) _ rfl (fun bs => by rw [groupsBE_one]; rfl)
      (fun bs u => by simp [strSize]) (fun _ _ _ => rfl) rfl size alpha bs u hd
  | bmp | universal =>
    exact genStr_fixed _ _ (by decide) rfl (by decide) (by decide) _ rfl (fun _ => rfl) (fun _ _ => rfl)
      (fun _ _ _ => rfl) rfl size alpha bs u hd

@[simp] theorem inOpt_none (x : Int) : inOpt none x = true := rfl

/-- the skeleton checker of an 8-bit restricted string type: a per-octet `test` that is the built-in
    alphabet on octets -/
theorem builtin8_spec (nm : String) (k : StrKind) (bs : List Nat) (test : Nat → Bool)
    (hb : ∀ b ∈ bs, b < 256) (htest : ∀ c, c < 256 → test c = builtinChar k c)
    (hchars : chars k bs = some bs) :
    (if bs.all test then Verdict.ok else .fail nm .alphabet) = .ok ↔ strSatisfies k none none bs = true := by
  rw [all_congr_mem bs test _ (fun c hc => htest c (hb c hc))]
  simp [strSatisfies, hchars]

/-- the skeleton checker of a string type decides the type as written without SIZE and FROM -/
theorem builtinStr_spec (k : StrKind) (nm : String) (size alpha : Option Cons) (bs : List Nat) (u : Nat)
    (hd : strDom k size alpha bs u = true) :
    builtinStr k nm bs u = .ok ↔ strSat k none none bs u = true := by
  obtain ⟨hb, hbit, _, _, hagree⟩ := strDom_parts hd
  cases k with
  | octet => simp [builtinStr, strSat, strSatisfies, chars, builtinChar]
  | bit =>
    obtain ⟨hu, hemp⟩ := hbit rfl
    simp [builtinStr, strSat, hu, hemp]
    exact fun he => hemp.resolve_left (not_not_intro he)
  | ia5 => exact builtin8_spec nm .ia5 bs _ hb (fun c _ => ia5_test c) rfl
  | visible => exact builtin8_spec nm .visible bs _ hb (fun c _ => visible_test c) rfl
  | printable => exact builtin8_spec nm .printable bs _ hb printable_lookup rfl
  | numeric => exact builtin8_spec nm .numeric bs _ hb numeric_lookup rfl
  | utf8 =>
    simp only [builtinStr, strSat, strSatisfies, chars, builtinChar, inOpt_none, hagree rfl]
    cases utf8Decode bs.length bs <;> simp
  | bmp =>
    simp only [builtinStr, strSat, strSatisfies, chars, builtinChar, inOpt_none, groupsBE_eq 2 (by omega) bs]
    by_cases hm : bs.length % 2 = 0 <;> simp [hm]
  | universal =>
    simp only [builtinStr, strSat, strSatisfies, chars, builtinChar, inOpt_none, groupsBE_eq 4 (by omega) bs]
    by_cases hm : bs.length % 4 = 0 <;> simp [hm]

theorem strSat_unconstrained {k : StrKind} {size alpha : Option Cons} {bs : List Nat} {u : Nat}
    (h : strSat k size alpha bs u = true) : strSat k none none bs u = true := by
  unfold strSat strSatisfies at *
  by_cases hk : (k == .bit) = true
  · rw [if_pos hk] at h ⊢
    simp only [Bool.and_eq_true] at h ⊢
    exact ⟨h.1, rfl⟩
  · rw [if_neg hk] at h ⊢
    cases hc : chars k bs with
    | none => simp [hc] at h
    | some cs =>
      simp only [hc, Bool.and_eq_true, List.all_eq_true] at h ⊢
      exact ⟨rfl, fun c hcm => ⟨(h.2 c hcm).1, rfl⟩⟩

/-- the checker built from the generated test with the skeleton checker (reporting as `nm`) as
    fall back -/
theorem str_chk_iff (nm : String) (k : StrKind) (size alpha : Option Cons) (bs : List Nat) (u : Nat)
    (hd : strDom k size alpha bs u = true) :
    (if size.isNone && alpha.isNone then builtinStr k nm bs u
     else ofGen nm (builtinStr k nm bs u) .ok (genStr k size alpha bs u)) = .ok
      ↔ strSat k size alpha bs u = true := by
  have hok := genStr_spec k size alpha bs u hd
  have hb := builtinStr_spec k nm size alpha bs u hd
  split
  · rename_i hnc
    simp only [Bool.and_eq_true, Option.isNone_iff_eq_none] at hnc
    obtain ⟨rfl, rfl⟩ := hnc
    exact hb
  · cases hg : genStr k size alpha bs u with
    | noTest =>
      -- nothing emitted: SIZE and FROM hold of this value, and the skeleton checker decides the rest
      have hs : strSat k size alpha bs u = true := by rw [← hok, hg]; rfl
      exact ⟨fun _ => hs, fun _ => hb.2 (strSat_unconstrained hs)⟩
    | _ => simp [← hok, hg, ofGen, genOk]

theorem firstFail_ok_iff (f : Val → Verdict) (p : Val → Bool) (vs : List Val)
    (h : ∀ v ∈ vs, (f v = .ok ↔ p v = true)) : (firstFail f vs = .ok ↔ vs.all p = true) := by
  fun_induction firstFail f vs with
  | case1 => simp
  | case2 v vs hv ih => simp [← h v (by simp), hv, ih (fun x hx => h x (by simp [hx]))]
  | case3 v vs hr => simpa [← h v (by simp)] using fun h => absurd h hr

/-- a component without constraints of its own has no member-level checker: the checker of its type is called -/
theorem memberSel_noOwn (id : String) (t : Ty) (v : Val) (occ : Verdict) (h : hasOwn t = false) :
    memberSel id t v occ = occ := by
  cases t with
  | int c => cases c <;> simp [hasOwn] at h <;> cases v <;> simp [memberSel]
  | str k size alpha =>
    cases size <;> cases alpha <;> simp [hasOwn] at h
    simp only [memberSel]
    cases strValue k v with
    | none => rfl
    | some p => simp
  | listOf s size elem => cases size <;> simp [hasOwn] at h <;> cases v <;> simp [memberSel]
  | _ => cases v <;> simp [memberSel]

/-- what a walker calls for a component (the member-level checker where there is one, with the checker of
    the component's type behind it) is a type-level checker of that type, reporting under some name: the
    two differ in nothing else -/
theorem memberChk_descr (id : String) (t : Ty) (v : Val) :
    ∃ nm, memberSel id t v (occChk id t v) = descrChk nm t v := by
  cases t with
  | named n t => exact ⟨n, rfl⟩
  | int c =>
    cases c with
    | none => exact ⟨id, by cases v <;> rfl⟩
    | some rs =>
      cases v with
      | int i =>
        -- an `unsigned long` component has a descriptor of its own, which runs the same test a second time
        refine ⟨inlineName id (.int (some rs)), ?_⟩
        simp only [memberSel, occChk, descrChk, inlineName]
        cases genInt rs i <;> cases (fitsLong rs == .ulong) <;> rfl
      | _ => exact ⟨id, rfl⟩
  | str k size alpha =>
    cases hp : strValue k v with
    | none => exact ⟨id, by simp only [memberSel, occChk, descrChk, hp]⟩
    | some p => exact ⟨skelName k, by simp only [memberSel, occChk, descrChk, hp]⟩
  | listOf s size elem => exact ⟨id, by cases size <;> cases v <;> rfl⟩
  | _ => exact ⟨id, by cases v <;> rfl⟩

theorem domMember_eq (t : Ty) (v : Val) : domMember t v = domDescr t v := by
  rw [domMember.eq_def, domDescr.eq_def]

/-- hence what is proved of the type-level checkers of `t` holds of a component of type `t` -/
theorem member_of_descr {t : Ty} {v : Val}
    (h : ∀ nm, domDescr t v = true → (descrChk nm t v = .ok ↔ satisfies t v = true))
    (id : String) (hd : domMember t v = true) :
    memberSel id t v (occChk id t v) = .ok ↔ satisfies t v = true := by
  obtain ⟨nm, he⟩ := memberChk_descr id t v
  rw [he]
  exact h nm (domMember_eq t v ▸ hd)

/-- SET_constraint is the loop of SEQUENCE_constraint -/
theorem walkSet_eq_walkSeq (nm : String) (fs : List (String × Val)) :
    ∀ ms : Members, walkSet nm ms fs = walkSeq nm ms fs
  | .nil => by simp [walkSet, walkSeq]
  | .cons id opt t rest => by simp [walkSet, walkSeq, walkSet_eq_walkSeq nm fs rest]

mutual
theorem descr_iff : ∀ (t : Ty) (nm : String) (v : Val), domDescr t v = true →
    (descrChk nm t v = .ok ↔ satisfies t v = true)
  | .named n t, nm, v, hd => by
      simpa [descrChk, satisfies] using descr_iff t nm v (by simpa [domDescr] using hd)
  | .bool, nm, v, _ | .null, nm, v, _ | .enumerated, nm, v, _ | .int none, nm, v, _ => by
      cases v <;> simp [descrChk, satisfies]
  | .int (some rs), nm, v, hd => by
      cases v with
      | int i => simp [descrChk, satisfies, inOpt, ofGen_walk_iff, genInt_ok rs i hd]
      | _ => simp [descrChk, satisfies]
  | .str k size alpha, nm, v, hd => by
      simp only [descrChk, satisfies, domDescr] at hd ⊢
      cases hp : strValue k v with
      | none => simp
      | some p => simp only [hp] at hd ⊢; exact str_chk_iff nm k size alpha p.1 p.2 hd
  | .seq ms, nm, v, hd | .set ms, nm, v, hd => by
      cases v with
      | struct fs => simpa [descrChk, satisfies, walkSet_eq_walkSeq] using seq_iff ms nm fs hd
      | _ => simp [descrChk, satisfies]
  | .choice ms, nm, v, hd => by
      cases v with
      | choice sel v => simpa [descrChk, satisfies] using alt_iff ms nm sel v hd
      | _ => simp [descrChk, satisfies]
  | .listOf s size elem, nm, v, hd => by
      cases v with
      | list vs =>
        simp only [domDescr, Bool.and_eq_true, List.all_eq_true] at hd
        have hwalk : firstFail (fun v => memberSel (elemId elem) elem v (occChk (elemId elem) elem v)) vs = .ok
            ↔ vs.all (fun v => satisfies elem v) = true :=
          firstFail_ok_iff _ _ vs fun v hv => member_of_descr (descr_iff elem · v) (elemId elem) (hd.2 v hv)
        simp only [satisfies, Bool.and_eq_true, ← hwalk]
        -- `<T>_constraint`: the generated SIZE test in front of the element walk
        cases size with
        | none => simp [descrChk, inOpt]
        | some rs => simp [descrChk, inOpt, ofGen_walk_iff, genSize_ok rs vs.length hd.1]
      | _ => simp [descrChk, satisfies]

theorem seq_iff : ∀ (ms : Members) (nm : String) (fs : List (String × Val)),
    domMembers ms fs = true →
    (walkSeq nm ms fs = .ok ↔ satisfiesMembers ms fs = true)
  | .nil, nm, fs, _ => by simp [walkSeq, satisfiesMembers]
  | .cons id opt t rest, nm, fs, hd => by
      simp only [domMembers, Bool.and_eq_true] at hd
      simp only [walkSeq, satisfiesMembers, Bool.and_eq_true, ← seq_iff rest nm fs hd.2]
      cases hl : lookupField id fs with
      | none => cases opt <;> simp
      | some v =>
        simp only [hl] at hd
        simp only [← member_of_descr (descr_iff t · v) id hd.1]
        cases memberSel id t v (occChk id t v) <;> simp

theorem alt_iff : ∀ (ms : Members) (nm : String) (sel : String) (v : Val), domAlt ms sel v = true →
    (walkAlt nm ms sel v = .ok ↔ satisfiesAlt ms sel v = true)
  | .nil, nm, sel, v, _ => by simp [walkAlt, satisfiesAlt]
  | .cons id opt t rest, nm, sel, v, hd => by
      simp only [walkAlt, satisfiesAlt, domAlt] at hd ⊢
      cases he : id == sel <;> simp only [he, if_true, Bool.false_eq_true, if_false] at hd ⊢
      · exact alt_iff rest nm sel v hd
      · exact member_of_descr (descr_iff t · v) id hd
end

theorem member_iff : ∀ (t : Ty) (id : String) (v : Val), domMember t v = true →
    (memberSel id t v (occChk id t v) = .ok ↔ satisfies t v = true)
  | t, id, v, hd => member_of_descr (descr_iff t · v) id hd

theorem set_iff : ∀ (ms : Members) (nm : String) (fs : List (String × Val)),
    domMembers ms fs = true →
    (walkSet nm ms fs = .ok ↔ satisfiesMembers ms fs = true)
  | ms, nm, fs, hd => by rw [walkSet_eq_walkSeq]; exact seq_iff ms nm fs hd

end Asn1c.Proofs.ConstraintCheck
