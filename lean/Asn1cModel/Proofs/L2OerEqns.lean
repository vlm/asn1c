import Asn1cModel.L2.Oer
/-
  The simplest defining equation of each function of the reference OER codec (`L2/Oer.lean`): BOOLEAN for `encOER`,
  NULL for `decOER`, the empty list of types for the list functions.  They stand upstream of the proofs because
  Lean derives a definition's equation lemmas when they are first asked for, and inside the module that asks first
  every proof pays for that again; asked here once, the modules downstream find them ready.
-/
namespace Asn1c.Proofs.L2Oer
open Asn1c Asn1c.L2 Asn1c.L2.Oer

theorem enc_boolean (b : Bool) : encOER .boolean (.bool b) = some [if b then 255 else 0] := by rw [encOER]

theorem dec_null (bs : Bytes) : decOER .null bs = .ok .null bs := by rw [decOER]

theorem encRoot_nil : encRoot [] [] [] = some ([], []) := by rw [encRoot]

theorem encAdds_nil : encAdds [] [] [] = some ([], []) := by rw [encAdds]

theorem encAlt_nil (i : Nat) (v : Val) : encAlt [] i v = none := by rw [encAlt]

theorem decRoot_nil (as : List Attr) (bits : Bits) (bs : Bytes) : decRoot [] as bits bs = .ok [] bs := by rw [decRoot]

theorem decAdds_nil_types (as : List Attr) (bits : Bits) (bs : Bytes) : decAdds [] as bits bs = .ok [] bs := by
  rw [decAdds]

theorem decAlt_nil (i nroot : Nat) (bs : Bytes) : decAlt [] i nroot bs = .fail := by rw [decAlt]

end Asn1c.Proofs.L2Oer
