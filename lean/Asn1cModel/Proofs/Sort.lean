import Asn1cModel.L2.Sort
/-
  Insertion sort by a Boolean order (`L2.insertBy`, `L2.sortBy`): the output is a permutation of the input and
  pairwise in any transitive relation the order decides, in particular in a total transitive order itself.  The
  sorts of the model whose output is proved sorted (`sortT2E` of the compiler, `sortIvs` of the constraint code) are
  proved equal to `sortBy` for their order and take these facts from here.
-/
namespace Asn1c.Proofs.Sort
open Asn1c.L2

variable {α : Type} (le : α → α → Bool)

theorem perm_insertBy (x : α) (l : List α) : (insertBy le x l).Perm (x :: l) := by
  fun_induction insertBy le x l with
  | case1 => exact List.Perm.refl _
  | case2 y ys h => exact List.Perm.refl _
  | case3 y ys h ih => exact (List.Perm.cons y ih).trans (List.Perm.swap x y ys)

theorem perm_sortBy (l : List α) : (sortBy le l).Perm l := by
  induction l with
  | nil => exact List.Perm.refl _
  | cons x xs ih => exact (perm_insertBy le x _).trans (List.Perm.cons x ih)

theorem mem_insertBy (x c : α) (l : List α) : c ∈ insertBy le x l ↔ c = x ∨ c ∈ l :=
  (perm_insertBy le x l).mem_iff.trans List.mem_cons

theorem mem_sortBy (c : α) (l : List α) : c ∈ sortBy le l ↔ c ∈ l := (perm_sortBy le l).mem_iff

/-- Sortedness is stated for a relation `R` that the order decides: `le a b` gives `R a b`, its failure gives
    `R b a`; `R` may be weaker than `le` (the range sort orders by a lexicographic key, its users need the first
    component only). -/
theorem pairwise_insertBy_of {R : α → α → Prop} (h1 : ∀ a b, le a b = true → R a b)
    (h2 : ∀ a b, le a b = false → R b a) (ht : ∀ a b c, R a b → R b c → R a c) (x : α) (l : List α)
    (h : l.Pairwise R) : (insertBy le x l).Pairwise R := by
  fun_induction insertBy le x l with
  | case1 => exact List.pairwise_singleton _ _
  | case2 y ys hxy =>
    have hy := (List.pairwise_cons.mp h).1
    exact List.pairwise_cons.mpr
      ⟨List.forall_mem_cons.mpr ⟨h1 _ _ hxy, fun z hz => ht _ _ _ (h1 _ _ hxy) (hy z hz)⟩, h⟩
  | case3 y ys hxy ih =>
    -- `x` goes further back: `y` stays in front, and `R y x` because `le x y` failed
    obtain ⟨hy, hys⟩ := List.pairwise_cons.mp h
    refine List.pairwise_cons.mpr ⟨fun z hz => ?_, ih hys⟩
    rcases (mem_insertBy le x z ys).mp hz with rfl | hz
    · exact h2 _ _ (by simpa using hxy)
    · exact hy z hz

theorem pairwise_sortBy_of {R : α → α → Prop} (h1 : ∀ a b, le a b = true → R a b)
    (h2 : ∀ a b, le a b = false → R b a) (ht : ∀ a b c, R a b → R b c → R a c) (l : List α) :
    (sortBy le l).Pairwise R := by
  induction l with
  | nil => exact List.Pairwise.nil
  | cons x xs ih => exact pairwise_insertBy_of le h1 h2 ht x _ ih

theorem pairwise_sortBy (htot : ∀ a b, le a b = true ∨ le b a = true)
    (htr : ∀ a b c, le a b = true → le b c = true → le a c = true) (l : List α) :
    (sortBy le l).Pairwise (fun a b => le a b = true) :=
  pairwise_sortBy_of le (fun _ _ h => h) (fun a b h => (htot a b).resolve_left (by simp [h])) htr l

end Asn1c.Proofs.Sort
