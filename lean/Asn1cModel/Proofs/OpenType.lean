import Asn1cModel.Impl.OpenType
import Asn1cModel.Spec.ObjectSet
import Asn1cModel.Proofs.Bits
/-
  Open types governed by an information object set (C18), in four parts.  The emitted selector is `List.find?` /
  `List.findIdx?` (`selectGo_eq`), read as "no row, or the first row with the identifier" (`select_cases`).  A getter of
  OPEN_TYPE.c is the selector, then `finish` on the row decoder's result (`otGet_of_select`); RC_OK of the XER getter is
  RC_OK of that skeleton (`xerGet_ok_otGet`).  The table of asn1fix_cws.c is the duplicate-free fold of the objects it
  keeps (`kept`, `buildTable_rows`, `mem_buildTable`).  Below 16384 octets the UPER open type field is one round of
  each loop of per_opentype.c (`openPut_short`, `openGet_openPut`).
-/
namespace Asn1c.Proofs.OpenType
open Asn1c Asn1c.Impl.OpenType Asn1c.Spec.ObjectSet
variable {ι : Type} [DecidableEq ι]

theorem selectGo_eq (id : ι) (tbl : Table ι) (k : Nat) :
    selectGo id tbl k = ⟨(tbl.find? (fun r => decide (r.id = id))).map (·.ty),
      match tbl.findIdx? (fun r => decide (r.id = id)) with | some i => i + 1 + k | none => 0⟩ := by
  fun_induction selectGo id tbl k with
  | case1 => rfl
  | case2 r rs k h => simp [h, List.findIdx?_cons, Nat.add_comm]
  | case3 r rs k h ih =>
    simp only [h, List.find?_cons, List.findIdx?_cons, decide_false, ih]
    cases rs.findIdx? (fun r => decide (r.id = id)) with
    | none => rfl
    | some i => exact congrArg _ (Nat.add_right_comm (i + 1) k 1)

theorem select_cases (tbl : Table ι) (id : ι) :
    (∀ r ∈ tbl, r.id ≠ id) ∧ select tbl id = ⟨none, 0⟩ ∨
    ∃ i r, tbl[i]? = some r ∧ r.id = id ∧ (∀ j r', j < i → tbl[j]? = some r' → r'.id ≠ id) ∧
      select tbl id = ⟨some r.ty, i + 1⟩ := by
  have h := selectGo_eq id tbl 0
  rw [List.find?_eq_bind_findIdx?_getElem?] at h
  cases hf : tbl.findIdx? (fun r => decide (r.id = id)) with
  | none =>
    rw [hf] at h
    exact .inl ⟨fun r hr => of_decide_eq_false (List.findIdx?_eq_none_iff.1 hf r hr), h⟩
  | some i =>
    obtain ⟨hi, hp, hfirst⟩ := List.findIdx?_eq_some_iff_getElem.1 hf
    rw [hf, Option.bind_some, List.getElem?_eq_getElem hi] at h
    refine .inr ⟨i, tbl[i], List.getElem?_eq_getElem hi, of_decide_eq_true hp, fun j r' hj hr' => ?_, h⟩
    obtain ⟨_, rfl⟩ := List.getElem?_eq_some_iff.1 hr'
    exact of_decide_eq_false (Bool.eq_false_iff.2 (hfirst j hj))

section getters
variable {α β : Type} {m : Member} {ber : Bool} {sel : Selected} {d : DecRes β}

theorem finish_eq_ok {ov : OpenVal β} {c : Nat} (hle : sel.presence ≤ m.nelems)
    (h : finish m ber sel d = .ok ov c) : d = .ok ov.val c ∧ ov.present = sel.presence := by
  revert h
  -- two branches of `finish` return RC_OK: the presence index in range, and (BER only) out of range
  fun_cases finish m ber sel d <;> intro h <;> cases h
  · exact ⟨rfl, rfl⟩
  · exact absurd hle ‹¬ sel.presence ≤ m.nelems›

theorem finish_eq_crash : finish m ber sel d = .crash ↔ d = .crash := by
  fun_cases finish m ber sel d <;> simp [*]

theorem otGet_of_select {tbl : Table ι} {id : ι} {ty p : Nat} {dec : Nat → α → DecRes β} {input : α}
    (hs : select tbl id = ⟨some ty, p⟩) (hp : p ≠ 0) :
    otGet tbl m ber dec id input = finish m ber ⟨some ty, p⟩ (dec ty input) := by
  unfold otGet
  rw [hs]
  exact if_neg hp

/-- What holds of every successful `otGet`, whatever its input, holds of a successful `OPEN_TYPE_xer_get`: the
    skeleton ran on some token list, which the statement does not name (those behind the member's opening tag). -/
theorem xerGet_ok_otGet {tbl : Table ι} {name : String} {dec : Nat → List XTok → DecRes β} {id : ι}
    {input : List XTok} {ov : OpenVal β} {c : Nat} (h : xerGet tbl m name dec id input = .ok ov c) :
    ∃ toks c', otGet tbl m false dec id toks = .ok ov c' := by
  revert h
  -- one branch of `xerGet` returns RC_OK; there presence ≠ 0, the type cell is `some ty` and `finish … = .ok ov c'`
  fun_cases xerGet tbl m name dec id input <;> intro h <;> cases h
  next hp _ hty _ toks _ _ c' _ _ hfin =>
  refine ⟨toks, c', (if_neg hp).trans ?_⟩
  rw [hty]
  exact hfin

end getters

theorem mem_addUnique (t : Table ι) (r x : Row ι) : x ∈ addUnique t r ↔ x ∈ t ∨ x = r := by
  fun_cases addUnique t r
  · next h => exact ⟨.inl, fun hx => hx.elim id (· ▸ h)⟩
  · exact List.mem_append.trans (or_congr_right List.mem_singleton)

theorem mem_foldl_addUnique (os : List (Row ι)) (t : Table ι) (x : Row ι) :
    x ∈ os.foldl addUnique t ↔ x ∈ t ∨ x ∈ os := by
  induction os generalizing t with
  | nil => simp
  | cons o os ih => rw [List.foldl_cons, ih, mem_addUnique, List.mem_cons, or_assoc]

theorem nodup_addUnique (t : Table ι) (r : Row ι) (h : t.Nodup) : (addUnique t r).Nodup := by
  fun_cases addUnique t r
  · exact h
  · next hn =>
    refine List.nodup_append.2 ⟨h, List.pairwise_singleton _ r, fun a ha b hb e => hn ?_⟩
    exact List.mem_singleton.1 hb ▸ e ▸ ha

theorem nodup_foldl_addUnique (os : List (Row ι)) (t : Table ι) (h : t.Nodup) :
    (os.foldl addUnique t).Nodup :=
  List.foldlRecOn os addUnique h fun t h o _ => nodup_addUnique t o h

/-- the objects of one comma-separated item that `_asn1f_foreach_unparsed` hands to
    `_asn1f_add_unique_row`: all of a union, none of a single object -/
def kept : SetItem ι → List (Row ι)
  | .union os => if os.length = 1 then [] else os
  | .ext => []

omit [DecidableEq ι] in
theorem mem_kept (it : SetItem ι) (x : Row ι) :
    x ∈ kept it ↔ ∃ os, it = .union os ∧ os.length ≠ 1 ∧ x ∈ os := by
  fun_cases kept it <;> simp [*]

theorem processItem_rows (b : Built ι) (it : SetItem ι) :
    (processItem b it).rows = (kept it).foldl addUnique b.rows := by
  match it with
  | .ext => rfl
  | .union [] => rfl
  | .union [_] => rfl
  | .union (_ :: _ :: _) => rfl

theorem buildTable_rows (items : List (SetItem ι)) :
    (buildTable items).rows = (items.flatMap kept).foldl addUnique [] := by
  rw [List.foldl_flatMap]
  exact (List.foldl_hom Built.rows fun b it => (processItem_rows b it).symm).symm

theorem mem_buildTable {items : List (SetItem ι)} {x : Row ι} :
    x ∈ (buildTable items).rows ↔ ∃ os, .union os ∈ items ∧ os.length ≠ 1 ∧ x ∈ os := by
  rw [buildTable_rows, mem_foldl_addUnique, List.mem_flatMap]
  simp only [List.not_mem_nil, false_or, mem_kept]
  exact ⟨fun ⟨_, hm, os, e, h⟩ => ⟨os, e ▸ hm, h⟩, fun ⟨os, hm, h⟩ => ⟨_, hm, os, rfl, h⟩⟩

omit [DecidableEq ι] in
theorem mem_allObjects {items : List (SetItem ι)} {x : Row ι} :
    x ∈ allObjects items ↔ ∃ os, .union os ∈ items ∧ x ∈ os := by
  fun_induction allObjects items with
  | case1 => simp
  | case2 os r ih =>
    simp only [ih, List.mem_append, List.mem_cons, SetItem.union.injEq, or_and_right, exists_or, exists_eq_left]
  | case3 r ih => simp only [ih, List.mem_cons, reduceCtorEq, false_or]

omit [DecidableEq ι] in
theorem noSingleton_iff {items : List (SetItem ι)} :
    NoSingleton items ↔ ∀ os, .union os ∈ items → os.length ≠ 1 := by
  fun_induction NoSingleton items with
  | case1 => simp
  | case2 os r ih => simp only [ih, List.mem_cons, SetItem.union.injEq, or_imp, forall_and, forall_eq]
  | case3 r ih => simp only [ih, List.mem_cons, reduceCtorEq, false_or]

theorem getLength_short (n : Nat) (h : n ≤ 127) (rest : Bits) :
    getLength (natBits 8 n ++ rest) = some (n, false, rest) := by
  obtain ⟨h1, h2, h3⟩ := PerSupport.natBits_field 7 n rest
  have hn : n < 2 ^ 7 := Nat.lt_succ_of_le h
  rw [PerSupport.natBits_succ_lt hn, List.cons_append, getLength, if_neg h1, h2, h3,
    Nat.mod_eq_of_lt hn]

theorem getLength_medium (n : Nat) (h : n < 16384) (rest : Bits) :
    getLength (natBits 16 (n + 32768) ++ rest) = some (n, false, rest) := by
  obtain ⟨h1, h2, h3⟩ := PerSupport.natBits_field 14 n rest
  have hn : n < 2 ^ 14 := h
  rw [Nat.add_comm, show 32768 = 2 ^ 15 from rfl,
    PerSupport.natBits_succ_add (Nat.lt_trans hn (by decide)), PerSupport.natBits_succ_lt hn,
    List.cons_append, List.cons_append, getLength, if_neg h1, h2, h3, Nat.mod_eq_of_lt hn]

theorem getLength_lenDet (n : Nat) (h : n < 16384) (rest : Bits) :
    getLength (lenDet n ++ rest) = some (n, false, rest) := by
  fun_cases lenDet n
  · next h1 => exact getLength_short n h1 rest
  · exact getLength_medium n h rest

theorem toOctets_length_mod (bs : Bits) : (toOctets bs).length % 8 = 0 := by
  have key : ∀ x < 8, (x + (8 - x) % 8) % 8 = 0 := by decide
  fun_cases toOctets bs
  · rfl
  · rw [List.length_append, List.length_replicate, Nat.add_mod, Nat.mod_mod]
    exact key _ (Nat.mod_lt _ (by decide))

theorem toOctets_pos (bs : Bits) : 8 ≤ (toOctets bs).length := by
  refine Nat.le_of_dvd ?_ (Nat.dvd_of_mod_eq_zero (toOctets_length_mod bs))
  fun_cases toOctets bs
  · decide
  · next h =>
    rw [List.length_append]
    exact Nat.add_pos_left (Nat.pos_of_ne_zero h) _

theorem toOctets_prefix (bs : Bits) (h : bs.length ≠ 0) :
    toOctets bs = bs ++ List.replicate ((toOctets bs).length - bs.length) false := by
  unfold toOctets
  simp [h]

/-- the padding test of `uper_open_type_get_simple` passes on what `toOctets` appended -/
theorem toOctets_padding (bs : Bits) :
    ((toOctets bs).length - bs.length < 8 ∨ bs.length = 0 ∧ (toOctets bs).length = 8) ∧
      ((toOctets bs).drop bs.length).all (· == false) = true := by
  fun_cases toOctets bs
  · next h => simp [h]
  · rw [List.drop_left, List.length_append, List.length_replicate, Nat.add_sub_cancel_left]
    exact ⟨.inl (Nat.mod_lt _ (by decide)), by simp⟩

theorem putLength_short (n : Nat) (h : n < 16384) : putLength n = (lenDet n, n, false) := by
  unfold putLength lenDet
  split
  · rfl
  · rfl

/-- **UPER framing** (encoder side): below 16384 octets the open type field is the length
    determinant followed by the octet-aligned stand-alone encoding of the row value (one round of
    `uper_open_type_put`'s loop). -/
theorem openPut_short (inner : Bits) (h : (toOctets inner).length / 8 < 16384) :
    openPut inner = lenDet ((toOctets inner).length / 8) ++ toOctets inner := by
  have h8 : 8 * ((toOctets inner).length / 8) = (toOctets inner).length :=
    Nat.mul_div_cancel' (Nat.dvd_of_mod_eq_zero (toOctets_length_mod inner))
  simp only [openPut, putChunks, putLength_short _ h, h8, List.take_length, Nat.sub_self, if_true]
  rfl

theorem collect_lenDet (o rest : Bits) (fuel : Nat) (hm : o.length % 8 = 0) (h : o.length / 8 < 16384) :
    collect (fuel + 1) (lenDet (o.length / 8) ++ (o ++ rest)) [] = some (o, rest) := by
  have h8 : 8 * (o.length / 8) = o.length := Nat.mul_div_cancel' (Nat.dvd_of_mod_eq_zero hm)
  have hlt : ¬ (o ++ rest).length < o.length := by
    rw [List.length_append]
    exact Nat.not_lt.2 (Nat.le_add_right _ _)
  simp only [collect, getLength_lenDet _ h, h8, hlt, if_false, List.take_left, List.drop_left,
    List.nil_append]
  rfl

/-- **UPER framing** (decoder side): `uper_open_type_get` undoes `uper_open_type_put` for every row
    decoder that, given the octet-aligned stand-alone encoding, returns the value and reports
    exactly the bits the encoder produced. -/
theorem openGet_openPut {β : Type} (dec : Bits → PerRes β) (inner rest : Bits) (v : β)
    (hdec : dec (toOctets inner) = .ok v inner.length)
    (h : (toOctets inner).length / 8 < 16384) :
    openGet dec (openPut inner ++ rest) = .ok (v, rest) (openPut inner).length := by
  rw [openPut_short inner h, openGet, List.append_assoc,
    collect_lenDet _ _ _ (toOctets_length_mod inner) h]
  simp only [hdec]
  rw [if_pos (toOctets_padding inner), ← List.append_assoc, List.length_append, Nat.add_sub_cancel]

end Asn1c.Proofs.OpenType
