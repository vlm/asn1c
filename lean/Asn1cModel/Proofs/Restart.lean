import Asn1cModel.Impl.Restart
/-
  The restart protocol of Impl/Restart.lean: a decoder that keeps nothing across RC_WMORE obeys its laws, and feeding
  chunks is presenting their concatenation at once, up to a relation on results.
-/
namespace Asn1c.Proofs.Restart
open Asn1c Asn1c.Impl.Restart

/-- a decoder that on RC_WMORE consumes nothing and leaves the state as it was (up to `norm`, which the decoder
    does not tell apart), and whose other verdicts stand when more data follows, is lawful: the resumed call is
    the call on all the data -/
theorem lawful_of_stateless {σ : Type} (d : Dec σ) (norm : σ → σ)
    (hle : ∀ s p, (d.step s p).2.2 ≤ p.length)
    (hmore : ∀ s p, (d.step s p).2.1 = .more → d.step s p = (norm s, .more, 0))
    (hnorm : ∀ s p, d.step (norm s) p = d.step s p)
    (hst : ∀ s p ext, (d.step s p).2.1 ≠ .more → d.step s (p ++ ext) = d.step s p) : Lawful d := by
  refine ⟨fun s p s' rc k h => ?_, fun s p s1 k h ext => ?_, fun s p s1 k h ext => ?_, fun s p s1 k h ext => ?_⟩
  · have := hle s p
    rw [h] at this; exact this
  · have hm := hmore s p (by rw [h])
    rw [h] at hm
    injection hm with h1 h2
    injection h2 with _ h3
    subst h1; subst h3
    exact ⟨by rw [List.drop_zero, hnorm]; rfl, Nat.zero_le _⟩
  · rw [hst s p ext (by rw [h]; nofun), h]
  · rw [hst s p ext (by rw [h]; nofun), h]

/-- **chunked = one-shot, up to a relation `E` on results.**  `E := Eq` is the exact statement for `Lawful`; the C
    decoders need an `E` that forgets what comes with RC_FAIL. -/
theorem feed_rel {σ : Type} (d : Dec σ) (E : σ × Rc × Nat → σ × Rc × Nat → Prop)
    (hrefl : ∀ a, E a a) (htrans : ∀ {a b c}, E a b → E b c → E a c)
    (hshift : ∀ (n : Nat) {a b}, E a b → E (a.1, a.2.1, n + a.2.2) (b.1, b.2.1, n + b.2.2))
    (hresume : ∀ s p s1 k, d.step s p = (s1, .more, k) → ∀ ext,
      E (let r := d.step s1 (p.drop k ++ ext); (r.1, r.2.1, k + r.2.2)) (d.step s (p ++ ext)))
    (hfinal : ∀ s p s1 rc k, rc ≠ .more → d.step s p = (s1, rc, k) → ∀ ext, E (s1, rc, k) (d.step s (p ++ ext))) :
    ∀ (cs : List Bytes), cs ≠ [] → ∀ (s : σ) (pend : Bytes) (tot : Nat),
      E (feed d s pend tot cs) (let r := d.step s (pend ++ cs.flatten); (r.1, r.2.1, tot + r.2.2)) := by
  intro cs hne s pend tot
  fun_induction feed d s pend tot cs with
  | case1 => exact absurd rfl hne
  | case2 s pend tot c cs buf s' k hst ih =>
    rw [List.flatten_cons, ← List.append_assoc]
    cases cs with
    | nil => simp only [feed, List.flatten_nil, List.append_nil, buf, hst]; exact hrefl _
    | cons c2 cs2 =>
      refine htrans (ih (List.cons_ne_nil _ _)) ?_
      have := hshift tot (hresume s _ s' k hst (c2 :: cs2).flatten)
      simpa only [Nat.add_assoc] using this
  | case3 s pend tot c cs buf s' rc k hrc hst =>
    rw [List.flatten_cons, ← List.append_assoc]
    exact hshift tot (hfinal s _ s' rc k hrc hst cs.flatten)

end Asn1c.Proofs.Restart
