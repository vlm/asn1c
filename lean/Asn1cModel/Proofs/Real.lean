import Asn1cModel.Impl.Real
import Asn1cModel.Spec.Real
import Asn1cModel.Proofs.Integer
/- Helper lemmas for C16 (REAL): rounding to a double, the mantissa and exponent octets of skeletons/REAL.c.
   The algebra of minimal big-endian octets (`toBE`), also in this namespace, is in Proofs/Bits.lean.
   At the end: `asn_double2REAL` against the DER contents `derReal` and `asn_REAL2double` on binary encodings, which
   Props/C16.lean restates as the property theorems. -/
namespace Asn1c.Proofs.Real
open Asn1c Asn1c.Impl.Real Asn1c.Spec Asn1c.Proofs.Integer

theorem log2_mul_pow (m k : Nat) (hm : m ≠ 0) : Nat.log2 (m * 2 ^ k) = Nat.log2 m + k := by
  induction k with
  | zero => rw [Nat.pow_zero, Nat.mul_one, Nat.add_zero]
  | succ k ih =>
    rw [Nat.pow_succ, ← Nat.mul_assoc, Nat.mul_comm _ 2,
      Nat.log2_two_mul (Nat.mul_ne_zero hm (Nat.ne_of_gt (Nat.two_pow_pos k))), ih, Nat.add_assoc]

/-- doubling the mantissa and shifting by one place more changes nothing: quotient and parity stay, remainder and
    divisor double -/
theorem rne_two_mul (m : Nat) (sh : Int) : rne (2 * m) (sh + 1) = rne m sh := by
  unfold rne
  by_cases h1 : sh + 1 ≤ 0
  · rw [if_pos h1, if_pos (by omega), show (-sh).toNat = (-(sh + 1)).toNat + 1 by omega, Nat.pow_succ']
    ac_rfl
  · obtain ⟨s, rfl⟩ : ∃ s : Nat, sh = s := ⟨sh.toNat, by omega⟩
    rw [if_neg h1, show ((s : Int) + 1).toNat = s + 1 by omega, Int.toNat_natCast]
    simp only [Nat.pow_succ', Nat.mul_div_mul_left _ _ (show 0 < 2 by decide), Nat.mul_mod_mul_left]
    by_cases h0 : s = 0
    · subst h0; simp [Nat.mod_one]
    · rw [if_neg (show ¬ (s : Int) ≤ 0 by omega)]
      generalize m % 2 ^ s = r
      generalize 2 ^ s = P
      by_cases c : 2 * r > P ∨ 2 * r = P ∧ m / P % 2 = 1
      · rw [if_pos c, if_pos (by omega)]
      · rw [if_neg c, if_neg (by omega)]

/-- scaling the mantissa by a power of two and compensating in the shift does not change `rne` -/
theorem rne_mul_pow (m k : Nat) (sh : Int) : rne (m * 2 ^ k) sh = rne m (sh - k) := by
  induction k generalizing sh with
  | zero => simp
  | succ k ih =>
    rw [Nat.pow_succ, ← Nat.mul_assoc, Nat.mul_comm _ 2, show sh = sh - 1 + 1 by omega, rne_two_mul, ih]
    congr 1; omega

theorem roundToDouble_two_mul (m : Nat) (e : Int) : roundToDouble (2 * m) e = roundToDouble m (e + 1) := by
  unfold roundToDouble
  by_cases hm : m = 0
  · simp [hm]
  · rw [if_neg hm, if_neg (by omega), Nat.log2_two_mul hm]
    simp only []
    rw [show ((m.log2 + 1 : Nat) : Int) + e = (m.log2 : Int) + (e + 1) by omega]
    generalize max ((m.log2 : Int) + (e + 1) - 52) (-1074) = q
    rw [show q - e = q - (e + 1) + 1 by omega, rne_two_mul]

/-- **scaling lemma**: `(m * 2^k) * 2^e` and `m * 2^(e+k)` round to the same double -/
theorem roundToDouble_mul_pow (m k : Nat) (e : Int) :
    roundToDouble (m * 2 ^ k) e = roundToDouble m (e + k) := by
  induction k generalizing e with
  | zero => simp
  | succ k ih =>
    rw [Nat.pow_succ, ← Nat.mul_assoc, Nat.mul_comm _ 2, roundToDouble_two_mul, ih]
    congr 1; omega

/-- **exactness**: a mantissa that already stands at the exponent of its last place (`e` is what `roundToDouble`
    chooses for `q`) is stored as it is; everything else is brought here by `roundToDouble_mul_pow` -/
theorem roundToDouble_quantum (m : Nat) (e : Int) (hm : m ≠ 0)
    (hq : max ((Nat.log2 m : Int) + e - 52) (-1074) = e) (hhi : e ≤ 971) :
    roundToDouble m e = (e + 1074).toNat * 2 ^ 52 + m := by
  have hlt : m < 2 ^ 53 := (Nat.log2_lt hm).mp (by omega)
  unfold roundToDouble rne posInf
  simp only [if_neg hm, hq, Int.sub_self, Int.le_refl, if_true, Int.neg_zero, Int.toNat_zero, Nat.pow_zero, Nat.mul_one]
  rw [if_neg (by omega)]

/-- **exactness**: a mantissa of at most 53 bits whose value lies in the normal range is
    represented exactly: exponent field `top + 1023`, significand `m` left-aligned to 53 bits. -/
theorem roundToDouble_exact (m : Nat) (e : Int) (hm : m ≠ 0) (hl : Nat.log2 m ≤ 52)
    (hlo : -1022 ≤ (Nat.log2 m : Int) + e) (hhi : (Nat.log2 m : Int) + e ≤ 1023) :
    roundToDouble m e = ((Nat.log2 m : Int) + e + 1022).toNat * 2 ^ 52 + m * 2 ^ (52 - Nat.log2 m) := by
  -- left-aligned, `m` stands at the exponent of its last place
  have hX : m * 2 ^ (52 - m.log2) ≠ 0 := Nat.mul_ne_zero hm (Nat.ne_of_gt (Nat.two_pow_pos _))
  have hlX := log2_mul_pow m (52 - m.log2) hm
  have hb := roundToDouble_mul_pow m (52 - m.log2) (e - ((52 - m.log2 : Nat) : Int))
  rw [Int.sub_add_cancel, roundToDouble_quantum _ _ hX (by omega) (by omega)] at hb
  rw [← hb]; congr 2; omega

/-- the double holding the integer `n` (exact for `n < 2^53`) -/
def dblOfNat (n : Nat) : Nat := roundToDouble n 0

/-- a bit pattern written as exponent field (less one) and 53-bit significand is finite and reads back as such -/
theorem toDyadic_normal (E X : Nat) (hE : E ≤ 2045) (h1 : 2 ^ 52 ≤ X) (h2 : X < 2 ^ 53) :
    E * 2 ^ 52 + X < posInf ∧ toDyadic (E * 2 ^ 52 + X) = (X, (E : Int) - 1074) := by
  have e1 : expField (E * 2 ^ 52 + X) = E + 1 := by unfold expField; omega
  have e2 : fracField (E * 2 ^ 52 + X) = X - 2 ^ 52 := by unfold fracField; omega
  unfold toDyadic posInf
  rw [e1, e2, if_neg (by omega)]
  exact ⟨by omega, Prod.ext (by simp only []; omega) (by simp only []; omega)⟩

theorem ofNat_spec (n : Nat) (h : n < 2 ^ 53) :
    dblOfNat n < posInf ∧ ∃ j : Nat, toDyadic (dblOfNat n) = (n * 2 ^ j, -(j : Int)) := by
  by_cases hn : n = 0
  · subst hn; simp only [Nat.zero_mul]; exact ⟨by decide, 1074, by decide⟩
  have hl : Nat.log2 n ≤ 52 := by have := (Nat.log2_lt hn).mpr h; omega
  -- `n` left-aligned to 53 bits stands at the exponent of its last place
  have hX : n * 2 ^ (52 - n.log2) ≠ 0 := Nat.mul_ne_zero hn (Nat.ne_of_gt (Nat.two_pow_pos _))
  have hlX := log2_mul_pow n (52 - n.log2) hn
  obtain ⟨h1, h2⟩ := (Nat.log2_eq_iff hX).mp hlX
  rw [show n.log2 + (52 - n.log2) = 52 by omega] at h1 h2
  have hb := roundToDouble_mul_pow n (52 - n.log2) (-((52 - n.log2 : Nat) : Int))
  rw [Int.add_left_neg, roundToDouble_quantum _ _ hX (by omega) (by omega)] at hb
  obtain ⟨hfin, hd⟩ := toDyadic_normal (-((52 - n.log2 : Nat) : Int) + 1074).toNat _ (by omega) h1 h2
  unfold dblOfNat
  rw [← hb]
  exact ⟨hfin, 52 - n.log2, by rw [hd]; congr 1; omega⟩

/-- `ldexp((double)n, k)` is the correctly rounded `n * 2^k` -/
theorem ldexpPos_ofNat (n : Nat) (h : n < 2 ^ 53) (k : Int) : ldexpPos (dblOfNat n) k = roundToDouble n k := by
  obtain ⟨hfin, j, hj⟩ := ofNat_spec n h
  unfold ldexpPos
  rw [if_neg (by omega), hj]
  simp only []
  rw [roundToDouble_mul_pow]
  congr 1
  omega

/-- `(double)n + (double)b` is the correctly rounded `n + b` -/
theorem addNat_ofNat (n b : Nat) (h : n < 2 ^ 53) : addNat (dblOfNat n) b = roundToDouble (n + b) 0 := by
  obtain ⟨hfin, j, hj⟩ := ofNat_spec n h
  unfold addNat
  rw [if_neg (by omega), hj]
  simp only []
  by_cases he : -(j : Int) ≥ 0
  · obtain rfl : j = 0 := by omega
    simp
  · rw [if_neg he, Int.neg_neg, Int.toNat_natCast, ← Nat.add_mul, roundToDouble_mul_pow]
    congr 1
    omega

/-- the mantissa accumulation loop `m = ldexp(m, 8) + octet` is exact below 2^53 -/
theorem mantissaLoop_exact (l : Bytes) (n : Nat) (h : ofBE n l < 2 ^ 53) :
    mantissaLoop (dblOfNat n) l = dblOfNat (ofBE n l) := by
  induction l generalizing n with
  | nil => rfl
  | cons b bs ih =>
    simp only [mantissaLoop, ofBE] at h ⊢
    have hmono := le_ofBE (n * 256 + b) bs
    have hn : n < 2 ^ 53 := by omega
    have h256 : n * 256 < 2 ^ 53 := by omega
    rw [ldexpPos_ofNat n hn 8]
    have : roundToDouble n 8 = dblOfNat (n * 256) := by
      unfold dblOfNat
      have := roundToDouble_mul_pow n 8 0
      simpa using this.symm
    rw [this, addNat_ofNat _ _ h256]
    exact ih (n * 256 + b) h

theorem ctzAux_props (fuel n : Nat) (h1 : n ≤ fuel) (h2 : n ≠ 0) :
    n % 2 ^ ctzAux fuel n = 0 ∧ n / 2 ^ ctzAux fuel n % 2 = 1 := by
  fun_induction ctzAux fuel n with
  | case1 n => omega
  | case2 f n hc ih =>
    obtain ⟨i1, i2⟩ := ih (by omega) (by omega)
    rw [Nat.pow_succ', Nat.mod_mul, ← Nat.div_div_eq_div_mul, i1, i2, hc.2]
    exact ⟨rfl, rfl⟩
  | case3 f n hc => simp; omega

theorem ctz_props (n : Nat) (h : n ≠ 0) : n % 2 ^ ctz n = 0 ∧ n / 2 ^ ctz n % 2 = 1 :=
  ctzAux_props n n (Nat.le_refl _) h

theorem mod_pow_of_le (n : Nat) {j c : Nat} (hjc : j ≤ c) (h : n % 2 ^ c = 0) : n % 2 ^ j = 0 :=
  Nat.mod_eq_zero_of_dvd (Nat.dvd_trans (Nat.pow_dvd_pow 2 hjc) (Nat.dvd_of_mod_eq_zero h))

/-- the position of the lowest set bit is unique -/
theorem ctz_spec (n t : Nat) (h0 : n % 2 ^ t = 0) (h1 : n / 2 ^ t % 2 = 1) : ctz n = t := by
  obtain ⟨p0, p1⟩ := ctz_props n (by rintro rfl; simp at h1)
  -- an odd quotient at position `a` excludes divisibility by any higher power of two
  have key : ∀ a c, n / 2 ^ a % 2 = 1 → n % 2 ^ c = 0 → c ≤ a := by
    intro a c ha hc
    refine Decidable.byContradiction fun hlt => ?_
    have := mod_pow_of_le n (show a + 1 ≤ c by omega) hc
    rw [Nat.mod_pow_succ, ha] at this
    have : 2 ^ a > 0 := Nat.pow_pos (by decide)
    omega
  exact Nat.le_antisymm (key t (ctz n) h1 p0) (key (ctz n) t p1 h0)

theorem ctz_lt_of_mod_ne (n j : Nat) (h : n % 2 ^ j ≠ 0) : ctz n < j := by
  refine Decidable.byContradiction fun hc => ?_
  exact h (mod_pow_of_le n (by omega) (ctz_props n (by rintro rfl; simp at h)).1)

theorem ctz_mul_pow (v k : Nat) (h : v ≠ 0) :
    ctz (v * 2 ^ k) = k + ctz v ∧ v * 2 ^ k / 2 ^ (k + ctz v) = v / 2 ^ ctz v := by
  obtain ⟨p1, p2⟩ := ctz_props v h
  have hpk : (2:Nat) ^ k > 0 := Nat.pow_pos (by decide)
  have e3 : v * 2 ^ k / 2 ^ (k + ctz v) = v / 2 ^ ctz v := by
    rw [Nat.pow_add, ← Nat.div_div_eq_div_mul, Nat.mul_div_cancel _ hpk]
  refine ⟨ctz_spec _ _ ?_ ?_, e3⟩
  · rw [Nat.pow_add, Nat.mul_comm (2 ^ k), Nat.mul_mod_mul_right, p1, Nat.zero_mul]
  · rw [e3]; exact p2

theorem ctz_add_mul_pow (q a j : Nat) (h : a % 2 ^ j ≠ 0) : ctz (q * 2 ^ j + a) = ctz a := by
  obtain ⟨d, rfl⟩ := Nat.exists_eq_add_of_lt (ctz_lt_of_mod_ne a j h)
  obtain ⟨p1, p2⟩ := ctz_props a (by intro e; subst e; simp at h)
  have e : q * 2 ^ (ctz a + d + 1) + a = 2 ^ ctz a * (2 * (q * 2 ^ d)) + a := by
    rw [Nat.pow_succ, Nat.pow_add]; ac_rfl
  have hp : (2 : Nat) ^ ctz a > 0 := Nat.two_pow_pos _
  refine ctz_spec _ _ ?_ ?_ <;> rw [e]
  · rw [Nat.mul_add_mod, p1]
  · rw [Nat.mul_add_div hp]; omega

/-- `shift_count` is the number of trailing zero bits of the last mantissa octet -/
theorem shiftCount_eq_ctz : ∀ m < 256, m ≠ 0 → m % 2 = 0 → shiftCount m = ctz m := by
  decide +kernel

theorem twosOctets_one (e : Int) : twosOctets 1 e = [(e % 256).toNat] := by
  simp [twosOctets, toBEn]; omega

theorem twosOctets_two (e : Int) : twosOctets 2 e = [(e / 256 % 256).toNat, (e % 256).toNat] := by
  simp only [twosOctets, toBEn]
  congr 1
  · omega
  · congr 1; omega

theorem realExpOctets_cases (e : Int) (h1 : -32768 ≤ e) (h2 : e < 32768) :
    (-128 ≤ e ∧ e < 128 ∧ realExpOctets e = [(e % 256).toNat]) ∨
    (¬ (-128 ≤ e ∧ e < 128) ∧ realExpOctets e = [(e / 256 % 256).toNat, (e % 256).toNat]) := by
  unfold realExpOctets
  by_cases c1 : -128 ≤ e ∧ e < 128
  · exact Or.inl ⟨c1.1, c1.2, by rw [if_pos c1, twosOctets_one]⟩
  · exact Or.inr ⟨c1, by rw [if_neg c1, if_pos ⟨h1, h2⟩, twosOctets_two]⟩

theorem realExpOctets_length (e : Int) :
    1 ≤ (realExpOctets e).length ∧ (realExpOctets e).length ≤ 3 := by
  unfold realExpOctets twosOctets
  split
  · rw [toBEn_length]; omega
  · split <;> rw [toBEn_length] <;> omega

theorem twosVal_realExpOctets (e : Int) (h1 : -32768 ≤ e) (h2 : e < 32768) :
    twosVal (realExpOctets e) = e := by
  unfold realExpOctets
  split
  · exact twosVal_toBEn 1 e (by omega) (by omega)
  · rw [if_pos ⟨h1, h2⟩]; exact twosVal_toBEn 2 e (by omega) (by omega)

/-- one octet is always minimal; two are used only outside −128..127 -/
theorem realExpOctets_minimal (e : Int) (h1 : -32768 ≤ e) (h2 : e < 32768) : MinimalTwos (realExpOctets e) := by
  rcases realExpOctets_cases e h1 h2 with ⟨_, _, he⟩ | ⟨c1, he⟩ <;> rw [he]
  · simp [MinimalTwos]
  · exact (minimalTwos_cons_cons _ _ _).mpr (by omega)

theorem expHeader_eq (s : Nat) (e : Int) (h1 : -32768 ≤ e) (h2 : e < 32768) :
    expHeader (128 + 64 * s) e = (0x80 + 0x40 * s + ((realExpOctets e).length - 1)) :: realExpOctets e := by
  unfold expHeader
  rcases realExpOctets_cases e h1 h2 with ⟨c1, c2, he⟩ | ⟨c1, he⟩
  · rw [he]
    by_cases c0 : e < 0
    · rw [if_pos c0, if_pos c1]; rfl
    · rw [if_neg c0, if_pos (by omega)]; rfl
  · rw [he]
    by_cases c0 : e < 0
    · rw [if_pos c0, if_neg (by omega), if_pos h1]; rfl
    · rw [if_neg c0, if_neg (by omega), if_pos (by omega)]; rfl

/-- the exponent fetch of `asn_REAL2double` reads the octets as a two's complement number -/
theorem expValue_eq_twosVal (bs : Bytes) : expValue bs = twosVal bs := by
  have fold : ∀ (l : Bytes) (a : Int),
      l.foldl (fun (a : Int) (x : Nat) => a * 256 + x) a = a * 256 ^ l.length + ofBE 0 l := by
    intro l
    induction l with
    | nil => intro a; simp [ofBE]
    | cons x l ih =>
      intro a
      rw [List.foldl_cons, ih, ofBE_cons_int, List.length_cons, Int.pow_succ, Int.add_mul, Int.mul_assoc, Int.mul_comm 256,
        Int.add_assoc]
  cases bs with
  | nil => rfl
  | cons b bs =>
    simp only [expValue, twosVal, fold, ofBE_cons_int]
    split
    · rfl
    · rw [Int.sub_mul]; omega

theorem shiftR_length (sc acc : Nat) (l : Bytes) : (shiftR sc acc l).length = l.length := by
  induction l generalizing acc with
  | nil => rfl
  | cons m rest ih => simp [shiftR, ih]

theorem shiftR_wf (sc acc : Nat) (l : Bytes) : Bytes.wf (shiftR sc acc l) := by
  induction l generalizing acc with
  | nil => exact fun _ h => nomatch h
  | cons m rest ih => exact wf_cons (Nat.mod_lt _ (by decide)) (ih _)

/-- value of the shifted buffer, in the accumulator form of `ofBE`; `p` is the previous octet (its low `sc` bits
    are carried in) -/
theorem shiftR_val (sc : Nat) (h8 : sc ≤ 8) (l : Bytes) (hw : Bytes.wf l) :
    ∀ p A, ofBE A (shiftR sc (p * 2 ^ (8 - sc)) l) = ofBE (A * 2 ^ sc + p % 2 ^ sc) l / 2 ^ sc := by
  have h256 : (256 : Nat) = 2 ^ (8 - sc) * 2 ^ sc := by
    rw [← Nat.pow_add, Nat.sub_add_cancel h8]
  have hP : (2:Nat) ^ sc > 0 := Nat.two_pow_pos _
  induction l with
  | nil =>
    intro p A
    simp only [shiftR, ofBE]
    rw [Nat.mul_comm, Nat.mul_add_div hP, Nat.div_eq_of_lt (Nat.mod_lt _ hP), Nat.add_zero]
  | cons m rest ih =>
    intro p A
    have hm : m < 256 := hw m (by simp)
    simp only [shiftR, ofBE]
    rw [ih (wf_tail hw) m]
    congr 2
    -- the stored octet: the low `sc` bits of `p` above the high `8 - sc` bits of `m`
    have hc : m / 2 ^ sc < 2 ^ (8 - sc) := by
      rw [Nat.div_lt_iff_lt_mul hP, ← h256]; exact hm
    have hA : (2:Nat) ^ (8 - sc) > 0 := Nat.two_pow_pos _
    have hh : (p * 2 ^ (8 - sc) + m / 2 ^ sc) % 256 = 2 ^ (8 - sc) * (p % 2 ^ sc) + m / 2 ^ sc := by
      conv => lhs; rw [h256]
      rw [Nat.mod_mul, Nat.mul_add_mod_of_lt hc, Nat.add_comm (p * _), Nat.add_mul_div_right _ _ hA,
        Nat.div_eq_of_lt hc, Nat.zero_add, Nat.add_comm]
    rw [hh]
    conv => rhs; rw [← Nat.div_add_mod m (2 ^ sc)]
    rw [h256]
    simp only [Nat.add_mul]
    ac_rfl

theorem shiftR_zero_val (sc : Nat) (h8 : sc ≤ 8) (l : Bytes) (hw : Bytes.wf l) :
    ofBE 0 (shiftR sc 0 l) = ofBE 0 l / 2 ^ sc := by
  simpa using shiftR_val sc h8 l hw 0 0

/-- the octets left by `while(mstart < mstop && *mstart == 0) mstart++` are the minimal
    base-256 form of the (non-zero) number held in the buffer -/
theorem stripZeros_eq_toBE (l : Bytes) (hw : Bytes.wf l) {v : Nat} (hv : ofBE 0 l = v) (h : v ≠ 0) :
    stripZeros l = toBE v := by
  subst hv
  fun_induction stripZeros l with
  | case1 => exact absurd rfl h
  | case2 x =>
    have hx : x ≠ 0 := by simpa [ofBE] using h
    exact (toBE_ofBE x [] hw hx).symm
  | case3 y rest ih =>
    have e : ofBE 0 (0 :: y :: rest) = ofBE 0 (y :: rest) := by simp [ofBE]
    rw [e] at h ⊢
    exact ih (wf_tail hw) h
  | case4 x y rest hx => exact (toBE_ofBE x _ hw hx).symm

/-- the emitting half of `asn_double2REAL` on a scratch pad `dscr[0..mstop]` whose last octet is
    non-zero (with or without the explicit 1): exponent raised by the number of trailing zero bits,
    then the odd mantissa in the fewest octets -/
theorem d2rEmit_spec (bm : Nat) (e : Int) (init : Bytes) (last : Nat) (hwl : Bytes.wf (init ++ [last]))
    (hlast : last ≠ 0) {V : Nat} (hV : ofBE 0 (init ++ [last]) = V) :
    d2rEmit bm e (init ++ [last]) = expHeader bm (e + (ctz V : Nat)) ++ toBE (V / 2 ^ ctz V) := by
  subst hV
  have hl256 : last < 256 := hwl last (by simp)
  have hV : ofBE 0 (init ++ [last]) ≠ 0 := by rw [ofBE_append_single]; omega
  have hmod : last % 2 ^ 8 ≠ 0 := by rw [Nat.mod_eq_of_lt hl256]; exact hlast
  -- the trailing zeros of the whole number are those of its last octet
  have hc : ctz (ofBE 0 (init ++ [last])) = ctz last := by
    rw [ofBE_append_single]; exact ctz_add_mul_pow _ last 8 hmod
  obtain ⟨p1, p2⟩ := ctz_props _ hV
  unfold d2rEmit
  simp only [List.getLastD_concat]
  by_cases hev : last % 2 = 0
  · rw [if_pos ⟨hlast, hev⟩, shiftCount_eq_ctz last hl256 hlast hev]
    rw [hc] at p2 ⊢
    congr 1
    exact stripZeros_eq_toBE _ (shiftR_wf _ _ _)
      (shiftR_zero_val _ (Nat.le_of_lt (ctz_lt_of_mod_ne last 8 hmod)) _ hwl) (fun h0 => by rw [h0] at p2; omega)
  · rw [if_neg (fun h => hev h.2), hc, ctz_spec last 0 (Nat.mod_one _) (by simpa using hev)]
    simp only [Int.natCast_zero, Int.add_zero, Nat.pow_zero, Nat.div_one]
    congr 1
    exact stripZeros_eq_toBE _ hwl rfl hV

theorem lastNonzero_snoc (l : Bytes) (x i cur : Nat) :
    lastNonzero (l ++ [x]) i cur = if x ≠ 0 then i + l.length else lastNonzero l i cur := by
  induction l generalizing i cur with
  | nil => rfl
  | cons a l ih => simp only [List.cons_append, lastNonzero, ih, List.length_cons]; split <;> omega

/-- `mstop` does not look at `dscr[0]` -/
theorem lastNonzero_head (d : Nat) (ds : Bytes) : lastNonzero (d :: ds) 0 0 = lastNonzero ds 1 0 := by
  simp [lastNonzero]

/-- `mstop` lies inside a non-zero pad, and emitting from `dscr[0..mstop]`, the exponent counted from the end of
    that prefix, gives the exponent and odd mantissa of the number in the whole pad: the octets after `mstop` are zero -/
theorem d2rEmit_take (bm : Nat) (e : Int) (l : Bytes) (hw : Bytes.wf l) {V : Nat} (hV : ofBE 0 l = V) (hnz : V ≠ 0) :
    lastNonzero l 0 0 < l.length ∧
    d2rEmit bm (e - 8 * ((lastNonzero l 0 0 : Nat) + 1)) (l.take (lastNonzero l 0 0 + 1)) =
      expHeader bm (e - 8 * (l.length : Nat) + (ctz V : Nat)) ++ toBE (V / 2 ^ ctz V) := by
  subst hV
  induction l using snoc_induction with
  | nil => exact absurd rfl hnz
  | snoc l x ih =>
    simp only [lastNonzero_snoc, Nat.zero_add, List.length_append, List.length_singleton]
    by_cases hx : x = 0
    · -- a zero octet at the end: `mstop` and the prefix stay, the value loses a factor 2^8
      subst hx
      have hv : ofBE 0 (l ++ [0]) = ofBE 0 l * 256 := by rw [ofBE_append_single, Nat.add_zero]
      have h0 : ofBE 0 l ≠ 0 := fun h0 => hnz (by rw [hv, h0, Nat.zero_mul])
      obtain ⟨hlt, ih⟩ := ih (fun y hy => hw y (List.mem_append_left _ hy)) h0
      obtain ⟨c1, c2⟩ := ctz_mul_pow _ 8 h0
      rw [if_neg (by simp), List.take_append_of_le_length hlt, hv, show (256 : Nat) = 2 ^ 8 from rfl, c1, c2, ih]
      refine ⟨by omega, ?_⟩
      congr 2
      push_cast; omega
    · rw [if_pos hx, List.take_of_length_le (by simp), d2rEmit_spec bm _ l x hw hx rfl]
      refine ⟨by omega, ?_⟩
      congr 2

/-- the bit fields that the model of REAL.c cuts out of a double are those of the Spec -/
theorem f64_fields (b : Nat) : expField b = f64Exp b ∧ fracField b = f64Frac b ∧ signOf b = f64Sign b :=
  ⟨rfl, rfl, rfl⟩

/-- the model's IEEE-754 reading of a bit pattern is the Spec's -/
theorem toDyadic_eq (b : Nat) : toDyadic b = (f64Mant b, f64Pow b) := by
  unfold toDyadic f64Mant f64Pow
  rw [(f64_fields b).1, (f64_fields b).2.1]
  split <;> rfl

theorem ilogb_lt_iff (b : Nat) : ilogb b < -1022 ↔ f64Exp b = 0 := by
  show _ ↔ expField b = 0
  unfold ilogb
  by_cases h : expField b = 0
  · rw [if_pos h]
    refine ⟨fun _ => h, fun _ => ?_⟩
    by_cases h0 : fracField b = 0
    · rw [h0]; decide
    · have : Nat.log2 (fracField b) < 52 := (Nat.log2_lt h0).mpr (Nat.mod_lt _ (Nat.two_pow_pos _))
      omega
  · rw [if_neg h]
    constructor
    · intro h'; omega
    · intro h'; exact absurd h' h

/-- **the general branch of `asn_double2REAL`, every finite non-zero double** (normal or subnormal):
    with the IEEE-754 significand/exponent `(m, e) = (f64Mant b, f64Pow b)` (hidden bit for normal doubles only)
    and `t` the number of trailing zero bits of `m`, the stored octets are the first octet with the
    exponent `e + t` followed by the odd mantissa `m / 2^t` in the fewest octets. -/
theorem double2REALfinite_eq (b : Nat) (hnz : f64Mant b ≠ 0) :
    double2REALfinite b =
      expHeader (128 + 64 * f64Sign b) (f64Pow b + (ctz (f64Mant b) : Nat)) ++
        toBE (f64Mant b / 2 ^ ctz (f64Mant b)) := by
  -- the two `if`s of the C code: the explicit 1 (normal) or nothing (subnormal), called `h` below, and the exponent
  -- of the hidden-bit position, `e0`
  have hM : f64Mant b = (if ilogb b < -1022 then 0 else 16) * 2 ^ 48 + f64Frac b := by
    unfold f64Mant; simp only [ilogb_lt_iff]; split <;> omega
  have hP : f64Pow b = (if ilogb b < -1022 then -1022 else ilogb b) - 52 := by
    unfold f64Pow; simp only [ilogb_lt_iff]; split
    · omega
    · unfold ilogb
      rw [if_neg (show ¬ expField b = 0 from ‹_›)]
      show _ = (f64Exp b : Int) - 1023 - 52
      omega
  have hh : (if ilogb b < -1022 then 0 else 16) ≤ 16 := by split <;> omega
  -- the scratch pad: `dscr[0]` with the exponent bits replaced by `h`, then the six low octets;
  -- as a 7-octet number it is the significand
  have hraw : rawOctets b = (b % 2 ^ 56 / 256 ^ 6 % 256) :: toBEn 6 (b % 2 ^ 56) := rfl
  unfold double2REALfinite scratch
  rw [hraw, lastNonzero_head]
  simp only []
  generalize (if ilogb b < -1022 then (0 : Nat) else 16) = h at *
  generalize (if ilogb b < -1022 then (-1022 : Int) else ilogb b) = e0 at *
  rw [← lastNonzero_head (h + b % 2 ^ 56 / 256 ^ 6 % 256 % 16)]
  generalize hl : (h + b % 2 ^ 56 / 256 ^ 6 % 256 % 16) :: toBEn 6 (b % 2 ^ 56) = l
  have hw : Bytes.wf l := by subst hl; exact wf_cons (by omega) (toBEn_wf _ _)
  have hlen : l.length = 7 := by subst hl; rw [List.length_cons, toBEn_length]
  have hS : ofBE 0 l = f64Mant b := by
    subst hl; rw [hM, ofBE_cons, ofBE_toBEn, toBEn_length]; unfold f64Frac; omega
  have key := (d2rEmit_take (128 + 64 * signOf b) (e0 + 4) l hw hS hnz).2
  rw [hlen] at key
  rw [hP, show e0 - (8 * ((lastNonzero l 0 0 : Nat) + 1 : Int) - 4) = e0 + 4 - 8 * ((lastNonzero l 0 0 : Nat) + 1) by omega,
    key]
  show expHeader (128 + 64 * f64Sign b) _ ++ _ = _
  congr 2
  omega

theorem f64_bounds (b : Nat) (h0 : f64Mant b ≠ 0) :
    f64Mant b < 2 ^ 53 ∧ ctz (f64Mant b) ≤ 52 ∧ -1075 ≤ f64Pow b ∧ f64Pow b ≤ 972 := by
  have hF : f64Frac b < 2 ^ 52 := Nat.mod_lt _ (Nat.two_pow_pos _)
  have hE : f64Exp b < 2048 := Nat.mod_lt _ (by decide)
  have hmlt : f64Mant b < 2 ^ 53 := by unfold f64Mant; split <;> omega
  have := ctz_lt_of_mod_ne (f64Mant b) 53 (by rw [Nat.mod_eq_of_lt hmlt]; exact h0)
  refine ⟨hmlt, by omega, ?_, ?_⟩ <;> unfold f64Pow <;> split <;> omega

/-- `asn_double2REAL` branches on the class of the double as `derReal` does; the general branch is
    `double2REALfinite_eq` with the first octet of `expHeader_eq` -/
theorem double2REAL_eq_derReal (b : Nat) : double2REAL b = derReal b := by
  unfold double2REAL classify derReal
  rw [(f64_fields b).1, (f64_fields b).2.1, (f64_fields b).2.2]
  by_cases hE : f64Exp b = 2047
  · by_cases hF : f64Frac b = 0 <;> simp [hE, hF]
  · by_cases hM : f64Mant b = 0
    · have : f64Exp b = 0 ∧ f64Frac b = 0 := by unfold f64Mant at hM; split at hM <;> omega
      simp [hM, this.1, this.2]
    · have hfin : f64Exp b = 0 → f64Frac b ≠ 0 := fun h0 h => hM (by
        unfold f64Mant
        rw [if_pos h0]; exact h)
      obtain ⟨_, ht, hp1, hp2⟩ := f64_bounds b hM
      rw [if_neg hE, if_neg hE, if_neg hM]
      simp only []
      rw [← List.cons_append, ← expHeader_eq _ _ (by omega) (by omega), ← double2REALfinite_eq b hM]
      by_cases h0 : f64Exp b = 0
      · rw [if_pos h0, if_neg (hfin h0)]
      · rw [if_neg h0]

theorem REAL2double_binary_spec (s base F : Nat) (hs : s ≤ 1) (hb : base ≤ 2) (hF : F ≤ 3)
    (eo : Bytes) (hel : 1 ≤ eo.length ∧ eo.length ≤ 3) (mant : Bytes) (hm : ofBE 0 mant < 2 ^ 53) :
    REAL2double ((128 + 64 * s + 16 * base + 4 * F + (eo.length - 1)) :: (eo ++ mant)) =
      (let r := roundToDouble (ofBE 0 mant)
                  (expValue eo * ((if base = 0 then 1 else if base = 1 then 3 else 4 : Nat) : Int) + (F : Nat))
       if r ≥ posInf then .erange else .ok (s * signBit + r)) := by
  have hmant : mantissaLoop 0 mant = dblOfNat (ofBE 0 mant) := mantissaLoop_exact mant 0 hm
  obtain ⟨k, hk⟩ : ∃ k, eo.length = k + 1 := ⟨eo.length - 1, by omega⟩
  have hk3 : ¬ k ≥ 3 := by omega
  have hbase : base = 0 ∨ base = 1 ∨ base = 2 := by omega
  have hlen : ¬ (eo ++ mant).length + 1 ≤ 1 + k := by rw [List.length_append]; omega
  rw [hk, Nat.add_sub_cancel]
  -- the bit fields of the first octet (last, so that no other `omega` carries them)
  generalize ho : 128 + 64 * s + 16 * base + 4 * F + k = o
  obtain ⟨f1, f2, f3, f4, f5, f6⟩ : o / 64 % 4 ≠ 1 ∧ o / 64 % 4 ≠ 0 ∧ o / 16 % 4 = base ∧ o / 4 % 4 = F ∧
      o % 4 = k ∧ o / 64 % 2 = s := by omega
  -- the exponent octets and the mantissa octets as `REAL2doubleBin` cuts them out
  have hexp : ((o :: (eo ++ mant)).drop 1).take (k + 1) = eo := List.take_left' hk
  have hman : (o :: (eo ++ mant)).drop (1 + k + 1) = mant := by
    rw [Nat.add_comm 1 k]; exact List.drop_left' hk
  unfold REAL2double
  simp only [if_neg f1, if_neg f2, f3, f5, List.length_cons, if_neg hlen, if_neg (fun h : k = 3 => hk3 (Nat.le_of_eq h.symm))]
  unfold REAL2doubleBin
  simp only [if_neg hk3, hexp, hman, hmant, f4, f6, ldexpPos_ofNat _ hm]
  rcases hbase with rfl | rfl | rfl <;> rfl

/-- rounding the exact value of a finite double gives back its exponent and fraction fields -/
theorem roundToDouble_f64 (b : Nat) (hE : f64Exp b ≠ 2047) :
    roundToDouble (f64Mant b) (f64Pow b) = f64Exp b * 2 ^ 52 + f64Frac b := by
  have hF : f64Frac b < 2 ^ 52 := Nat.mod_lt _ (Nat.two_pow_pos _)
  have hEl : f64Exp b < 2048 := Nat.mod_lt _ (by decide)
  unfold f64Mant f64Pow
  by_cases hz : f64Exp b = 0
  · rw [if_pos hz, if_pos hz, hz]
    by_cases h0 : f64Frac b = 0
    · rw [h0]; rfl
    · have := (Nat.log2_lt h0).mpr hF
      rw [roundToDouble_quantum _ _ h0 (by omega) (by omega)]; rfl
  · have hl : Nat.log2 (2 ^ 52 + f64Frac b) = 52 := by
      rw [Nat.log2_eq_iff (by omega)]; constructor <;> omega
    rw [if_neg hz, if_neg hz, roundToDouble_quantum _ _ (by omega) (by rw [hl]; omega) (by omega)]
    omega

theorem bits_decompose (b : Nat) (hb : b < 2 ^ 64) :
    b = f64Sign b * signBit + (f64Exp b * 2 ^ 52 + f64Frac b) := by
  unfold f64Sign f64Exp f64Frac signBit; omega

theorem REAL2double_derReal (b : Nat) (hb : b < 2 ^ 64) (hnan : ¬ f64IsNaN b) :
    REAL2double (derReal b) = .ok b := by
  have hdec := bits_decompose b hb
  have hs : f64Sign b ≤ 1 := by unfold f64Sign; omega
  have hF : f64Frac b < 2 ^ 52 := Nat.mod_lt _ (Nat.two_pow_pos _)
  have hE : f64Exp b < 2048 := Nat.mod_lt _ (by decide)
  by_cases hsp : f64Frac b = 0 ∧ (f64Exp b = 0 ∨ f64Exp b = 2047)
  · -- ±0 and ±∞ are four bit patterns
    have : b = 0 ∨ b = signBit ∨ b = posInf ∨ b = signBit + posInf := by
      obtain ⟨h2, h1 | h1⟩ := hsp <;> rw [h1, h2] at hdec <;> unfold signBit posInf at * <;> omega
    rcases this with rfl | rfl | rfl | rfl <;> decide
  have h1 : f64Exp b ≠ 2047 := fun h => hnan ⟨h, fun h2 => hsp ⟨h2, Or.inr h⟩⟩
  have h0 : f64Mant b ≠ 0 := by unfold f64Mant; split <;> omega
  unfold derReal
  rw [if_neg h1, if_neg h0]
  simp only []
  -- the finite non-zero case is the base-2, F = 0 instance of `REAL2double_binary_spec`
  obtain ⟨hmlt, ht, hp1, hp2⟩ := f64_bounds b h0
  have hn : f64Mant b / 2 ^ ctz (f64Mant b) * 2 ^ ctz (f64Mant b) = f64Mant b :=
    Nat.div_mul_cancel (Nat.dvd_of_mod_eq_zero (ctz_props _ h0).1)
  have hnlt : ofBE 0 (toBE (f64Mant b / 2 ^ ctz (f64Mant b))) < 2 ^ 53 := by
    rw [ofBE_toBE]; exact Nat.lt_of_le_of_lt (Nat.div_le_self _ _) hmlt
  have key := REAL2double_binary_spec (f64Sign b) 0 0 hs (by omega) (by omega) _
    (realExpOctets_length (f64Pow b + (ctz (f64Mant b) : Nat))) _ hnlt
  rw [expValue_eq_twosVal, twosVal_realExpOctets _ (by omega) (by omega), ofBE_toBE] at key
  simp only [if_true, Int.natCast_one, Int.mul_one, Int.natCast_zero, Int.add_zero, Nat.mul_zero,
    Nat.add_zero] at key
  rw [← roundToDouble_mul_pow, hn, roundToDouble_f64 b h1] at key
  rw [key, if_neg (by unfold posInf; omega)]
  congr 1
  exact hdec.symm

theorem REAL2double_double2REAL (b : Nat) (hb : b < 2 ^ 64) (hnan : ¬ f64IsNaN b) :
    REAL2double (double2REAL b) = .ok b := by
  rw [double2REAL_eq_derReal]
  exact REAL2double_derReal b hb hnan

end Asn1c.Proofs.Real
