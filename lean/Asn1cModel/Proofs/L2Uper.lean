import Asn1cModel.Proofs.L2UperEqns
import Asn1cModel.Proofs.PerSupport
import Asn1cModel.Proofs.L2Contents
import Asn1cModel.Proofs.L2Oer
/-
  Helper lemmas for the reference UPER codec (`L2/Uper.lean`): every reader inverts its writer, up to the types
  without components; the domain of the round trip (`wfP`, `canonV`).  The induction over the type is done once,
  for the version-skew encoder, in `Proofs/L2UperVariants.lean`; property theorems are in `Props/C02Uper.lean`.
-/
namespace Asn1c.Proofs.L2Uper
open Asn1c Asn1c.L2 Asn1c.Spec.Per Asn1c.Impl.PerSupport Asn1c.Proofs.PerSupport
open Asn1c.Proofs.L2Der (isAbsent RealOk)

theorem rdBits_append (n : Nat) (bits rest : Bits) (hl : bits.length = n) :
    rdBits n (bits ++ rest) = some (bitsVal 0 bits, rest) := by
  unfold rdBits
  rw [List.take_left' hl, List.drop_left' hl, if_neg (by omega)]

theorem rdBits_natBits (n v : Nat) (rest : Bits) : rdBits n (natBits n v ++ rest) = some (v % 2 ^ n, rest) := by
  rw [rdBits_append n _ rest (natBits_length n v), bitsVal_natBits]

theorem rdBits_nnbi (n v : Nat) (rest : Bits) (h : v < 2 ^ n) : rdBits n (nnbi n v ++ rest) = some (v, rest) := by
  unfold nnbi
  rw [rdBits_natBits, Nat.mod_eq_of_lt h]

/-- §10.5: a constrained whole number is read back as its offset `k` from the lower bound; `r` is the size of the range -/
theorem rdBits_constrained (l u z : Int) (r k : Nat) (hr : (u - l + 1).toNat = r) (hk : (z - l).toNat = k) (h : k < r)
    (rest : Bits) : rdBits (bitWidth r) (constrainedWholeNumber l u z ++ rest) = some (k, rest) := by
  subst hr hk
  exact rdBits_nnbi _ _ _ (lt_two_pow_bitWidth _ _ h)

theorem rdBools_append (n : Nat) (bits rest : Bits) (hl : bits.length = n) :
    rdBools n (bits ++ rest) = some (bits, rest) := by
  unfold rdBools
  rw [List.take_left' hl, List.drop_left' hl, if_neg (by omega)]

theorem rdBit_cons (b : Bool) (rest : Bits) : rdBit (b :: rest) = some (b, rest) := rfl

theorem rdLengthPrefixed_enc {α : Type} (rd : Bits → Option (α × Bits)) (ps : List (α × Bits)) (rest : Bits)
    (hrd : ∀ p ∈ ps, ∀ r, rd (p.2 ++ r) = some (p.1, r)) :
    rdLengthPrefixed rd (lengthPrefixed (ps.length + 1) (ps.map Prod.snd) ++ rest) = some (ps.map Prod.fst, rest) := by
  rw [lengthPrefixed_eq_putLoop _ _ (by simp)]
  exact getLoop_putLoop rd ps rest hrd

theorem decCounted_enc {α : Type} (lb : Nat) (ub : Option Nat) (rd : Bits → Option (α × Bits))
    (ps : List (α × Bits)) (rest : Bits)
    (hrd : ∀ p ∈ ps, ∀ r, rd (p.2 ++ r) = some (p.1, r))
    (h1 : lb ≤ ps.length) (h2 : ∀ u, ub = some u → ps.length ≤ u) :
    decCounted lb ub rd (encCounted lb ub (ps.map Prod.snd) ++ rest) = some (ps.map Prod.fst, rest) := by
  unfold decCounted encCounted
  rw [List.length_map]
  cases ub with
  | none => exact rdLengthPrefixed_enc rd ps rest hrd
  | some u =>
    have hu := h2 u rfl
    simp only
    by_cases h64 : u < 65536
    · rw [if_pos h64, if_pos h64, List.append_assoc, constrainedLength,
        rdBits_constrained lb u ps.length (u + 1 - lb) (ps.length - lb) (by omega) (by omega) (by omega)]
      simp only
      rw [Nat.add_sub_cancel' h1, if_pos hu]
      exact getItems_encoded rd ps rest hrd
    · rw [if_neg h64, if_neg h64]
      exact rdLengthPrefixed_enc rd ps rest hrd

/-- X.691 §13.1 / §16.6 / §17.3 / §20.4: an extensible constraint puts one bit in front - 0 and the form for the root,
    1 and the unconstrained form - and no bit when the constraint is not extensible; `encInt` / `decInt` and
    `encSized` / `decSized` are written in this shape -/
theorem extBit_enc {α : Type} {ext inRoot : Bool} {eR eO bits : Bits} (rest : Bits) {dR dO : Bits → Option α}
    {out : Option α}
    (h : (if inRoot then some ((if ext then [false] else []) ++ eR) else if ext then some (true :: eO) else none)
      = some bits)
    (hR : inRoot = true → dR (eR ++ rest) = out) (hO : inRoot = false → dO (eO ++ rest) = out) :
    (if ext then
      match bits ++ rest with
      | [] => none
      | false :: r => dR r
      | true :: r => dO r
    else dR (bits ++ rest)) = out := by
  cases inRoot with
  | true =>
    obtain rfl := Option.some.inj h
    cases ext <;> exact hR rfl
  | false =>
    cases ext with
    | false => cases h
    | true =>
      obtain rfl := Option.some.inj h
      exact hO rfl

theorem sizeInRoot_iff (sz : SizeC) (n : Nat) :
    sizeInRoot sz n = true ↔ sz.lb ≤ n ∧ ∀ u, sz.ub = some u → n ≤ u := by
  unfold sizeInRoot
  cases h : sz.ub <;> simp

/-- sized items with possibly different item readers inside / outside the extension root -/
theorem decSized_enc {α : Type} (sz : SizeC) (rd rdOut : Bits → Option (α × Bits)) (ps : List (α × Bits))
    (bits rest : Bits)
    (hrd : sizeInRoot sz ps.length = true → ∀ p ∈ ps, ∀ r, rd (p.2 ++ r) = some (p.1, r))
    (hrdOut : sizeInRoot sz ps.length = false → ∀ p ∈ ps, ∀ r, rdOut (p.2 ++ r) = some (p.1, r))
    (h : encSized sz (ps.map Prod.snd) = some bits) :
    decSized sz rd rdOut (bits ++ rest) = some (ps.map Prod.fst, rest) := by
  unfold encSized at h
  rw [List.length_map] at h
  refine extBit_enc rest h (fun hr => ?_) (fun hr => rdLengthPrefixed_enc rdOut ps rest (hrdOut hr))
  obtain ⟨h1, h2⟩ := (sizeInRoot_iff sz ps.length).mp hr
  exact decCounted_enc sz.lb sz.ub rd ps rest (hrd hr) h1 h2

theorem rdBits_octet (a : Nat) (h : a < 256) (r : Bits) : rdBits 8 (nnbi 8 a ++ r) = some (a, r) :=
  rdBits_nnbi 8 a r (by omega)

theorem decOctetsUnc_enc (os : Bytes) (h : os.wf) (rest : Bits) :
    decOctetsUnc (encOctetsUnc os ++ rest) = some (os, rest) := by
  unfold decOctetsUnc encOctetsUnc octetItems
  have := rdLengthPrefixed_enc (rdBits 8) (os.map fun a => (a, nnbi 8 a)) rest
    (List.forall_mem_map.mpr fun a ha r => rdBits_octet a (h a ha) r)
  rwa [(map_graph _ _).1, (map_graph _ _).2, List.length_map] at this

/-- the octets of a non-negative binary integer (X.691 §10.3) are the unsigned octets of X.696 §10.4: one function,
    written twice in the model -/
theorem nnOctets_eq : nnOctets = Oer.unsOctets := rfl

theorem decOctetsUnc_semi (l z : Int) (rest : Bits) :
    ∃ b os, decOctetsUnc (semiConstrainedWholeNumber l z ++ rest) = some (b :: os, rest) ∧
      ofBE 0 (b :: os) = (z - l).toNat := by
  have e : semiConstrainedWholeNumber l z = encOctetsUnc (nnOctets (z - l).toNat) := rfl
  rw [e, nnOctets_eq, decOctetsUnc_enc _ (L2Oer.unsOctets_wf _)]
  cases h2 : Oer.unsOctets (z - l).toNat with
  | nil => exact absurd h2 (L2Oer.unsOctets_ne_nil _)
  | cons b os => exact ⟨b, os, rfl, by rw [← h2]; exact L2Oer.unsVal_unsOctets _⟩

theorem twosOctets_eq (z : Int) : twosOctets z = intOctets z := by
  unfold twosOctets intOctets natOctets
  rfl

theorem decUnconstrainedInt_enc (z : Int) (rest : Bits) :
    decUnconstrainedInt (unconstrainedWholeNumber z ++ rest) = some (z, rest) := by
  have e : unconstrainedWholeNumber z = encOctetsUnc (twosOctets z) := rfl
  have hw : (twosOctets z).wf := by rw [twosOctets_eq]; exact L2Der.intOctets_wf z
  have hn : twosOctets z ≠ [] := by rw [twosOctets_eq]; exact L2Der.intOctets_ne_nil z
  unfold decUnconstrainedInt
  rw [e, decOctetsUnc_enc _ hw]
  cases h : twosOctets z with
  | nil => exact absurd h hn
  | cons b os =>
    simp only
    rw [← h, twosOctets_eq, L2Der.twosVal_intOctets]

theorem intInRoot_iff (c : IntC) (z : Int) :
    intInRoot c z = true ↔ (∀ l, c.lb = some l → l ≤ z) ∧ (∀ u, c.ub = some u → z ≤ u) := by
  unfold intInRoot
  cases c.lb <;> cases c.ub <;> simp

theorem decIntRoot_enc (c : IntC) (z : Int) (h : intInRoot c z = true) (rest : Bits) :
    decIntRoot c (encIntRoot c z ++ rest) = some (z, rest) := by
  obtain ⟨h1, h2⟩ := (intInRoot_iff c z).mp h
  unfold decIntRoot encIntRoot
  cases hl : c.lb with
  | none => exact decUnconstrainedInt_enc z rest
  | some l =>
    have hlz := h1 l hl
    have e : l + (((z - l).toNat : Nat) : Int) = z := by omega
    cases hu : c.ub with
    | none =>
      obtain ⟨b, os, hd, hv⟩ := decOctetsUnc_semi l z rest
      simp only [hd, hv, e]
    | some u =>
      have hzu := h2 u hu
      simp only
      rw [rdBits_constrained l u z _ (z - l).toNat rfl rfl (by omega)]
      simp only
      rw [e, if_pos hzu]

theorem decInt_enc (c : IntC) (z : Int) (bits rest : Bits) (h : encInt c z = some bits) :
    decInt c (bits ++ rest) = some (z, rest) :=
  extBit_enc rest h (fun hr => decIntRoot_enc c z hr rest) (fun _ => decUnconstrainedInt_enc z rest)

theorem decNormallySmall_enc (n : Nat) (rest : Bits) :
    decNormallySmall (normallySmall n ++ rest) = some (n, rest) := by
  unfold normallySmall
  split
  · exact rdBits_nnbi 6 n rest (by omega)
  · obtain ⟨b, os, hd, hv⟩ := decOctetsUnc_semi 0 n rest
    simp [decNormallySmall, hd, hv]

theorem decLengthDetSmall_enc (n : Nat) (h : n < 16384) (rest : Bits) :
    decLengthDetSmall (lengthDetSmall n ++ rest) = some (n, rest) := by
  unfold lengthDetSmall
  split
  · exact rdBits_nnbi 7 n rest (by omega)
  · exact rdBits_nnbi 14 n rest (by omega)

theorem decNormallySmallLength_enc (n : Nat) (h1 : 1 ≤ n) (h : n < 16384) (rest : Bits) :
    decNormallySmallLength (normallySmallLength n ++ rest) = some (n, rest) := by
  unfold normallySmallLength
  split
  · simp only [List.cons_append, decNormallySmallLength, rdBits_nnbi 6 (n - 1) rest (by omega), Option.map_some,
      Nat.sub_add_cancel h1]
  · exact decLengthDetSmall_enc n h rest

theorem getElem?_idxOf {α : Type} [BEq α] [LawfulBEq α] (l : List α) (a : α) (h : a ∈ l) :
    l[l.idxOf a]? = some a := by
  have hi : l.idxOf a < l.length := List.idxOf_lt_length_iff.mpr h
  rw [List.getElem?_eq_getElem hi]
  simp

theorem decEnumRoot_enc (root : List Int) (z : Int) (h : z ∈ root) (rest : Bits) :
    decEnumRoot root (constrainedWholeNumber 0 ((root.length : Int) - 1) (root.idxOf z) ++ rest) = some (z, rest) := by
  have hi : root.idxOf z < root.length := List.idxOf_lt_length_iff.mpr h
  unfold decEnumRoot
  rw [rdBits_constrained 0 _ _ root.length (root.idxOf z) (by omega) (by omega) hi]
  simp only
  rw [getElem?_idxOf root z h]
  rfl

theorem decEnum_enc (root : List Int) (ext : Option (List Int)) (z : Int) (bits rest : Bits)
    (h : encEnum root ext z = some bits) : decEnum root ext (bits ++ rest) = some (z, rest) := by
  unfold encEnum at h
  unfold decEnum
  split at h
  · rename_i hz
    obtain rfl := Option.some.inj h
    cases ext <;> simp [decEnumRoot_enc root z hz rest]
  · cases ext with
    | none => cases h
    | some adds =>
      simp only [Option.ite_none_right_eq_some, Option.some.injEq] at h
      obtain ⟨ha, rfl⟩ := h
      simp [decNormallySmall_enc, getElem?_idxOf adds z ha]

theorem complete_spec (x : Bits) : ∃ pad, bytesToBits (complete x) = x ++ pad ∧ (complete x).wf := by
  unfold complete
  split
  · rename_i h
    have : x = [] := by simpa using h
    subst this
    exact ⟨bytesToBits [0], by simp, by intro b hb; simp at hb; omega⟩
  · exact ⟨_, bytesToBits_bitsToBytes x, bitsToBytes_wf x⟩

theorem decOctetsUnc_openType (x tail : Bits) : decOctetsUnc (openType x ++ tail) = some (complete x, tail) := by
  obtain ⟨_, _, hw⟩ := complete_spec x
  exact decOctetsUnc_enc (complete x) hw tail

theorem encRoot_absent (m : PTy) (ms : List PTy) (a : Attr) (as : List Attr) (vs : List Val) :
    encRoot (m :: ms) (a :: as) (.absent :: vs) =
      if a.optional then
        match encRoot ms as vs with
        | some (p, b, r) => some (false :: p, b, r)
        | none => none
      else none := by
  rw [encRoot]; rfl

theorem encRoot_present (m : PTy) (ms : List PTy) (a : Attr) (as : List Attr) (v : Val) (vs : List Val)
    (hv : isAbsent v = false) :
    encRoot (m :: ms) (a :: as) (v :: vs) =
      if isDefault a v then
        match encRoot ms as vs with
        | some (p, b, r) => some (false :: p, b, r)
        | none => none
      else
        match encUPER m v, encRoot ms as vs with
        | some x, some (p, b, r) => some (if a.optional then true :: p else p, x ++ b, r)
        | _, _ => none := by
  rw [encRoot]
  · rfl
  · rintro rfl
    cases hv

theorem encRoot_rest (ms : List PTy) : ∀ (as : List Attr) (vs : List Val) (p b : Bits) (r : List Val),
    encRoot ms as vs = some (p, b, r) → r = vs.drop ms.length := by
  induction ms with
  | nil =>
    intro as vs p b r h
    rw [encRoot_nil] at h
    cases h; rfl
  | cons m ms ih =>
    intro as vs p b r
    -- the case analysis is `encRoot`'s own; it wants a variable for the list, which `hM` ties back to `m :: ms`
    generalize hM : m :: ms = M
    fun_cases encRoot M as vs
    case case1 => cases hM
    case case3 | case4 | case6 | case8 | case9 => intro h; cases h    -- the encoder fails
    case case2 | case5 | case7 => intro h; cases hM; cases h; exact ih _ _ _ _ _ ‹_›

theorem encAdds_absent (m : PTy) (ms : List PTy) (a : Attr) (as : List Attr) (vs : List Val) :
    encAdds (m :: ms) (a :: as) (.absent :: vs) =
      match encAdds ms as vs with
      | some (bm, b) => some (false :: bm, b)
      | none => none := by
  rw [encAdds]; rfl

/-- CANONICAL-PER §19.5 for an extension addition: the DEFAULT value is encoded as absent -/
theorem encAdds_default (m : PTy) (ms : List PTy) (a : Attr) (as : List Attr) (v : Val) (vs : List Val)
    (hd : isDefault a v = true) :
    encAdds (m :: ms) (a :: as) (v :: vs) = encAdds (m :: ms) (a :: as) (.absent :: vs) := by
  by_cases h : v = .absent
  · rw [h]
  · rw [encAdds_absent, encAdds, if_pos hd]
    · rfl
    · exact h

theorem encAdds_present (m : PTy) (ms : List PTy) (a : Attr) (as : List Attr) (v : Val) (vs : List Val)
    (hv : isAbsent v = false) (hd : isDefault a v = false) :
    encAdds (m :: ms) (a :: as) (v :: vs) =
      match encUPER m v, encAdds ms as vs with
      | some x, some (bm, b) => some (true :: bm, openType x ++ b)
      | _, _ => none := by
  rw [encAdds, hd]
  · rfl
  · rintro rfl
    cases hv

/-- canonical BIT STRING value `(octets, unused)`: at most 7 unused bits (none for the empty string) and the
    octets are exactly the zero-padded packing of the value's bits (i.e. octets < 256, unused bits 0) -/
def canonBits (bs : Bytes) (unused : Nat) : Bool :=
  decide (unused ≤ 7) && decide (bs = [] → unused = 0) && (bitsToBytes (bitsOfValue bs unused) == bs)

/-- element encodings are already in canonical order -/
def sortedItems (items : List Bits) : Bool := canonicalSetOf items == items

mutual
/-- canonical abstract values, i.e. the values the decoder returns: the domain of the UPER round trip (the sibling
    of `OCanon` for OER; not the DER normal form `L2Der.canonV`, which is a function on values) -/
def canonV : PTy → Val → Bool
  | .boolean, .bool _ => true
  | .null, .null => true
  | .integer _, .int _ => true
  | .enumerated _ _, .int _ => true
  | .real, .real b => decide (RealOk b) && decide (Asn1c.Impl.Real.double2REAL b).wf
  | .octstr _, .octets os => decide os.wf
  | .bitstr _, .bits bs unused => canonBits bs unused
  | .kmstr _ _ _ _, .octets os => decide os.wf
  | .unkstr, .octets os => decide os.wf
  | .seq root rattrs _ adds aattrs, .seq vs => canonRoot root rattrs vs && canonAdds adds aattrs (vs.drop root.length)
  | .choice root _ _ adds, .choice i v =>
    if i < root.length then canonAlt root i v else canonAlt adds (i - root.length) v
  | .seqOf _ e, .list vs => vs.all (canonV e)
  | .setOf _ e, .list vs =>
    vs.all (canonV e) && (match encList e vs with | some items => sortedItems items | none => false)
  | _, _ => false
def canonRoot : List PTy → List Attr → List Val → Bool
  | [], _, _ => true
  | m :: ms, a :: as, v :: vs => (isAbsent v || (!isDefault a v && canonV m v)) && canonRoot ms as vs
  | _, _, _ => false
def canonAdds : List PTy → List Attr → List Val → Bool
  | [], _, _ => true
  | m :: ms, a :: as, v :: vs => (isAbsent v || (!isDefault a v && canonV m v)) && canonAdds ms as vs
  | _, _, _ => false
def canonAlt : List PTy → Nat → Val → Bool
  | [], _, _ => false
  | a :: _, 0, v => canonV a v
  | _ :: as, i + 1, v => canonAlt as i v
end

mutual
/-- what the round trip needs of a PER-visible type: one attribute record per root component, fewer than 16K
    extension additions (the bitmap length is a normally small length), a canonical order not longer than the root -/
def wfP : PTy → Bool
  | .seq root rattrs _ adds _ => wfPs root && wfPs adds && rattrs.length == root.length && decide (adds.length < 16384)
  | .choice root order _ adds => wfPs root && wfPs adds && decide (order.length ≤ root.length)
  | .seqOf _ e => wfP e
  | .setOf _ e => wfP e
  | _ => true
def wfPs : List PTy → Bool
  | [] => true
  | m :: ms => wfP m && wfPs ms
end

theorem wfPs_iff (ms : List PTy) : wfPs ms = true ↔ ∀ m ∈ ms, wfP m = true :=
  Integer.forall_mem_of_eqns rfl (fun _ _ => rfl) ms

/-- the types without components -/
def isLeaf : PTy → Bool
  | .seq .. | .choice .. | .seqOf .. | .setOf .. => false
  | _ => true

/-- the round trip of the canonical encoder at one type; proved here for the types without components (`rt_leaf`) -/
def RT (t : PTy) : Prop :=
  ∀ v bits rest, canonV t v = true → encUPER t v = some bits → decUPER t (bits ++ rest) = some (v, rest)

theorem rt_boolean : RT .boolean := by
  intro v bits rest hc he
  cases v with
  | bool b =>
    simp only [encUPER, Option.some.injEq] at he
    subst he
    simp [decUPER]
  | _ => cases hc

theorem rt_null : RT .null := by
  intro v bits rest hc he
  cases v with
  | null =>
    obtain rfl := Option.some.inj (enc_null.symm.trans he)
    exact dec_null rest
  | _ => cases hc

theorem rt_integer (c : IntC) : RT (.integer c) := by
  intro v bits rest hc he
  cases v with
  | int z =>
    simp only [encUPER] at he
    simp only [decUPER, decInt_enc c _ bits rest he, Option.map_some]
  | _ => cases hc

theorem rt_enumerated (r : List Int) (e : Option (List Int)) : RT (.enumerated r e) := by
  intro v bits rest hc he
  cases v with
  | int z =>
    simp only [encUPER] at he
    simp only [decUPER, decEnum_enc r e _ bits rest he, Option.map_some]
  | _ => cases hc

theorem rt_real : RT .real := by
  intro v bits rest hc he
  cases v with
  | real b =>
    simp only [canonV, Bool.and_eq_true, decide_eq_true_eq] at hc
    simp only [encUPER, Option.some.injEq] at he
    subst he
    simp only [decUPER, decOctetsUnc_enc _ hc.2, L2Der.real_roundtrip _ hc.1]
  | _ => cases hc

theorem rt_unkstr : RT .unkstr := by
  intro v bits rest hc he
  cases v with
  | octets os =>
    simp only [encUPER, Option.some.injEq] at he
    subst he
    simp only [decUPER, decOctetsUnc_enc _ (of_decide_eq_true hc)]
  | _ => cases hc

theorem rt_octstr (sz : SizeC) : RT (.octstr sz) := by
  intro v bits rest hc he
  cases v with
  | octets os =>
    have hw : os.wf := of_decide_eq_true hc
    simp only [encUPER, octetItems] at he
    have hrd : ∀ p ∈ os.map (fun a => (a, nnbi 8 a)), ∀ r, rdBits 8 (p.2 ++ r) = some (p.1, r) :=
      List.forall_mem_map.mpr fun a ha r => rdBits_octet a (hw a ha) r
    have := decSized_enc sz (rdBits 8) (rdBits 8) _ bits rest (fun _ => hrd) (fun _ => hrd) (by rwa [(map_graph _ _).2])
    simp only [decUPER, this, (map_graph _ _).1]
  | _ => cases hc

theorem bitsOfValue_length (bs : Bytes) (u : Nat) : (bitsOfValue bs u).length = 8 * bs.length - u := by
  unfold bitsOfValue
  rw [List.length_take, bytesToBits_length]
  omega

theorem rt_bitstr (sz : SizeC) : RT (.bitstr sz) := by
  intro v bits rest hc he
  cases v with
  | bits bs u =>
    simp only [canonV, canonBits, Bool.and_eq_true, decide_eq_true_eq, beq_iff_eq] at hc
    obtain ⟨⟨hu, h0⟩, hb⟩ := hc
    simp only [encUPER, encBitString] at he
    rw [if_pos ⟨hu, h0⟩] at he
    have hrd : ∀ p ∈ (bitsOfValue bs u).map (fun b => (b, [b])), ∀ r, rdBit (p.2 ++ r) = some (p.1, r) :=
      List.forall_mem_map.mpr fun _ _ _ => rfl
    have := decSized_enc sz rdBit rdBit _ bits rest (fun _ => hrd) (fun _ => hrd) (by rwa [(map_graph _ _).2])
    rw [(map_graph _ _).1] at this
    have hmod : (8 - (8 * bs.length - u) % 8) % 8 = u := by
      cases bs with
      | nil => simp [h0 rfl]
      | cons b bs' => simp only [List.length_cons]; omega
    simp only [decUPER, this, valueOfBits, hb, bitsOfValue_length, hmod]
  | _ => cases hc

theorem alphaIndex_props (A : Alpha) (c i : Nat) (h : alphaIndex c A = some i) :
    i < alphaCount A ∧ c ≤ alphaMax A ∧ alphaNth i A = some c := by
  fun_induction alphaIndex c A generalizing i with
  | case1 => cases h
  | case2 lo hi r hr =>
    obtain rfl := Option.some.inj h
    simp only [alphaCount, alphaMax, alphaNth]
    exact ⟨by omega, by omega, by rw [if_pos (by omega)]; congr 1; omega⟩
  | case3 lo hi r hr ih =>
    cases h2 : alphaIndex c r with
    | none => simp [h2] at h
    | some j =>
      simp only [h2, Option.map_some, Option.some.injEq] at h
      subst h
      obtain ⟨h3, h4, h5⟩ := ih j h2
      simp only [alphaCount, alphaMax, alphaNth]
      exact ⟨by omega, by omega, by rw [if_neg (by omega), Nat.add_sub_cancel, h5]⟩

theorem decChar_enc (A : Alpha) (c : Nat) (bits r : Bits) (h : encChar A c = some bits) :
    decChar A (bits ++ r) = some (c, r) := by
  unfold encChar at h
  cases hi : alphaIndex c A with
  | none => simp [hi] at h
  | some i =>
    simp only [hi, Option.some.injEq] at h
    subst h
    obtain ⟨h1, h2, h3⟩ := alphaIndex_props A c i hi
    unfold decChar
    by_cases hv : byValue A = true
    · have hlt : c < 2 ^ charWidth A := by
        have : alphaMax A < 2 ^ charWidth A := by simpa [byValue] using hv
        omega
      simp only [hv, if_true]
      rw [rdBits_nnbi _ _ _ hlt]
      simp [hi]
    · have hlt : i < 2 ^ charWidth A := lt_two_pow_bitWidth _ _ h1
      simp only [hv, Bool.false_eq_true, if_false]
      rw [rdBits_nnbi _ _ _ hlt]
      simp [h3]

theorem mapOpt_some {α β : Type} (f : α → Option β) (xs : List α) (ys : List β) (h : mapOpt f xs = some ys) :
    ∃ ps : List (α × β), ps.map Prod.fst = xs ∧ ps.map Prod.snd = ys ∧ ∀ p ∈ ps, f p.1 = some p.2 := by
  fun_induction mapOpt f xs generalizing ys with
  | case1 => exact ⟨[], rfl, Option.some.inj h, fun _ hp => nomatch hp⟩
  | case2 a as b bs h2 h1 ih =>
    obtain ⟨ps, rfl, rfl, hps⟩ := ih bs h2
    exact ⟨(a, b) :: ps, rfl, Option.some.inj h, List.forall_mem_cons.mpr ⟨h1, hps⟩⟩
  | case3 => cases h

theorem charsOf_octets (f cw : Nat) (os : Bytes) (cs : List Nat) (hw : os.wf) (h : charsOf f cw os = some cs) :
    octetsOfChars cw cs = os := by
  fun_induction charsOf f cw os generalizing cs with
  | case1 _ os he | case3 _ _ os he =>
    obtain rfl := Option.some.inj h
    exact (List.isEmpty_iff.mp he).symm
  | case2 | case4 => cases h
  | case5 f cw os he hc ih =>
    cases h2 : charsOf f cw (os.drop cw) with
    | none => simp [h2] at h
    | some cs' =>
      simp only [h2, Option.map_some, Option.some.injEq] at h
      subst h
      have hlen : (os.take cw).length = cw := by
        have := List.length_take_le cw os
        omega
      have h3 := Integer.toBEn_ofBE (os.take cw) fun x hx => hw x (List.mem_of_mem_take hx)
      rw [hlen] at h3
      simp only [octetsOfChars, List.flatMap_cons] at ih ⊢
      rw [ih cs' (fun x hx => hw x (List.mem_of_mem_drop hx)) h2, h3, List.take_append_drop]

theorem rt_kmstr (cw : Nat) (alpha base : Alpha) (sz : SizeC) :
    RT (.kmstr cw alpha base sz) := by
  intro v bits rest hc he
  cases v with
  | octets os =>
    simp only [canonV, decide_eq_true_eq] at hc
    simp only [encUPER, encKmString] at he
    split at he
    · cases he
    rename_i cs h1
    split at he
    · cases he
    rename_i items h2
    obtain ⟨ps, rfl, rfl, h4⟩ := mapOpt_some _ _ _ h2
    rw [List.length_map] at h4
    have := decSized_enc sz (decChar alpha) (decChar base) ps bits rest
      (fun hr p hp r => decChar_enc alpha p.1 _ r (by rw [← h4 p hp, if_pos hr]))
      (fun hr p hp r => decChar_enc base p.1 _ r (by rw [← h4 p hp, if_neg (by rw [hr]; decide)])) he
    simp only [decUPER, decKmString, this, charsOf_octets _ cw os _ hc h1]
  | _ => cases hc

theorem rt_leaf : ∀ t, isLeaf t = true → RT t
  | .boolean, _ => rt_boolean
  | .null, _ => rt_null
  | .integer c, _ => rt_integer c
  | .enumerated r e, _ => rt_enumerated r e
  | .real, _ => rt_real
  | .bitstr sz, _ => rt_bitstr sz
  | .octstr sz, _ => rt_octstr sz
  | .kmstr cw a b sz, _ => rt_kmstr cw a b sz
  | .unkstr, _ => rt_unkstr

end Asn1c.Proofs.L2Uper
