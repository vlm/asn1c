import Asn1cModel.Proofs.L2XerTok
import Asn1cModel.Proofs.L2Contents
import Asn1cModel.Proofs.Bits
import Asn1cModel.Proofs.Decimal
import Mathlib.Algebra.Group.Nat.Defs
import Mathlib.Algebra.Group.Int.Defs
/-
  XER, second part: the body texts.  For each primitive type, what the encoder writes between the tags is what the
  body callback of the decoder accepts, and it gives the value back: the decimal numeral of an INTEGER
  (`intBody_intDec`), the identifier of an ENUMERATED item (`intBody_enum`), `<true/>` / `<false/>` (`boolTag`), the
  hexadecimal text of an OCTET STRING (`convHex_encHex`), the escaped text of the character strings (`convEnt_run`,
  `ctl_table`), the UTF-8 form of BMPString / UniversalString code points (`bmpOfUtf8_bmpUtf8`, `uniOfUtf8_uniUtf8`),
  the binary digits of a BIT STRING (`encBits_spec`).  The line breaks and blanks of a BASIC-XER OCTET STRING /
  BIT STRING body are taken out on the encoder's side (`strip`), so the decoder is met on the CANONICAL-XER text only.
  No tokenizer and no `xer_decode_general` here: of Proofs/L2XerTok only `nameOk` / `plainCh` are used.
-/
namespace Asn1c.Proofs.L2Xer
open Asn1c Asn1c.L2 Asn1c.L2.Xer

/-- `%ld` of a non-negative number writes its decimal numeral (the fuel `n` is enough) -/
theorem natDec_eq (n : Nat) : natDec n = Spec.Oid.decimal n :=
  Oid.decimal_of_fuel natDecF rfl (fun _ _ => rfl) n n (Nat.le_refl n)

theorem digitsVal_eq (acc : Nat) (cs : Bytes) : digitsVal acc cs = Spec.digitsVal acc cs := by
  induction cs generalizing acc with
  | nil => rfl
  | cons c cs ih => exact ih _

theorem natDec_digits (n : Nat) : (∀ c ∈ natDec n, isDigitX c = true) ∧ natDec n ≠ [] := by
  rw [natDec_eq]
  refine ⟨fun c hc => ?_, List.ne_nil_of_length_pos (Oid.decimal_length_pos n)⟩
  have := (Oid.decimal_digits n).1 c hc
  simp only [isDigitX, Bool.and_eq_true, decide_eq_true_eq]
  exact this

theorem natDec_cons (n : Nat) : ∃ d ds, natDec n = d :: ds ∧ isDigitX d = true ∧ ∀ c ∈ ds, isDigitX c = true := by
  obtain ⟨h1, h2⟩ := natDec_digits n
  obtain ⟨d, ds, e⟩ := List.exists_cons_of_ne_nil h2
  exact ⟨d, ds, e, h1 d (e ▸ List.mem_cons_self), fun c hc => h1 c (e ▸ List.mem_cons_of_mem _ hc)⟩

theorem digitsVal_natDec (n : Nat) : digitsVal 0 (natDec n) = n := by
  rw [natDec_eq, digitsVal_eq]; exact (Oid.decimal_digits n).2

theorem isDigitX_facts {c : Nat} (h : isDigitX c = true) :
    isWsP c = false ∧ c ≠ 0x2d ∧ c ≠ 0x2b ∧ c ≠ cLT := by
  simp only [isDigitX, Bool.and_eq_true, decide_eq_true_eq] at h
  refine ⟨?_, ?_, ?_, ?_⟩
  · simp [isWsP]; omega
  · omega
  · omega
  · simp [cLT]; omega

theorem intDecScan_digits (ds : Bytes) (hd : ∀ c ∈ ds, isDigitX c = true) :
    ∀ acc, intDecScan .digits acc ds = some (some (acc ++ ds)) := by
  induction ds with
  | nil => intro acc; simp [intDecScan]
  | cons d ds ih =>
    intro acc
    have hdd := hd d (by simp)
    obtain ⟨h1, h2, h3, -⟩ := isDigitX_facts hdd
    simp only [intDecScan, h1, h2, h3, hdd, if_true, or_self, if_false, Bool.false_eq_true]
    rw [ih (fun c hc => hd c (by simp [hc]))]; simp

theorem intDecScan_intDec (z : Int) : intDecScan .lead [] (intDec z) = some (some (intDec z)) := by
  unfold intDec
  split
  · obtain ⟨d, ds, he, hd, hds⟩ := natDec_cons z.natAbs
    obtain ⟨h1, h2, h3, -⟩ := isDigitX_facts hd
    rw [he]
    have hm : isWsP 45 = false := by decide
    simp only [intDecScan, hm, h1, h2, h3, hd, if_true, or_self, if_false, Bool.false_eq_true, true_or]
    rw [intDecScan_digits ds hds]; simp
  · obtain ⟨d, ds, he, hd, hds⟩ := natDec_cons z.toNat
    obtain ⟨h1, h2, h3, -⟩ := isDigitX_facts hd
    rw [he]
    simp only [intDecScan, h1, h2, h3, hd, if_true, or_self, if_false, Bool.false_eq_true]
    rw [intDecScan_digits ds hds]; simp

theorem numeralVal_intDec (z : Int) : numeralVal (intDec z) = z := by
  unfold intDec
  split
  · rename_i h
    simp only [numeralVal, digitsVal_natDec]; omega
  · rename_i h
    obtain ⟨d, ds, he, hd, _⟩ := natDec_cons z.toNat
    obtain ⟨-, h2, h3, -⟩ := isDigitX_facts hd
    have := digitsVal_natDec z.toNat
    rw [he] at this ⊢
    unfold numeralVal
    split
    · rename_i heq; cases heq; exact absurd rfl h2
    · rename_i heq; cases heq; exact absurd rfl h3
    · rw [this]; omega

theorem intDec_head (z : Int) : ∃ c r, intDec z = c :: r ∧ isWsP c = false ∧ c ≠ cLT := by
  unfold intDec
  split
  · exact ⟨45, _, rfl, by decide, by decide⟩
  · obtain ⟨d, ds, he, hd, _⟩ := natDec_cons z.toNat
    obtain ⟨h1, -, -, h4⟩ := isDigitX_facts hd
    exact ⟨d, ds, he, h1, h4⟩

theorem intDec_noLT (z : Int) : ∀ c ∈ intDec z, c ≠ cLT := by
  intro c hc
  unfold intDec at hc
  split at hc
  · simp only [List.mem_cons] at hc
    rcases hc with rfl | hc
    · decide
    · exact (isDigitX_facts ((natDec_digits _).1 c hc)).2.2.2
  · exact (isDigitX_facts ((natDec_digits _).1 c hc)).2.2.2

/-- the INTEGER values a representation holds and the XER decoder reads back: `long`; for `unsigned long` the
    whole range 0 .. 2^64-1 (finding F125 repaired: it ended at 2^63-1); for `INTEGER_t` the decimal form, which
    ends at `long` ("We model INTEGER on long for XER") -/
def intRange (r : IntRepr) (z : Int) : Prop :=
  (-(2 ^ 63) ≤ z ∧ z < 2 ^ 63 ∧ (r = .ulong → 0 ≤ z)) ∨ (r = .ulong ∧ 2 ^ 63 ≤ z ∧ z < 2 ^ 64)

instance (r : IntRepr) (z : Int) : Decidable (intRange r z) := by unfold intRange; infer_instance

theorem intRange_ulong {z : Int} : intRange .ulong z ↔ 0 ≤ z ∧ z < 2 ^ 64 := by
  simp only [intRange, true_and, true_implies]; omega

theorem intRange_signed {r : IntRepr} {z : Int} (hr : r ≠ .ulong) : intRange r z ↔ -(2 ^ 63) ≤ z ∧ z < 2 ^ 63 := by
  simp only [intRange, hr, false_and, or_false, false_implies, and_true]

theorem intOfOctets_intOctets (r : IntRepr) (z : Int) (hz : intRange r z) :
    intOfOctets r (intOctets z) = some z := by
  cases r with
  | wide => simp [intOfOctets, Asn1c.Proofs.L2Der.twosVal_intOctets]
  | long =>
    simp only [intOfOctets, Asn1c.Proofs.L2Der.twosVal_intOctets]
    rw [if_pos ((intRange_signed (by decide)).mp hz)]
  | ulong =>
    have h0 := intRange_ulong.mp hz
    obtain ⟨b, bs, he, hb, _, hv, _⟩ := Asn1c.Proofs.L2Der.natOctets_props z.toNat
    have : intOctets z = b :: bs := by unfold intOctets; rw [if_pos (by omega), he]
    simp only [intOfOctets, this, hv]
    rw [if_neg (by omega), if_pos (by omega)]
    congr 1; omega

/-- NativeInteger_encode_xer and INTEGER__dump write a value of `intRange` as its decimal numeral -/
theorem encInt_intDec {r : IntRepr} {z : Int} (hz : intRange r z) : encInt r z = some (intDec z) := by
  cases r with
  | long => rw [encInt, if_pos ((intRange_signed (by decide)).mp hz)]
  | ulong => rw [encInt, if_pos (intRange_ulong.mp hz)]
  | wide => rw [encInt, if_pos ((intRange_signed (by decide)).mp hz)]

theorem intBody_intDec (r : IntRepr) (names : List Bytes) (vals : List Int) (z : Int) (hz : intRange r z) :
    intBody r names vals (intDec z) = .consumed (.int z) := by
  obtain ⟨c, rest, he, hws, hlt⟩ := intDec_head z
  have h1 : (intDec z).dropWhile isWsP = c :: rest := by rw [he]; exact List.dropWhile_cons_of_neg (Bool.eq_false_iff.mp hws)
  have h2 := intDecScan_intDec z
  have h3 := numeralVal_intDec z
  have h4 : (-(2 ^ 63) ≤ z ∧ z < 2 ^ 63) ∨ (r = .ulong ∧ 2 ^ 63 ≤ z ∧ z < 2 ^ 64) := by
    unfold intRange at hz
    rcases hz with ⟨a, b, _⟩ | h
    · exact Or.inl ⟨a, b⟩
    · exact Or.inr h
  unfold intBody
  simp only [h1, hlt, if_false, h2, h3, h4, if_true, intOfOctets_intOctets r z hz]

/-- the enumeration map is usable: as many identifiers as values, identifiers are tag names and pairwise
    distinct, the values fit `long` -/
def enumOk (ns : List Bytes) (vs : List Int) : Prop :=
  ns.length = vs.length ∧ ns.Nodup ∧ (∀ n ∈ ns, nameOk n = true) ∧ ∀ v ∈ vs, -(2 ^ 63) ≤ v ∧ v < 2 ^ 63

/-- `INTEGER_map_value2enum` answers with an item of the map, and `INTEGER_map_enum2value` finds that item's value
    again when no identifier occurs twice -/
theorem lookupName_mem (ns : List Bytes) (vs : List Int) (z : Int) (n : Bytes) (h : lookupName ns vs z = some n) :
    n ∈ ns ∧ z ∈ vs ∧ (ns.Nodup → enumLookup.find n ns vs = some z) := by
  fun_induction lookupName ns vs z with
  | case1 a as v vs => cases h; simp [enumLookup.find]
  | case2 a as v vs z _ ih =>
    obtain ⟨h1, h2, h3⟩ := ih h
    refine ⟨by simp [h1], by simp [h2], fun hnd => ?_⟩
    have hnd' := List.nodup_cons.mp hnd
    have hne : a ≠ n := fun e => hnd'.1 (e ▸ h1)
    simp only [enumLookup.find, hne, if_false]
    exact h3 hnd'.2
  | case3 => cases h

theorem enumLookup_emptyTag (ns : List Bytes) (vs : List Int) (z : Int) (n : Bytes) (hn : nameOk n = true)
    (hnd : ns.Nodup) (h : lookupName ns vs z = some n) : enumLookup ns vs (emptyTag n) = some z := by
  unfold enumLookup
  have hb : (emptyTag n).drop 1 = n ++ cSL :: [cGT] := by simp [emptyTag]
  have htw : (n ++ cSL :: [cGT]).takeWhile
      (fun c => !(c = 9 || c = 10 || c = 11 || c = 12 || c = 13 || c = 32 || c = cSL || c = cGT)) = n := by
    rw [List.takeWhile_append_of_pos, List.takeWhile_cons_of_neg (by simp), List.append_nil]
    intro c hm
    have hc := List.all_eq_true.mp (nameOk_all hn) c hm
    obtain ⟨_, h2, _, h4, h5, _⟩ := plainCh_ne hc
    have h11 := plainCh_ne11 hc
    simp only [isWsX, Bool.or_eq_false_iff, decide_eq_false_iff_not] at h5
    simp [h2, h4, h11, h5.1.1.1.1, h5.1.1.1.2, h5.1.1.2, h5.1.2, h5.2]
  simp only [hb, htw]
  rw [if_neg (by simp)]
  exact (lookupName_mem ns vs z n h).2.2 hnd

theorem intBody_enum (ns : List Bytes) (vs : List Int) (z : Int) (n : Bytes) (hok : enumOk ns vs)
    (h : lookupName ns vs z = some n) : intBody .long ns vs (emptyTag n) = .consumed (.int z) := by
  obtain ⟨_, hnd, hnames, hvals⟩ := hok
  obtain ⟨hm, hz, -⟩ := lookupName_mem ns vs z n h
  have hn := hnames n hm
  have h1 : (emptyTag n).dropWhile isWsP = cLT :: (n ++ [cSL, cGT]) := by
    simp only [emptyTag]; exact List.dropWhile_cons_of_neg (by decide)
  unfold intBody
  have hr : intRange .long z := Or.inl ⟨(hvals z hz).1, (hvals z hz).2, by intro h; cases h⟩
  have h4 : (-(2 ^ 63) ≤ z ∧ z < 2 ^ 63) ∨ (IntRepr.long = .ulong ∧ 2 ^ 63 ≤ z ∧ z < 2 ^ 64) := Or.inl (hvals z hz)
  simp only [h1, if_true, enumLookup_emptyTag ns vs z n hn hnd h, h4, intOfOctets_intOctets .long z hr]

/-- the value tag of a BOOLEAN: `<true/>` or `<false/>`, which BOOLEAN__xer_body_decode reads back -/
theorem boolTag (b : Bool) : ∃ x, nameOk x = true ∧ (x = litTrue ∨ x = litFalse) ∧
    (if b then litTrueTag else litFalseTag) = emptyTag x ∧ boolBody (emptyTag x) = .consumed (.bool b) := by
  cases b
  · exact ⟨litFalse, by decide, Or.inr rfl, rfl, rfl⟩
  · exact ⟨litTrue, by decide, Or.inl rfl, rfl, rfl⟩

/-- the optional line break + indentation of BASIC-XER -/
def ws (c : Bool) (level : Nat) : Bytes := if c then [] else indent level

theorem indent_noLT (l : Nat) : ∀ x ∈ indent l, x ≠ cLT := by
  intro x hx
  simp only [indent, List.mem_cons, List.mem_replicate] at hx
  rcases hx with rfl | ⟨_, rfl⟩ <;> decide

theorem ws_noLT (c : Bool) (l : Nat) : ∀ x ∈ ws c l, x ≠ cLT := by
  unfold ws; split
  · intro x hx; cases hx
  · exact indent_noLT l

theorem indent_length (l : Nat) : (indent l).length = 4 * l + 1 := by simp [indent]

/-- the text without its white space.  The body decoders of OCTET STRING and BIT STRING do not see white space
    (`convHex_strip`, `convBin_strip`), and the BASIC-XER body of either is the CANONICAL-XER body with white space put
    in (`strip_hexBasic`, `strip_bitsLoop`): the layout is a matter of the encoder alone, the decoder is met on the
    CANONICAL-XER text only -/
def strip (x : Bytes) : Bytes := x.filter (!isWsX ·)

theorem strip_append (a b : Bytes) : strip (a ++ b) = strip a ++ strip b := List.filter_append ..

theorem strip_ws {w : Nat} (hw : isWsX w = true) (r : Bytes) : strip (w :: r) = strip r := by simp [strip, hw]

theorem strip_cons {c : Nat} (hc : isWsX c = false) (r : Bytes) : strip (c :: r) = c :: strip r := by simp [strip, hc]

theorem strip_indent (l : Nat) : strip (indent l) = [] := by
  simp [strip, indent, show isWsX 10 = true by decide, show isWsX 32 = true by decide]

theorem strip_brk (P : Prop) [Decidable P] (l : Nat) : strip (if P then indent l else []) = [] := by
  split
  · exact strip_indent l
  · rfl

theorem strip_of_all {x : Bytes} (h : ∀ c ∈ x, isWsX c = false) : strip x = x :=
  List.filter_eq_self.mpr fun c hc => by rw [h c hc]; rfl

theorem convHex_strip (x : Bytes) : ∀ half, convHex half (strip x) = convHex half x := by
  induction x with
  | nil => intro half; rfl
  | cons c cs ih =>
    intro half
    cases hws : isWsX c with
    | true => rw [strip_ws hws, ih, convHex, if_pos hws]
    | false =>
      rw [strip_cons hws, convHex, convHex]
      simp only [ih]

theorem hexValX_hexUp : ∀ n, n < 16 → hexValX (hexUp n) = some n ∧ isWsX (hexUp n) = false := by
  decide

theorem convHex_hex2 (b : Nat) (hb : b < 256) (r : Bytes) :
    convHex none (hex2 b ++ r) = (convHex none r).map (b :: ·) := by
  obtain ⟨h1, h2⟩ := hexValX_hexUp (b / 16 % 16) (by omega)
  obtain ⟨h3, h4⟩ := hexValX_hexUp (b % 16) (by omega)
  have e : (b / 16 % 16 * 16 + b % 16) % 256 = b := by omega
  simp only [hex2, List.cons_append, List.nil_append, convHex, h1, h2, h3, h4, e, Bool.false_eq_true, if_false]

theorem convHex_flatMap (bs : Bytes) (hb : ∀ b ∈ bs, b < 256) : convHex none (bs.flatMap hex2) = some bs := by
  induction bs with
  | nil => rfl
  | cons b bs ih =>
    rw [List.flatMap_cons, convHex_hex2 b (hb b (by simp)), ih (fun x hx => hb x (by simp [hx]))]; rfl

theorem strip_hex2 (b : Nat) : strip (hex2 b) = hex2 b := by
  have hi : isWsX (hexUp (b / 16 % 16)) = false := (hexValX_hexUp _ (Nat.mod_lt _ (by decide))).2
  have lo : isWsX (hexUp (b % 16)) = false := (hexValX_hexUp _ (Nat.mod_lt _ (by decide))).2
  rw [hex2, strip_cons hi, strip_cons lo]; rfl

theorem strip_hexBasic (il sz : Nat) : ∀ (bs : Bytes) (i : Nat), strip (hexBasic il sz i bs) = bs.flatMap hex2
  | [], _ => rfl
  | [b], i => by simp [hexBasic, strip_append, strip_brk, strip_hex2]
  | b :: b2 :: r, i => by
    simp only [hexBasic, strip_append, strip_brk, strip_hex2, strip_ws (show isWsX 32 = true by decide),
      strip_hexBasic il sz (b2 :: r) (i + 1), List.nil_append, List.flatMap_cons]

theorem convHex_encHex (c : Bool) (il : Nat) (bs : Bytes) (hb : ∀ b ∈ bs, b < 256) :
    convHex none (encHex c il bs) = some bs := by
  cases c with
  | true => exact convHex_flatMap bs hb
  | false =>
    rw [← convHex_strip, encHex, if_neg Bool.false_ne_true, strip_append, strip_hexBasic, strip_brk, List.append_nil,
      convHex_flatMap bs hb]

/-- what OCTET_STRING__convert_hexadecimal accepts is white space and hexadecimal digits: a '<' anywhere makes it fail -/
theorem convHex_LT (l r : Bytes) : ∀ half, convHex half (l ++ cLT :: r) = none := by
  induction l with
  | nil => intro half; cases half <;> rfl
  | cons c cs ih =>
    intro half
    rw [List.cons_append, convHex]
    simp only [ih, Option.map_none]
    cases half <;> cases hexValX c <;> cases isWsX c <;> rfl

theorem convHex_noLT (l : Bytes) (half : Option Nat) (a : Bytes) (h : convHex half l = some a) : ∀ x ∈ l, x ≠ cLT := by
  rintro x hx rfl
  obtain ⟨l1, l2, rfl⟩ := List.append_of_mem hx
  rw [convHex_LT] at h; cases h

/-- the character is written as an empty-element tag (`<nul/>` ...) -/
def isCtl (b : Nat) : Bool :=
  b < 32 && (match ctlNames[b]? with | some (_ :: _) => true | _ => false)

def ctlName (b : Nat) : Bytes := (ctlNames[b]?).getD []

theorem ctl_table : ∀ b, b < 32 → isCtl b = true →
    (escapeByte b = emptyTag (ctlName b) ∧ nameOk (ctlName b) = true ∧ ctlOfTag (emptyTag (ctlName b)) = some b) := by
  decide +kernel

theorem isCtl_lt {b : Nat} (h : isCtl b = true) : b < 32 := by
  simp only [isCtl, Bool.and_eq_true, decide_eq_true_eq] at h; exact h.1

/-- a character that is not written as a tag: the three markup characters become entity references, which
    OCTET_STRING__convert_entrefs resolves, every other one is written and read as it is -/
theorem convEnt_escape (f : Nat) (b : Nat) (hb : isCtl b = false) (r : Bytes) :
    convEnt (f + 1) (escapeByte b ++ r) = (convEnt f r).map (b :: ·) := by
  fun_cases escapeByte b with
  -- '&', '<', '>'; a control character that has a tag; any other character
  | case1 h | case2 _ h | case3 _ _ h => subst h; simp [convEnt, List.findIdx?_cons]
  | case4 _ _ _ hlt c cs he => simp [isCtl, hlt, he] at hb
  | case5 h1 | case6 h1 => simp [convEnt, h1]

theorem escapeByte_noLT (b : Nat) (hb : isCtl b = false) : (∀ c ∈ escapeByte b, c ≠ cLT) ∧ escapeByte b ≠ [] := by
  fun_cases escapeByte b with
  | case1 | case2 | case3 => decide
  | case4 _ _ _ hlt c cs he => simp [isCtl, hlt, he] at hb
  | case5 _ h2 | case6 _ h2 => exact ⟨by intro c hc; simp at hc; subst hc; exact h2, by simp⟩

theorem encUtf8_cons (b : Nat) (bs : Bytes) : encUtf8 (b :: bs) = escapeByte b ++ encUtf8 bs := rfl

theorem encUtf8_append (a b : Bytes) : encUtf8 (a ++ b) = encUtf8 a ++ encUtf8 b := by simp [encUtf8]

theorem convEnt_run : ∀ (run : Bytes), (∀ x ∈ run, isCtl x = false) → ∀ f, run.length ≤ f →
    convEnt f (encUtf8 run) = some run := by
  intro run
  induction run with
  | nil => intro _ f _; cases f <;> rfl
  | cons b bs ih =>
    intro h f hf
    obtain ⟨f, rfl⟩ : ∃ g, f = g + 1 := ⟨f - 1, by simp at hf; omega⟩
    rw [encUtf8_cons, convEnt_escape f b (h b (by simp)), ih (fun x hx => h x (by simp [hx])) f (by simpa using hf)]
    rfl

theorem encUtf8_run_noLT (run : Bytes) (h : ∀ x ∈ run, isCtl x = false) : ∀ c ∈ encUtf8 run, c ≠ cLT := by
  intro c hc
  obtain ⟨b, hb, hcb⟩ := List.mem_flatMap.mp hc
  exact (escapeByte_noLT b (h b hb)).1 c hcb

theorem length_le_flatMap {α β : Type} (f : α → List β) (l : List α) (h : ∀ x ∈ l, f x ≠ []) :
    l.length ≤ (l.flatMap f).length := by
  induction l with
  | nil => exact Nat.le_refl _
  | cons x xs ih =>
    have := List.length_pos_iff.mpr (h x (by simp))
    have := ih fun y hy => h y (by simp [hy])
    simp only [List.flatMap_cons, List.length_append, List.length_cons]; omega

theorem encUtf8_run_len (run : Bytes) (h : ∀ x ∈ run, isCtl x = false) : run.length ≤ (encUtf8 run).length :=
  length_le_flatMap escapeByte run fun x hx => (escapeByte_noLT x (h x hx)).2

theorem encUtf8_ctl {t : Nat} (ht : isCtl t = true) (tl : Bytes) :
    encUtf8 (t :: tl) = emptyTag (ctlName t) ++ encUtf8 tl := by
  rw [encUtf8_cons, (ctl_table t (isCtl_lt ht) ht).1]

/-- the `k` continuation octets of a code point: six bits each, most significant first -/
def contOctets : Nat → Nat → Bytes
  | 0, _ => []
  | k + 1, w => contOctets k (w / 64) ++ [0x80 + w % 64]

/-- what `UTF8String__process` checks of the continuation octets and what it reads from them: there are `k`, each is
    in 0x80 .. 0xbf, and they carry the low `6 * k` bits of the code point -/
theorem contOctets_spec (k w : Nat) : (contOctets k w).length = k ∧
    (contOctets k w).all (fun c => 0x80 ≤ c && c ≤ 0xbf) = true ∧
    ∀ a, (contOctets k w).foldl (fun acc c => acc * 64 + c % 64) a = a * 64 ^ k + w % 64 ^ k := by
  induction k generalizing w with
  | zero => exact ⟨rfl, rfl, fun a => by simp [contOctets, Nat.mod_one]⟩
  | succ k ih =>
    obtain ⟨hlen, hrange, hfold⟩ := ih (w / 64)
    refine ⟨by simp [contOctets, hlen], ?_, fun a => ?_⟩
    · simp only [contOctets, List.all_append, hrange, List.all_cons, List.all_nil, Bool.and_true, Bool.true_and,
        Bool.and_eq_true, decide_eq_true_eq]
      omega
    · rw [contOctets, List.foldl_append, hfold, Nat.pow_succ, Nat.mul_comm (64 ^ k), Nat.mod_mul, Nat.mul_left_comm]
      simp only [List.foldl_cons, List.foldl_nil]
      omega

/-- the sequence length `UTF8String__process` reads off a lead octet (0 = not a lead octet); named so that the
    table below is evaluated on a constant: with the cascade written into the statement the sweep is slow to check -/
def leadLen (ch : Nat) : Nat :=
  if ch < 0x80 then 1 else if ch < 0xc0 then 0 else if ch < 0xe0 then 2 else if ch < 0xf0 then 3
    else if ch < 0xf8 then 4 else if ch < 0xfc then 5 else if ch < 0xfe then 6 else 0

/-- the lead octet that announces `k` continuation octets is `256 - 2 ^ (7 - k)` plus `6 - k` bits of the code
    point.  The 62 lead octets 0xc0 .. 0xfd are a fixed table of the format, gone through once. -/
theorem utf8Lead : ∀ k ≤ 5, 1 ≤ k → ∀ hi < 2 ^ (6 - k),
    leadLen (256 - 2 ^ (7 - k) + hi) = k + 1 ∧ (256 - 2 ^ (7 - k) + hi) % 2 ^ (7 - k) = hi := by
  decide +kernel

/-- the form with `k` continuation octets holds the code points of `5 * k + 6` bits that are not shorter than the form
    announces (`2 ^ 7` for `k = 1`, then `2 ^ (5 * k + 1)`): the lead octet carries the bits above the `6 * k` of the
    continuation octets, and `UTF8String__process` puts the code point together again -/
theorem utf8Points_seq (k w : Nat) (hk : 1 ≤ k ∧ k ≤ 5) (hlo : 2 ^ 7 ≤ w ∧ 2 ^ (5 * k + 1) ≤ w) (hhi : w < 2 ^ (5 * k + 6))
    (r : Bytes) (f : Nat) :
    utf8Points (f + 1) ((256 - 2 ^ (7 - k) + w / 64 ^ k) :: (contOctets k w ++ r)) = (utf8Points f r).map (w :: ·) := by
  have h64 : (64 : Nat) ^ k = 2 ^ (6 * k) := by rw [Nat.pow_mul]
  have hdiv : w / 64 ^ k < 2 ^ (6 - k) := by
    rw [Nat.div_lt_iff_lt_mul (Nat.pos_of_ne_zero (by simp)), h64, ← Nat.pow_add]
    exact (show 6 - k + 6 * k = 5 * k + 6 by omega) ▸ hhi
  obtain ⟨hwant, hbits⟩ := utf8Lead k hk.2 hk.1 _ hdiv
  unfold leadLen at hwant
  obtain ⟨hlen, hrange, hfold⟩ := contOctets_spec k w
  have hfit : ¬ (contOctets k w ++ r).length + 1 < k + 1 := by rw [List.length_append, hlen]; omega
  have hexp : 8 - (k + 1) = 7 - k := by omega
  rw [utf8Points]
  simp only [hwant, Nat.add_sub_cancel, Nat.succ_ne_zero, hfit, if_false, List.take_left' hlen,
    List.drop_left' hlen, hrange, hfold, if_true, hexp, hbits, Nat.div_add_mod']
  rw [if_neg]
  -- the table of shortest code points
  obtain rfl | rfl | rfl | rfl | rfl : k = 1 ∨ k = 2 ∨ k = 3 ∨ k = 4 ∨ k = 5 := by omega
  all_goals
    simp only [Nat.reducePow, Nat.reduceMul, Nat.reduceAdd] at hlo ⊢
    omega

/-- one code point of up to 31 bits written by `utf8Enc` is read back by `UTF8String__process` -/
theorem utf8Points_utf8Enc (w : Nat) (hw : w < 2 ^ 31) (r : Bytes) (f : Nat) :
    utf8Points (f + 1) (utf8Enc w ++ r) = (utf8Points f r).map (w :: ·) := by
  fun_cases utf8Enc w with
  | case1 h1 => simp [utf8Points, h1, Nat.mod_eq_of_lt h1]
  | case2 h1 h2 => exact utf8Points_seq 1 w (by omega) (by omega) (by omega) r f
  | case3 h1 h2 h3 => exact utf8Points_seq 2 w (by omega) (by omega) (by omega) r f
  | case4 h1 h2 h3 h4 =>
    simpa [contOctets, Nat.div_div_eq_div_mul] using utf8Points_seq 3 w (by omega) (by omega) (by omega) r f
  | case5 h1 h2 h3 h4 h5 =>
    simpa [contOctets, Nat.div_div_eq_div_mul] using utf8Points_seq 4 w (by omega) (by omega) (by omega) r f
  | case6 h1 h2 h3 h4 h5 =>
    rw [Nat.mod_eq_of_lt (by omega : w / 1073741824 < 2)]
    simpa [contOctets, Nat.div_div_eq_div_mul] using utf8Points_seq 5 w (by omega) (by omega) (by omega) r f

theorem utf8Enc_ne_nil (w : Nat) : utf8Enc w ≠ [] := by
  simp only [utf8Enc, ne_eq, apply_ite (· = []), List.cons_ne_nil, ite_self, not_false_eq_true]

theorem utf8Points_nil (f : Nat) : utf8Points (f + 1) [] = some [] := by simp [utf8Points]

/-- a text written code point by code point (`BMPString__dump`, `UniversalString__dump`) is read back -/
theorem utf8Points_flatMap : ∀ (ps : List Nat), (∀ p ∈ ps, p < 2 ^ 31) → ∀ f, ps.length < f →
    utf8Points f (ps.flatMap utf8Enc) = some ps := by
  intro ps
  induction ps with
  | nil =>
    intro _ f hf
    obtain ⟨f, rfl⟩ : ∃ g, f = g + 1 := ⟨f - 1, by omega⟩
    exact utf8Points_nil f
  | cons p ps ih =>
    intro h f hf
    obtain ⟨f, rfl⟩ : ∃ g, f = g + 1 := ⟨f - 1, by omega⟩
    rw [List.flatMap_cons, utf8Points_utf8Enc p (h p (by simp)),
      ih (fun q hq => h q (by simp [hq])) f (by simpa using hf)]
    rfl

/-- a BMPString value: an even number of octets -/
def bmpOk : Bytes → Bool
  | a :: b :: r => decide (a < 256) && decide (b < 256) && bmpOk r
  | [] => true
  | _ => false

/-- a UniversalString value: a multiple of four octets, code points below 2^31 (the six-octet UTF-8 form of
    UniversalString__dump has 31 bits) -/
def uniOk : Bytes → Bool
  | a :: b :: c :: d :: r => decide (a < 128) && decide (b < 256) && decide (c < 256) && decide (d < 256) && uniOk r
  | [] => true
  | _ => false

theorem bmpOfUtf8_bmpUtf8 (bs : Bytes) (h : bmpOk bs = true) : bmpOfUtf8 (bmpUtf8 bs) = some bs := by
  -- the 16-bit characters as code points
  have key : ∃ ps : List Nat, bmpUtf8 bs = ps.flatMap utf8Enc ∧ (∀ p ∈ ps, p ≤ 0xffff) ∧
      (ps.flatMap fun p => [p / 256 % 256, p % 256]) = bs := by
    induction bs using bmpOk.induct with
    | case1 a b r ih =>
      simp only [bmpOk, Bool.and_eq_true, decide_eq_true_eq] at h
      obtain ⟨ps, h1, h2, h3⟩ := ih h.2
      refine ⟨(a * 256 + b) :: ps, by rw [bmpUtf8, h1]; rfl, ?_, ?_⟩
      · intro p hp
        rcases List.mem_cons.mp hp with rfl | hp
        · omega
        · exact h2 p hp
      · rw [List.flatMap_cons, h3]
        show _ :: _ :: r = _
        congr 2 <;> omega
    | case2 => exact ⟨[], rfl, by simp, rfl⟩
    | case3 x _ _ => simp [bmpOk] at h
  obtain ⟨ps, h1, h2, h3⟩ := key
  have hfuel := length_le_flatMap utf8Enc ps fun p _ => utf8Enc_ne_nil p
  rw [bmpOfUtf8, h1, utf8Points_flatMap ps (fun p hp => by have := h2 p hp; omega) _ (by omega)]
  simp only [List.all_eq_true, decide_eq_true_eq, h3]
  exact if_pos h2

theorem uniOfUtf8_uniUtf8 (bs : Bytes) (h : uniOk bs = true) : uniOfUtf8 (uniUtf8 bs) = some bs := by
  -- the 32-bit characters as code points
  have key : ∃ ps : List Nat, uniUtf8 bs = ps.flatMap utf8Enc ∧ (∀ p ∈ ps, p < 2 ^ 31) ∧
      (ps.flatMap fun p => [p / 16777216 % 256, p / 65536 % 256, p / 256 % 256, p % 256]) = bs := by
    induction bs using uniOk.induct with
    | case1 a b c d r ih =>
      simp only [uniOk, Bool.and_eq_true, decide_eq_true_eq] at h
      obtain ⟨ps, h1, h2, h3⟩ := ih h.2
      refine ⟨(((a * 256 + b) * 256 + c) * 256 + d) :: ps, by rw [uniUtf8, h1]; rfl, ?_, ?_⟩
      · intro p hp
        rcases List.mem_cons.mp hp with rfl | hp
        · omega
        · exact h2 p hp
      · rw [List.flatMap_cons, h3]
        show _ :: _ :: _ :: _ :: r = _
        congr 4 <;> omega
    | case2 => exact ⟨[], rfl, by simp, rfl⟩
    | case3 x _ _ => simp [uniOk] at h
  obtain ⟨ps, h1, h2, h3⟩ := key
  have hfuel := length_le_flatMap utf8Enc ps fun p _ => utf8Enc_ne_nil p
  simp only [uniOfUtf8, h1, utf8Points_flatMap ps h2 _ (Nat.lt_succ_of_le hfuel), h3]

/-- OCTET_STRING__convert_binary reads character by character: the bits of a concatenation are the bits of the parts -/
theorem convBin_append (x r : Bytes) :
    convBin (x ++ r) = (convBin x).bind fun a => (convBin r).map fun b => a ++ b := by
  induction x with
  | nil => cases h : convBin r <;> simp [convBin, h]
  | cons c cs ih =>
    simp only [List.cons_append, convBin]
    split
    · exact ih
    · split
      · rw [ih]; cases convBin cs <;> cases convBin r <;> simp
      · split
        · rw [ih]; cases convBin cs <;> cases convBin r <;> simp
        · rfl

/-- what it accepts is white space, '0' and '1': a '<' anywhere makes it fail -/
theorem convBin_LT (l r : Bytes) : convBin (l ++ cLT :: r) = none := by
  rw [convBin_append, show convBin (cLT :: r) = none from rfl]
  cases convBin l <;> rfl

theorem convBin_noLT (l : Bytes) (a : List Bool) (h : convBin l = some a) : ∀ x ∈ l, x ≠ cLT := by
  rintro x hx rfl
  obtain ⟨l1, l2, rfl⟩ := List.append_of_mem hx
  rw [convBin_LT] at h; cases h

theorem convBin_map_bit (l : List Bool) : convBin (l.map fun b => if b then 0x31 else 0x30) = some l := by
  induction l with
  | nil => rfl
  | cons b l ih => cases b <;> simp [convBin, isWsX, ih]

theorem bits8_eq (v : Nat) : bits8 v = (natBits 8 v).map fun b => if b then 0x31 else 0x30 := by
  have bit : ∀ x : Nat, 48 + x % 2 = if x % 2 == 1 then 0x31 else 0x30 := by
    intro x; rcases Nat.mod_two_eq_zero_or_one x with h | h <;> simp [h]
  simp only [← PerSupport.byteBits_eq, bits8, byteBits, List.map, bit]

theorem bits8_flatMap (bs : Bytes) : bs.flatMap bits8 = (bytesToBits bs).map fun b => if b then 0x31 else 0x30 := by
  induction bs with
  | nil => rfl
  | cons b bs ih => rw [List.flatMap_cons, PerSupport.bytesToBits_cons, List.map_append, ih, bits8_eq]

theorem convBin_strip (x : Bytes) : convBin (strip x) = convBin x := by
  induction x with
  | nil => rfl
  | cons c cs ih =>
    cases hws : isWsX c with
    | true => rw [strip_ws hws, ih, convBin, if_pos hws]
    | false => rw [strip_cons hws, convBin, convBin, ih]

theorem bits8_noWs (v c : Nat) (hc : c ∈ bits8 v) : isWsX c = false := by
  rw [bits8_eq] at hc
  obtain ⟨b, -, rfl⟩ := List.mem_map.mp hc
  cases b <;> rfl

theorem strip_bitsLoop (il : Nat) (input : Bytes) (i : Nat) (pend : Bytes) :
    strip (bitsLoop il i pend input).1 ++ strip (bitsLoop il i pend input).2 = strip pend ++ input.flatMap bits8 := by
  fun_induction bitsLoop il i pend input with
  | case1 i pend => simp [strip]
  | case2 i pend b r _ o p heq ih =>
    rw [heq] at ih
    rw [strip_append, strip_append, strip_indent, List.append_nil, List.append_assoc, ih,
      strip_of_all (bits8_noWs b), List.flatMap_cons]
  | case3 i pend b r _ ih =>
    rw [ih, strip_append, strip_of_all (bits8_noWs b), List.append_assoc, List.flatMap_cons]

/-- the BASIC-XER body of a BIT STRING is read like the CANONICAL-XER body -/
theorem convBin_encBits (c : Bool) (il : Nat) (bs : Bytes) (u : Nat) :
    convBin (encBits c il bs u) = convBin (encBits true il bs u) := by
  cases c with
  | true => rfl
  | false =>
    rw [← convBin_strip]
    simp only [encBits, Bool.false_eq_true, if_false, if_true, strip_append, strip_brk, strip_indent, List.append_nil,
      strip_bitsLoop, show strip [] = [] from rfl, List.nil_append]
    congr 2
    split
    · exact strip_of_all fun c hc => bits8_noWs _ c (List.mem_of_mem_take hc)
    · rfl

/-- the BIT STRING values that round-trip: octets, at most 7 unused bits in the last octet and those are zero
    (an empty string has none) -/
def bitsOk (bs : Bytes) (u : Nat) : Bool :=
  bs.all (· < 256) && decide (u < 8) &&
    (match bs.getLast? with
     | none => u == 0
     | some v => v % 2 ^ u == 0)

/-- `packBits` is `bitsToBytes` with the recursion counted out (the fuel `bs.length` is enough) -/
theorem packBits_eq (bs : List Bool) : packBits bs = bitsToBytes bs := by
  suffices h : ∀ f (bs : List Bool), bs.length ≤ f → packBitsF f bs = bitsToBytes bs from h _ bs (Nat.le_refl _)
  intro f bs
  fun_induction packBitsF f bs with
  | case1 bs => intro h; rw [List.length_eq_zero_iff.mp (Nat.le_zero.mp h), PerSupport.bitsToBytes_nil]
  | case2 f => intro _; rw [PerSupport.bitsToBytes_nil]
  | case3 f bs he ih =>
    intro h
    have := List.length_pos_iff.mpr he
    rw [PerSupport.bitsToBytes_ne bs he, ih (by rw [List.length_drop]; omega)]

theorem encBits_spec (c : Bool) (il : Nat) (bs : Bytes) (u : Nat) (hok : bitsOk bs u = true) :
    ∃ bits, convBin (encBits c il bs u) = some bits ∧ packBits bits = bs ∧ (8 - bits.length % 8) % 8 = u := by
  rw [convBin_encBits]
  simp only [bitsOk, Bool.and_eq_true, List.all_eq_true, decide_eq_true_eq] at hok
  obtain ⟨⟨hb, hu⟩, hlast⟩ := hok
  cases hl : bs.getLast? with
  | none =>
    obtain rfl : bs = [] := List.getLast?_eq_none_iff.mp hl
    obtain rfl : u = 0 := by simpa using hlast
    exact ⟨[], rfl, rfl, rfl⟩
  | some v =>
    obtain ⟨full, rfl⟩ := List.getLast?_eq_some_iff.mp hl
    rw [hl] at hlast
    simp only [beq_iff_eq] at hlast
    have hlen : ((natBits 8 v).take (8 - u)).length = 8 - u :=
      List.length_take_of_le (by rw [PerSupport.natBits_length]; omega)
    have hpad : (8 - (bytesToBits full ++ (natBits 8 v).take (8 - u)).length % 8) % 8 = u := by
      rw [List.length_append, PerSupport.bytesToBits_length, hlen]; omega
    refine ⟨bytesToBits full ++ (natBits 8 v).take (8 - u), ?_, ?_, hpad⟩
    · simp only [encBits, hl, if_true, List.length_append, List.length_singleton, Nat.add_sub_cancel, List.take_left']
      rw [bits8_flatMap, bits8_eq, ← List.map_take, ← List.map_append, convBin_map_bit]
    · -- `bitsToBytes` fills the last octet with `u` zero bits, which are the bits of `v` that were left out
      rw [packBits_eq]
      refine PerSupport.bytesToBits_inj _ _ (PerSupport.bitsToBytes_wf _) hb ?_
      rw [PerSupport.bytesToBits_bitsToBytes, hpad, List.append_assoc, PerSupport.natBits_take_pad (by omega) hlast,
        PerSupport.bytesToBits_append, PerSupport.bytesToBits_cons, show bytesToBits [] = [] from rfl, List.append_nil]

end Asn1c.Proofs.L2Xer
