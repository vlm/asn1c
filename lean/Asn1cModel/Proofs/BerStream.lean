import Asn1cModel.Impl.BerStream
import Asn1cModel.Proofs.BerFetch
/-
  The streaming BER decoder model (Impl/BerStream.lean).  First its readers: `ber_check_tags` and `ber_skip_length` on
  a buffer against the same call with octets appended (what they report consumed, and that a verdict stands), and what
  the primitive decoders answer and consume.  Then the driver `iterate`: it reports `consumed ≤ size` when every
  iteration does (`iterate_le`); and what its run, read as a relation without fuel (`Runs`), becomes when octets are
  appended (`runs_ext`) turns per-iteration laws into `LawfulRc` (`lawfulRc_of_itLaws`).
-/
namespace Asn1c.Proofs.BerStream
open Asn1c Asn1c.Impl.BerTlv Asn1c.Impl.Restart Asn1c.Impl.BerStream Asn1c.Proofs.BerTlv

theorem ite_rel {α β : Type} {R : α → β → Prop} {c : Prop} [Decidable c] {a b : α} {a' b' : β}
    (ht : c → R a a') (hf : ¬ c → R b b') : R (if c then a else b) (if c then a' else b') := by
  by_cases h : c
  · rw [if_pos h, if_pos h]; exact ht h
  · rw [if_neg h, if_neg h]; exact hf h

theorem fetchTag_le {p : Bytes} {v : Tag} {u : Nat} (h : fetchTag p = .ok v u) : 1 ≤ u ∧ u ≤ p.length :=
  (fetchTag_ext p []).out h

theorem fetchLength_le {c : Bool} {p : Bytes} {v : Int} {u : Nat} (h : fetchLength c p = .ok v u) : u ≤ p.length :=
  ((fetchLength_ext c p []).out h).2.1

/-- what `ctLoop` hands to its next turn under a definite length, the buffer clamped to `limit` octets, grows by a
    (possibly empty) piece when octets are appended -/
theorem clamp_append (rest ext : Bytes) (limit : Int) :
    ∃ x, (if ((rest ++ ext).length : Int) > limit then (rest ++ ext).take limit.toNat else rest ++ ext) =
      (if (rest.length : Int) > limit then rest.take limit.toNat else rest) ++ x := by
  by_cases h : (rest.length : Int) > limit
  · refine ⟨[], ?_⟩
    rw [if_pos h, if_pos (by simp only [List.length_append]; omega), List.take_append_of_le_length (by omega), List.append_nil]
  · rw [if_neg h]
    by_cases h2 : ((rest ++ ext).length : Int) > limit
    · exact ⟨ext.take (limit.toNat - rest.length), by
        rw [if_pos h2, List.take_append, List.take_of_length_le (by omega)]⟩
    · exact ⟨ext, by rw [if_neg h2]⟩

/-- what `ber_check_tags` may report as consumed: at most `hi`; at least `lo` with RC_OK; nothing without RC_OK
    when it was given no context -/
def CtCons (hasCtx : Bool) (lo hi : Nat) (r : CT) : Prop :=
  r.consumed ≤ hi ∧ (r.rc = .ok → lo ≤ r.consumed) ∧ (hasCtx = false → r.rc ≠ .ok → r.consumed = 0)

/-- a verdict of `ber_check_tags` reached on a prefix is never revised -/
def CTExt (a b : CT) : Prop := a.rc ≠ .more → b = a

/-- the answer `a` of `ber_check_tags` on a buffer against its answer `b` once octets are appended: what `a` reports
    consumed (`CtCons`), and that a verdict stands (`CTExt`) -/
def CtRel (hasCtx : Bool) (lo hi : Nat) (a b : CT) : Prop := CtCons hasCtx lo hi a ∧ CTExt a b

theorem CtRel.mono {hc : Bool} {lo hi lo' hi' : Nat} {a b : CT} (h : CtRel hc lo hi a b) (hlo : lo' ≤ lo)
    (hhi : hi ≤ hi') : CtRel hc lo' hi' a b :=
  ⟨⟨Nat.le_trans h.1.1 hhi, fun hok => Nat.le_trans hlo (h.1.2.1 hok), h.1.2.2⟩, h.2⟩

/-- `RETURN` of `ber_check_tags` with `cons` octets counted so far -/
theorem CtRel.ret {hc : Bool} {rc : Rc} {cons lo hi : Nat} {b : CT} {step : Nat} {l c : Int}
    (hlo : rc = .ok → lo ≤ cons) (hhi : cons ≤ hi) (hb : rc ≠ .more → b = ctRet hc rc cons step l c) :
    CtRel hc lo hi (ctRet hc rc cons step l c) b := by
  -- `ctRet` reports `cons`; without a context and with `rc` other than RC_OK it reports 0
  refine ⟨⟨?_, fun (hok : rc = .ok) => ?_, fun hctx (hne : rc ≠ .ok) => ?_⟩, hb⟩
  · show (if _ then cons else 0) ≤ hi
    split <;> omega
  · show lo ≤ if _ then cons else 0
    rw [if_pos (by rw [hok]; rfl)]; exact hlo hok
  · show (if _ then cons else 0) = 0
    rw [if_neg (by rw [hctx, Bool.or_false, beq_iff_eq]; exact hne)]

/-- the loop of `ber_check_tags` on `bs` and on `bs ++ ext`: what it may report consumed (a turn takes at least one
    octet), and that a verdict stands -/
theorem ctLoop_spec (tags : List Tag) (tm lf : Int) (hc : Bool) :
    ∀ rem tagno step limit e00 tlvLen constr cons bs ext,
      CtRel hc (cons + min rem 1) (cons + bs.length) (ctLoop tags tm lf hc rem tagno step limit e00 tlvLen constr cons bs)
        (ctLoop tags tm lf hc rem tagno step limit e00 tlvLen constr cons (bs ++ ext)) := by
  intro rem
  induction rem with
  | zero => intros; rw [ctLoop, ctLoop]; exact .ret (fun _ => Nat.le_refl _) (Nat.le_add_right ..) fun _ => rfl
  | succ rem ih =>
    intro tagno step limit e00 tlvLen constr cons bs ext
    have bad : ∀ l c, CtRel hc (cons + min (rem + 1) 1) (cons + bs.length) (ctRet hc .fail cons step l c)
        (ctRet hc .fail cons step l c) := fun l c => .ret nofun (Nat.le_add_right ..) fun _ => rfl
    have wait : ∀ l c b, CtRel hc (cons + min (rem + 1) 1) (cons + bs.length) (ctRet hc .more cons step l c) b :=
      fun l c b => .ret nofun (Nat.le_add_right ..) fun h => absurd rfl h
    rw [ctLoop, ctLoop]
    refine (fetchTag_ext bs ext).elim (fun _ => wait ..) (bad ..) fun tag tl htl => ?_
    simp only [headD_append bs ext 0 (by omega), List.drop_append_of_le_length htl.2]
    refine ite_rel (fun _ => bad ..) fun _ => ite_rel (fun _ => bad ..) fun _ => ?_
    refine (fetchLength_ext _ (bs.drop tl) ext).elim (fun _ => wait ..) (bad ..) fun len ll hll => ?_
    rw [List.length_drop] at hll
    simp only [List.drop_append_of_le_length (l₁ := bs) (i := tl + ll) (by omega)]
    -- the next turn sees what is left of the buffer (clamped to a definite length), longer by a piece of `ext`
    refine ite_rel (fun _ => ite_rel (fun _ => ?_) fun _ => bad ..) fun _ => ?_
    · exact (ih ..).mono (by omega) (by rw [List.length_drop]; omega)
    refine ite_rel (fun _ => bad ..) fun _ => ite_rel (fun _ => bad ..) fun _ => ite_rel (fun _ => bad ..) fun _ => ?_
    obtain ⟨x, hx⟩ := clamp_append (bs.drop (tl + ll)) ext (len + tl + ll - (tl + ll))
    rw [hx]
    refine (ih ..).mono (by omega) ?_
    split <;> simp only [List.length_take, List.length_drop] <;> omega

theorem checkTagsRaw_spec (tags : List Tag) (cs : Option Nat) (tm lf : Int) (bs ext : Bytes) :
    CtRel cs.isSome 1 bs.length (checkTagsRaw tags cs tm lf bs) (checkTagsRaw tags cs tm lf (bs ++ ext)) := by
  have bad : ∀ l c, CtRel cs.isSome 1 bs.length (ctRet cs.isSome .fail 0 (cs.getD 0) l c)
      (ctRet cs.isSome .fail 0 (cs.getD 0) l c) := fun l c => .ret nofun (Nat.zero_le _) fun _ => rfl
  have wait : ∀ l c b, CtRel cs.isSome 1 bs.length (ctRet cs.isSome .more 0 (cs.getD 0) l c) b :=
    fun l c b => .ret nofun (Nat.zero_le _) fun h => absurd rfl h
  unfold checkTagsRaw
  refine ite_rel (fun _ => ?_) fun _ => ite_rel (fun _ => ?_) fun _ => bad ..
  · refine (fetchTag_ext bs ext).elim (fun _ => wait ..) (bad ..) fun tag tl htl => ?_
    simp only [headD_append bs ext 0 (by omega), List.drop_append_of_le_length htl.2]
    refine (fetchLength_ext _ (bs.drop tl) ext).elim (fun _ => wait ..) (bad ..) fun len ll hll => ?_
    rw [List.length_drop] at hll
    simp only [List.drop_append_of_le_length (l₁ := bs) (i := tl + ll) (by omega)]
    exact (ctLoop_spec ..).mono (by omega) (by rw [List.length_drop]; omega)
  · exact (ctLoop_spec ..).mono (by omega) (by omega)

theorem checkTags_cons (tags : List Tag) (cs : Option Nat) (tm lf : Int) (bs : Bytes) :
    CtCons cs.isSome 1 bs.length (checkTags tags cs tm lf bs) := by
  unfold checkTags
  refine iteInduction (motive := (CtCons _ _ _ ·)) (fun h => ?_) fun _ => (checkTagsRaw_spec tags cs tm lf bs []).1
  refine ⟨Nat.zero_le _, fun hok => ?_, fun _ _ => rfl⟩
  rw [beq_iff_eq] at h
  exact absurd (h.symm.trans hok) nofun

theorem checkTags_le (tags : List Tag) (cs : Option Nat) (tm lf : Int) (bs : Bytes) :
    (checkTags tags cs tm lf bs).consumed ≤ bs.length := (checkTags_cons ..).1

theorem checkTags_ext (tags : List Tag) (cs : Option Nat) (tm lf : Int) (bs ext : Bytes) :
    CTExt (checkTags tags cs tm lf bs) (checkTags tags cs tm lf (bs ++ ext)) := by
  intro hne
  have hraw : (checkTagsRaw tags cs tm lf bs).rc ≠ .more := by
    intro h; apply hne; unfold checkTags; simp [h]
  have := (checkTagsRaw_spec tags cs tm lf bs ext).2 hraw
  unfold checkTags
  rw [this]

/-- RC_WMORE from `ber_check_tags` means nothing was consumed and the saved step is unchanged, whatever the length
    of the tag chain: the restart repeats the call on the same state -/
theorem checkTags_more (tags : List Tag) (cs : Option Nat) (tm lf : Int) (bs : Bytes)
    (h : (checkTags tags cs tm lf bs).rc = .more) :
    (checkTags tags cs tm lf bs).consumed = 0 ∧ (checkTags tags cs tm lf bs).step = cs.getD 0 := by
  unfold checkTags at h ⊢
  by_cases hr : (checkTagsRaw tags cs tm lf bs).rc = .more
  · simp [hr]
  · simp [hr] at h

theorem skip_ext : ∀ f,
    (∀ c p q, Fetch.ExtP (fun _ n => 1 ≤ n ∧ n ≤ p.length) (skipLength f c p) (skipLength f c (p ++ q))) ∧
    (∀ p q skip, Fetch.ExtP (fun _ n => skip ≤ n ∧ n ≤ skip + p.length) (skipIndef f p skip) (skipIndef f (p ++ q) skip)) := by
  intro f
  induction f with
  | zero => exact ⟨fun _ _ _ => .fail, fun _ _ _ => .fail⟩
  | succ f ih =>
    obtain ⟨ih1, ih2⟩ := ih
    constructor
    · intro c p q
      unfold skipLength
      refine (fetchLength_ext c p q).elim (fun _ => .more) .fail fun vlen ll hll => ?_
      by_cases hv : vlen ≥ 0
      · simp only [hv, if_true]
        by_cases hm : ll + vlen.toNat > p.length
        · rw [if_pos hm]; exact .more
        · rw [if_neg hm, if_neg (by simp only [List.length_append]; omega)]
          exact .ok (by omega)
      · simp only [hv, if_false, List.drop_append_of_le_length hll.2.1]
        exact (ih2 (p.drop ll) q ll).mono fun _ n h => by rw [List.length_drop] at h; omega
    · intro p q skip
      unfold skipIndef
      refine (fetchTag_ext p q).elim (fun _ => .more) .fail fun tag tl htl => ?_
      simp only [headD_append p q 0 (by omega), List.drop_append_of_le_length htl.2]
      refine (ih1 _ (p.drop tl) q).elim (fun _ => .more) .fail fun u ll hll => ?_
      rw [List.length_drop] at hll
      simp only [headD_append p q 1 (by omega), List.drop_append_of_le_length (l₁ := p) (i := 1) (by omega),
        headD_append (p.drop 1) q 1 (by rw [List.length_drop]; omega)]
      refine ite_rel (fun _ => .ok (by omega)) fun _ => ?_
      rw [List.drop_append_of_le_length (by omega)]
      exact (ih2 (p.drop (tl + ll)) q (skip + tl + ll)).mono fun _ n h => by rw [List.length_drop] at h; omega

theorem skipLength_ext (f : Nat) (c : Bool) (p q : Bytes) :
    Fetch.ExtP (fun _ n => 1 ≤ n ∧ n ≤ p.length) (skipLength f c p) (skipLength f c (p ++ q)) := (skip_ext f).1 c p q

theorem primBody_shape (k : PKind) (st : Option PVal) (cons len : Nat) (content : Bytes) :
    primBody k st cons len content = (.prim st, .fail, 0) ∨
      ∃ v, primBody k st cons len content = (.prim (some v), .ok, cons + len) := by
  cases k with
  | nint u =>
    cases u
    · unfold primBody
      cases Asn1c.Impl.Integer.INTEGER2long content with
      | ok v => exact Or.inr ⟨_, rfl⟩
      | _ => exact Or.inl rfl
    · unfold primBody
      cases Asn1c.Impl.Integer.INTEGER2ulong content with
      | ok v => exact Or.inr ⟨_, rfl⟩
      | _ => exact Or.inl rfl
  | _ => exact Or.inr ⟨_, rfl⟩

theorem primTail_enough (k : PKind) (hk : k ≠ .null) (st : Option PVal) (cons : Nat) (len : Int) (rest : Bytes)
    (h : ¬ len > (rest.length : Int)) :
    primTail k st cons len rest = primBody k st cons len.toNat (rest.take len.toNat) := by
  unfold primTail
  rw [if_neg (by simpa using hk), if_neg h]

theorem primTail_shape (k : PKind) (st : Option PVal) (cons : Nat) (len : Int) (rest : Bytes) :
    primTail k st cons len rest = (.prim st, .more, 0) ∨ primTail k st cons len rest = (.prim st, .fail, 0) ∨
      ∃ v n, primTail k st cons len rest = (.prim (some v), .ok, n) ∧ cons ≤ n ∧ n ≤ cons + rest.length := by
  unfold primTail
  by_cases hk : (k == PKind.null) = true
  · rw [if_pos hk]
    by_cases hl : (len != 0) = true
    · rw [if_pos hl]; exact Or.inr (Or.inl rfl)
    · rw [if_neg hl]; exact Or.inr (Or.inr ⟨_, _, rfl, Nat.le_refl _, Nat.le_add_right _ _⟩)
  · rw [if_neg hk]
    by_cases hl : len > (rest.length : Int)
    · rw [if_pos hl]; exact Or.inl rfl
    · rw [if_neg hl]
      rcases primBody_shape k st cons len.toNat (rest.take len.toNat) with h | ⟨v, h⟩
      · exact Or.inr (Or.inl h)
      · exact Or.inr (Or.inr ⟨v, _, h, Nat.le_add_right _ _, by omega⟩)

theorem decPrim_of_ok {tags : List Tag} {k : PKind} {tm : Int} {node : Node} {bs : Bytes}
    (h : (checkTags tags none tm 0 bs).rc = .ok) :
    decPrim tags k tm node bs =
      primTail k (primSt node) (checkTags tags none tm 0 bs).consumed (checkTags tags none tm 0 bs).lastLen
        (bs.drop (checkTags tags none tm 0 bs).consumed) := by
  unfold decPrim; simp only [h, bne_self_eq_false, Bool.false_eq_true, if_false]

theorem decPrim_of_ne {tags : List Tag} {k : PKind} {tm : Int} {node : Node} {bs : Bytes}
    (h : (checkTags tags none tm 0 bs).rc ≠ .ok) :
    decPrim tags k tm node bs = (.prim (primSt node), (checkTags tags none tm 0 bs).rc, 0) := by
  unfold decPrim
  simp only [bne_iff_ne, ne_eq, h, not_false_eq_true, if_true, (checkTags_cons tags none tm 0 bs).2.2 rfl h]

/-- BOOLEAN / NULL / NativeInteger / NativeEnumerated / `ber_decode_primitive`: without RC_OK the structure keeps what
    it had and nothing is reported consumed; with RC_OK a value is stored and at least the tags were consumed -/
theorem decPrim_shape (tags : List Tag) (k : PKind) (tm : Int) (node : Node) (bs : Bytes) :
    (∃ rc, rc ≠ .ok ∧ decPrim tags k tm node bs = (.prim (primSt node), rc, 0)) ∨
      ∃ v n, decPrim tags k tm node bs = (.prim (some v), .ok, n) ∧ 1 ≤ n ∧ n ≤ bs.length := by
  by_cases hok : (checkTags tags none tm 0 bs).rc = .ok
  · have hc := checkTags_cons tags none tm 0 bs
    rw [decPrim_of_ok hok]
    rcases primTail_shape k (primSt node) (checkTags tags none tm 0 bs).consumed (checkTags tags none tm 0 bs).lastLen
      (bs.drop (checkTags tags none tm 0 bs).consumed) with e | e | ⟨v, n, e, h1, h2⟩
    · exact Or.inl ⟨.more, nofun, e⟩
    · exact Or.inl ⟨.fail, nofun, e⟩
    · rw [List.length_drop] at h2
      exact Or.inr ⟨v, n, e, Nat.le_trans (hc.2.1 hok) h1, by have := hc.1; omega⟩
  · exact Or.inl ⟨_, hok, decPrim_of_ne hok⟩

theorem decPrim_le (tags : List Tag) (k : PKind) (tm : Int) (node : Node) (bs : Bytes) :
    (decPrim tags k tm node bs).2.2 ≤ bs.length := by
  rcases decPrim_shape tags k tm node bs with ⟨_, _, e⟩ | ⟨_, _, e, _, h⟩ <;> rw [e]
  · exact Nat.zero_le _
  · exact h

/-- the advance an iteration outcome reports -/
def outAdv {σ : Type} : Out σ → Nat
  | .cont _ n => n
  | .ret _ _ n => n

/-- one iteration never advances beyond the presented bytes -/
def ItBound {σ : Type} (it : σ → Bytes → Out σ) : Prop := ∀ s p, outAdv (it s p) ≤ p.length

theorem iterate_le {σ : Type} (it : σ → Bytes → Out σ) (h : ItBound it) (f : Nat) (s : σ) (p : Bytes) :
    (iterate it f s p).2.2 ≤ p.length := by
  fun_induction iterate it f s p with
  | case1 => exact Nat.zero_le _
  | case2 f s p s' rc n hit => have := h s p; rwa [hit] at this
  | case3 f s p s' n hit r ih =>
    have := h s p
    rw [hit, outAdv] at this
    rw [List.length_drop] at ih
    show n + (iterate it f s' (p.drop n)).2.2 ≤ _
    omega

/-- a decoder reports consumed ≤ size, from every state -/
def DecBound (d : Node → Bytes → Node × Rc × Nat) : Prop := ∀ n p, (d n p).2.2 ≤ p.length
/-- every member decoder reports consumed ≤ size (the hypothesis of the bounds of SEQUENCE and CHOICE) -/
def MDecBound (mdec : MDec) : Prop := ∀ i n p, (mdec i n p).2.2 ≤ p.length

/-- add `n` to the advance of an iteration outcome -/
def bump {σ : Type} (n : Nat) : Out σ → Out σ
  | .cont s k => .cont s (n + k)
  | .ret s rc k => .ret s rc (n + k)

/-- two results agree: same return code and – unless that is RC_FAIL, where the C decoders report a
    consumed count that depends on the chunking – the same state and the same consumed count -/
def ResEq {σ : Type} (a b : σ × Rc × Nat) : Prop := a.2.1 = b.2.1 ∧ (a.2.1 ≠ .fail → a = b)

theorem ResEq.refl {σ : Type} (a : σ × Rc × Nat) : ResEq a a := ⟨rfl, fun _ => rfl⟩
theorem ResEq.symm {σ : Type} {a b : σ × Rc × Nat} (h : ResEq a b) : ResEq b a :=
  ⟨h.1.symm, fun hb => (h.2 (by rw [h.1]; exact hb)).symm⟩
theorem ResEq.trans {σ : Type} {a b c : σ × Rc × Nat} (h1 : ResEq a b) (h2 : ResEq b c) : ResEq a c :=
  ⟨h1.1.trans h2.1, fun ha => (h1.2 ha).trans (h2.2 (by rw [← h1.1]; exact ha))⟩
theorem ResEq.of_fail {σ : Type} {a b : σ × Rc × Nat} (ha : a.2.1 = .fail) (hb : b.2.1 = .fail) : ResEq a b :=
  ⟨ha.trans hb.symm, fun h => absurd ha h⟩

/-- shift the consumed count of a result -/
def shiftR {σ : Type} (n : Nat) (r : σ × Rc × Nat) : σ × Rc × Nat := (r.1, r.2.1, n + r.2.2)

theorem ResEq.shift {σ : Type} {a b : σ × Rc × Nat} (n : Nat) (h : ResEq a b) : ResEq (shiftR n a) (shiftR n b) :=
  ⟨h.1, fun ha => by rw [h.2 ha]⟩
theorem ResEq.map {σ τ : Type} (f : σ → τ) {a b : σ × Rc × Nat} (h : ResEq a b) : ResEq (f a.1, a.2) (f b.1, b.2) :=
  ⟨h.1, fun ha => by rw [h.2 ha]⟩

/-- iteration outcomes agree up to the state / advance of a `RETURN(RC_FAIL)` -/
def OutEq {σ : Type} (a b : Out σ) : Prop :=
  a = b ∨ ∃ s n s' n', a = .ret s .fail n ∧ b = .ret s' .fail n'

/-- the laws one iteration of a saved-context machine has to obey (`μ` = fuel measure) -/
structure ItLaws {σ : Type} (it : σ → Bytes → Out σ) (μ : σ → Bytes → Nat) : Prop where
  bound : ItBound it
  decr : ∀ s p s' n, it s p = .cont s' n → μ s' (p.drop n) < μ s p
  cont_stable : ∀ s p s' n, it s p = .cont s' n → ∀ ext, it s (p ++ ext) = .cont s' n
  ok_stable : ∀ s p s' n, it s p = .ret s' .ok n → ∀ ext, it s (p ++ ext) = .ret s' .ok n
  fail_stable : ∀ s p s' n, it s p = .ret s' .fail n → ∀ ext, ∃ s'' n', it s (p ++ ext) = .ret s'' .fail n'
  resume : ∀ s p s' n, it s p = .ret s' .more n → ∀ ext, OutEq (it s (p ++ ext)) (bump n (it s' (p.drop n ++ ext)))

/-- the run of the driver without fuel: the iterations from `s` on `p` go on until a `RETURN`, and report `r` -/
inductive Runs {σ : Type} (it : σ → Bytes → Out σ) : σ → Bytes → σ × Rc × Nat → Prop
  | ret {s p s' rc n} : it s p = .ret s' rc n → Runs it s p (s', rc, n)
  | cont {s p s' n r} : it s p = .cont s' n → Runs it s' (p.drop n) r → Runs it s p (shiftR n r)

theorem runs_iterate {σ : Type} {it : σ → Bytes → Out σ} {μ : σ → Bytes → Nat}
    (hdecr : ∀ s p s' n, it s p = .cont s' n → μ s' (p.drop n) < μ s p) (f : Nat) (s : σ) (p : Bytes) (hf : μ s p < f) :
    Runs it s p (iterate it f s p) := by
  fun_induction iterate it f s p with
  | case1 => exact absurd hf (Nat.not_lt_zero _)
  | case2 f s p s' rc n hit => exact .ret hit
  | case3 f s p s' n hit r ih => exact .cont hit (ih (by have := hdecr s p s' n hit; omega))

theorem Runs.det {σ : Type} {it : σ → Bytes → Out σ} {s : σ} {p : Bytes} {r r' : σ × Rc × Nat}
    (h : Runs it s p r) (h' : Runs it s p r') : r = r' := by
  induction h generalizing r' with
  | ret h =>
    cases h' with
    | ret h' => rw [h] at h'; cases h'; rfl
    | cont h' _ => rw [h] at h'; cases h'
  | cont h _ ih =>
    cases h' with
    | ret h' => rw [h] at h'; cases h'
    | cont h' hr' => rw [h] at h'; cases h'; rw [ih hr']

/-- the run on `p` against the run on `p ++ ext`: RC_OK stands, RC_FAIL stays RC_FAIL, and after RC_WMORE the run on
    `p ++ ext` agrees with the run resumed on the unconsumed tail and `ext`.  (`generalizing := false`: the cases are on
    `r` alone, not on `h` with it, so that they reduce where `r` is rewritten to a triple) -/
theorem runs_ext {σ : Type} {it : σ → Bytes → Out σ} {μ : σ → Bytes → Nat} (L : ItLaws it μ) {s : σ} {p : Bytes}
    {r : σ × Rc × Nat} (h : Runs it s p r) (ext : Bytes) :
    match (generalizing := false) r with
    | (s1, .ok, k) => Runs it s (p ++ ext) (s1, .ok, k)
    | (_, .fail, _) => ∃ s2 k2, Runs it s (p ++ ext) (s2, .fail, k2)
    | (s1, .more, k) => ∀ r1, Runs it s1 (p.drop k ++ ext) r1 → ∃ r', Runs it s (p ++ ext) r' ∧ ResEq r' (shiftR k r1) := by
  induction h with
  | @ret s p s' rc n h =>
    have hb : n ≤ p.length := by have := L.bound s p; rw [h] at this; exact this
    cases rc with
    | ok => exact .ret (L.ok_stable _ _ _ _ h ext)
    | fail => obtain ⟨s'', n', e⟩ := L.fail_stable _ _ _ _ h ext; exact ⟨_, _, .ret e⟩
    | more =>
      intro r1 h1
      rcases L.resume _ _ _ _ h ext with e | ⟨_, _, _, _, e1, e2⟩
      · cases h1 with
        | ret h' => rw [h'] at e; exact ⟨_, .ret e, ResEq.refl _⟩
        | @cont _ _ s'' k r0 h' hrest =>
          rw [h'] at e
          rw [← List.drop_append_of_le_length hb, List.drop_drop] at hrest
          refine ⟨_, .cont e hrest, ?_⟩
          simp only [shiftR, Nat.add_assoc]
          exact ResEq.refl _
      · cases h1 with
        | ret h' => rw [h'] at e2; cases e2; exact ⟨_, .ret e1, ResEq.of_fail rfl rfl⟩
        | cont h' _ => rw [h'] at e2; cases e2
  | @cont s p s' n r0 h _ ih =>
    have hb : n ≤ p.length := by have := L.bound s p; rw [h] at this; exact this
    have hc := L.cont_stable _ _ _ _ h ext
    rw [← List.drop_append_of_le_length hb] at ih
    obtain ⟨s0, rc0, k0⟩ := r0
    cases rc0 with
    | ok => exact .cont hc ih
    | fail => obtain ⟨s2, k2, h2⟩ := ih; exact ⟨_, _, .cont hc h2⟩
    | more =>
      intro r1 h1
      simp only [List.drop_drop] at ih
      obtain ⟨r', hr', he⟩ := ih r1 h1
      refine ⟨_, .cont hc hr', ?_⟩
      have := ResEq.shift n he
      simpa only [shiftR, Nat.add_assoc] using this

/-- the laws of a restartable decoder up to the consumed count reported with RC_FAIL -/
structure LawfulRc {σ : Type} (d : Dec σ) : Prop where
  consumed_le : ∀ s p, (d.step s p).2.2 ≤ p.length
  resume : ∀ s p s1 k, d.step s p = (s1, .more, k) → ∀ ext,
      ResEq (d.step s (p ++ ext)) (shiftR k (d.step s1 (p.drop k ++ ext)))
  ok_stable : ∀ s p s1 k, d.step s p = (s1, .ok, k) → ∀ ext, d.step s (p ++ ext) = (s1, .ok, k)
  fail_stable : ∀ s p s1 k, d.step s p = (s1, .fail, k) → ∀ ext, (d.step s (p ++ ext)).2.1 = .fail

theorem lawfulRc_of_lawful {σ : Type} (d : Dec σ) (h : Lawful d) : LawfulRc d := by
  refine ⟨?_, ?_, ?_, ?_⟩
  · intro s p
    exact h.consumed_le s p _ _ _ rfl
  · intro s p s1 k hs ext
    obtain ⟨h1, h2⟩ := h.resume s p s1 k hs ext
    rw [h1]
    simp only [shiftR]
    have : k + ((d.step s (p ++ ext)).2.2 - k) = (d.step s (p ++ ext)).2.2 := by omega
    rw [this]
    exact ResEq.refl _
  · exact h.ok_stable
  · intro s p s1 k hs ext
    rw [h.fail_stable s p s1 k hs ext]

/-- the decoder obtained by running a lawful iteration with its measure (+ 1) as fuel, seen through a state
    embedding (`Node` ↔ machine state), obeys the laws of a restartable decoder up to RC_FAIL -/
theorem lawfulRc_of_itLaws {σ τ : Type} (it : σ → Bytes → Out σ) (μ : σ → Bytes → Nat) (L : ItLaws it μ)
    (frm : τ → σ) (tof : σ → τ) (hft : ∀ s, frm (tof s) = s) :
    LawfulRc (⟨fun n p => (tof (iterate it (μ (frm n) p + 1) (frm n) p).1, (iterate it (μ (frm n) p + 1) (frm n) p).2)⟩ :
      Dec τ) := by
  have run : ∀ s p, Runs it s p (iterate it (μ s p + 1) s p) := fun s p =>
    runs_iterate L.decr _ s p (Nat.lt_succ_self _)
  refine ⟨fun n p => iterate_le it L.bound _ _ p, ?_, ?_, ?_⟩
  -- each law: `runs_ext` for the run on `p`, read at the return code `h` gives; the run it yields on `p ++ ext` is
  -- the decoder's, since runs are unique
  all_goals
    intro n p n1 k h ext
    have hx := runs_ext L (run (frm n) p) ext
    obtain ⟨hn1, hrk⟩ := Prod.mk.inj h
    rw [show iterate it (μ (frm n) p + 1) (frm n) p = (_, _, k) from Prod.ext rfl hrk] at hx
    simp only at hx ⊢
  · obtain ⟨r', hr', he⟩ := hx _ (run _ _)
    rw [hr'.det (run (frm n) (p ++ ext))] at he
    rw [← hn1, hft]
    exact he.map tof
  · rw [← hx.det (run (frm n) (p ++ ext)), ← hn1]
  · obtain ⟨s2, k2, h2⟩ := hx
    rw [← h2.det (run (frm n) (p ++ ext))]

end Asn1c.Proofs.BerStream
