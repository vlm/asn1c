import Asn1cModel.Proofs.CRangeCompute
/-
  Behind C09: chains of serially applied constraints and type references.  First the parser's side: what
  `expr->combined_constraints` (Impl.ConsParse.combined) holds for such a chain and what the Spec says of it, both over
  one list `specs c = init ++ [b]` (`dom_shape`).  Then that list through the top-level ACT_CA_SET loop of
  `asn1constraint_compute_constraint_range` (`chain_top`), and the two requests at the top level: the constraints of an
  INTEGER-like type (`value_top`) and one SIZE constraint (`size_top`).
-/
namespace Asn1c.Impl.CRange
open Asn1c.Spec.Constraint Asn1c.Impl.ConsParse

/-- one serially applied constraint: an element tree, possibly with an extension marker and
    extension additions -/
def IsSpec : Cons → Prop
  | .ext r => IsElem r
  | .exta r a => IsElem r ∧ IsElem a
  | c => IsElem c

/-- the constraints written after one type, each possibly extensible -/
def IsLevelAny : Cons → Prop
  | .serial a b => IsLevelAny a ∧ IsSpec b
  | c => IsSpec c

/-- a chain of type references, every constraint possibly extensible -/
def IsChainAny : Cons → Prop
  | .refine a b => IsChainAny a ∧ IsLevelAny b
  | c => IsLevelAny c

/-- domain of the C09 theorems for INTEGER value constraints: serially applied constraints and type
    reference chains over element trees; extension markers, with or without additions, anywhere.
    It is `IsChainAny` under the name the statements of Props/C09 use for the constraint as a whole; the lemmas
    below say `IsChainAny` only of the parent chain of a reference, where they recurse. -/
def DomV (c : Cons) : Prop := IsChainAny c

/-- the serially applied constraints in order -/
def specs : Cons → List Cons
  | .refine a b => specs a ++ specs b
  | .serial a b => specs a ++ [b]
  | c => [c]

theorem specs_ne_nil : ∀ (c : Cons), specs c ≠ [] := by
  intro c
  induction c using specs.induct with
  | case1 a b iha _ => rw [specs]; exact fun h => iha (List.append_eq_nil_iff.mp h).1
  | case2 a b _ => rw [specs]; exact List.append_ne_nil_of_right_ne_nil _ (List.cons_ne_nil _ _)
  | case3 c h1 h2 => rw [specs.eq_3 c h1 h2]; exact List.cons_ne_nil _ _

theorem isSpec_cases {s : Cons} (h : IsSpec s) :
    (∃ r, s = .ext r ∧ IsElem r) ∨ (∃ r a, s = .exta r a ∧ IsElem r ∧ IsElem a) ∨ IsElem s := by
  cases s with
  | ext r => exact Or.inl ⟨r, rfl, h⟩
  | exta r a => exact Or.inr (Or.inl ⟨r, a, rfl, h.1, h.2⟩)
  | _ => exact Or.inr (Or.inr h)

theorem isSpec_of_elem {s : Cons} (h : IsElem s) : IsSpec s := by
  cases s with
  | ext | exta => exact h.elim
  | _ => exact h

theorem domV_of_spec {a : Cons} (h : IsSpec a) : DomV a ∧ specs a = [a] := by
  cases a with
  | serial | refine => exact h.elim
  | _ => exact ⟨h, rfl⟩

/-- serial application of a list of constraints to the parent set -/
def visL (P : ISet) (l : List Cons) : ISet := l.foldl (fun Q s => visible Q s) P

theorem visL_append (P : ISet) (l m : List Cons) : visL P (l ++ m) = visL (visL P l) m := by
  simp [visL, List.foldl_append]

theorem visL_cons (P : ISet) (s : Cons) (t : List Cons) : visL P (s :: t) = visL (visible P s) t := rfl

theorem visible_eq_visL (c : Cons) : ∀ P : ISet, visible P c = visL P (specs c) := by
  induction c using specs.induct with
  | case1 a b iha ihb => intro P; rw [specs, visL_append, ← iha, ← ihb]; rfl
  | case2 a b iha => intro P; rw [specs, visL_append, ← iha]; rfl
  | case3 c h1 h2 => intro P; rw [specs.eq_3 c h1 h2]; rfl

theorem visL_sub : ∀ (l : List Cons) (Q : ISet) (y : Int), visL Q l y = true → Q y = true := by
  intro l
  induction l with
  | nil => intro Q y h; exact h
  | cons s t ih => intro Q y h; rw [visL_cons] at h; exact visible_sub s Q y (ih _ y h)

theorem forall_specs {Q : Cons → Prop} (hs : ∀ a b, Q (.serial a b) → Q a ∧ Q b)
    (hr : ∀ a b, Q (.refine a b) → Q a ∧ Q b) (c : Cons) : Q c → ∀ s ∈ specs c, Q s := by
  induction c using specs.induct with
  | case1 a b iha ihb =>
    intro h; rw [specs, List.forall_mem_append]; exact ⟨iha (hr a b h).1, ihb (hr a b h).2⟩
  | case2 a b iha =>
    intro h; rw [specs, List.forall_mem_append, List.forall_mem_singleton]
    exact ⟨iha (hs a b h).1, (hs a b h).2⟩
  | case3 c h1 h2 =>
    intro h; rw [specs.eq_3 c h1 h2, List.forall_mem_singleton]; exact h

/-- `ManyConstraints` appends the element of a one-element ACT_CA_SET: outer parentheses vanish -/
def spec1 : Cons → CT
  | .paren x => elemCT x
  | s => elemCT s

/-- a constraint as the parser leaves it -/
def lastCT : Cons → CT
  | .ext r => .csv [elemCT r, .ext]
  | .exta r a => .csv [elemCT r, .ext, elemCT a]
  | s => spec1 s

/-- a constraint after `_remove_extensions`: the marker is cut off, the one-element ACT_CA_CSV stays -/
def stripCT : Cons → CT
  | .ext r => .csv [elemCT r]
  | .exta r _ => .csv [elemCT r]
  | s => spec1 s

theorem specEls_elem {s : Cons} (h : IsElem s) : setEls (wrapSet (elemCT s)) = [spec1 s] := by
  cases s with
  | size | ext | exta | serial | refine => exact h.elim
  | _ => rfl

/-- what the parser leaves is the element without outer parentheses, marker and additions included -/
theorem lastCT_eq_spec1 (s : Cons) : lastCT s = spec1 s := by
  cases s <;> rfl

theorem specEls_spec {s : Cons} (h : IsSpec s) : setEls (wrapSet (elemCT s)) = [lastCT s] := by
  rcases isSpec_cases h with ⟨r, rfl, _⟩ | ⟨r, a, rfl, _⟩ | h
  · rfl
  · rfl
  · rw [specEls_elem h, lastCT_eq_spec1]

theorem stripCT_elem {s : Cons} (h : IsElem s) : stripCT s = spec1 s := by
  cases s with
  | ext | exta => exact h.elim
  | _ => rfl

theorem wrapSet_spec {a : Cons} (h : IsSpec a) : wrapSet (elemCT a) = .set [lastCT a] := by
  rw [← specEls_spec h]
  cases elemCT a <;> rfl

theorem removeExtList_cons_ne {c : CT} (h : c ≠ .ext) (rest : List CT) :
    removeExtList (c :: rest) = removeExt c :: removeExtList rest :=
  removeExtList.eq_3 c rest h

/-- the parser never leaves a bare marker where a constraint stands: `...` occurs inside an ACT_CA_CSV only -/
theorem elemCT_ne_ext (e : Cons) : elemCT e ≠ .ext := by
  intro h; cases e <;> cases h

theorem lastCT_ne_ext (s : Cons) : lastCT s ≠ .ext := by
  cases s with
  | ext | exta => nofun
  | _ => exact elemCT_ne_ext _

theorem stripCT_ne_ext (s : Cons) : stripCT s ≠ .ext := by
  cases s with
  | ext | exta => nofun
  | _ => exact elemCT_ne_ext _

theorem removeExt_elemCT : ∀ (e : Cons), IsElem e → removeExt (elemCT e) = elemCT e := by
  intro e
  induction e with
  | single v | range lo hi => intro _; rfl
  | union a b iha ihb | inter a b iha ihb | except a b iha ihb =>
    intro h
    rw [elemCT, removeExt, removeExtList_cons_ne (elemCT_ne_ext a), removeExtList_cons_ne (elemCT_ne_ext b),
      iha h.1, ihb h.2]; rfl
  | paren a iha =>
    intro h
    rw [elemCT, removeExt, removeExtList_cons_ne (elemCT_ne_ext a), iha h]; rfl
  | size | ext | exta | serial | refine => intro h; exact h.elim

theorem removeExt_spec1 {s : Cons} (h : IsElem s) : removeExt (spec1 s) = spec1 s := by
  cases s with
  | paren x => exact removeExt_elemCT x h
  | _ => exact removeExt_elemCT _ h

theorem removeExt_lastCT {s : Cons} (h : IsSpec s) :
    removeExt (lastCT s) = stripCT s ∧ removeExt (stripCT s) = stripCT s := by
  -- `(r, ...)` and `(r, ..., a)` both become the one-element ACT_CA_CSV of `r`
  have csv : ∀ (r : Cons) (tl : List CT), IsElem r →
      removeExt (.csv (elemCT r :: .ext :: tl)) = .csv [elemCT r] ∧ removeExt (.csv [elemCT r]) = .csv [elemCT r] := by
    intro r tl hr
    constructor <;> rw [removeExt, removeExtList_cons_ne (elemCT_ne_ext r), removeExt_elemCT r hr] <;> rfl
  rcases isSpec_cases h with ⟨r, rfl, hr⟩ | ⟨r, a, rfl, hr, _⟩ | hs
  · exact csv r [] hr
  · exact csv r [elemCT a] hr
  · rw [lastCT_eq_spec1, stripCT_elem hs]
    exact ⟨removeExt_spec1 hs, removeExt_spec1 hs⟩

theorem removeExtList_append_strip (l : List Cons) (m : List CT) (h : ∀ s ∈ l, IsSpec s) :
    removeExtList (l.map stripCT ++ m) = l.map stripCT ++ removeExtList m := by
  induction l with
  | nil => rfl
  | cons s t ih =>
    obtain ⟨hs, ht⟩ := List.forall_mem_cons.mp h
    rw [List.map_cons, List.cons_append, removeExtList_cons_ne (stripCT_ne_ext s), (removeExt_lastCT hs).2, ih ht]; rfl

theorem removeExtList_map_last : ∀ (l : List Cons), (∀ s ∈ l, IsSpec s) →
    removeExtList (l.map lastCT) = l.map stripCT ∧ removeExtList (l.map stripCT) = l.map stripCT := by
  intro l h
  refine ⟨?_, by simpa [removeExtList] using removeExtList_append_strip l [] h⟩
  induction l with
  | nil => rfl
  | cons s t ih =>
    obtain ⟨hs, ht⟩ := List.forall_mem_cons.mp h
    rw [List.map_cons, removeExtList_cons_ne (lastCT_ne_ext s), (removeExt_lastCT hs).1, ih ht]; rfl

/-- `_remove_extensions(ct, 1)` on the constraints of a non-referencing type: every marker but the last goes -/
theorem removeExtTop_map_last (b : Cons) : ∀ (l : List Cons), (∀ s ∈ l, IsSpec s) →
    removeExtTop ((l ++ [b]).map lastCT) = l.map stripCT ++ [lastCT b] := by
  intro l
  induction l with
  | nil => intro _; exact removeExtTop.eq_3 _ (lastCT_ne_ext b)
  | cons s t ih =>
    intro h
    obtain ⟨hs, ht⟩ := List.forall_mem_cons.mp h
    rw [List.cons_append, List.map_cons, removeExtTop.eq_4 _ _ (lastCT_ne_ext s) (by simp),
      (removeExt_lastCT hs).1, ih ht]; rfl

/-- `ManyConstraints`: the constraints written after one type are serially applied constraints, and the ACT_CA_SET
    holds each of them as the parser leaves it -/
theorem level_specs (c : Cons) : IsLevelAny c → (∀ s ∈ specs c, IsSpec s) ∧ levelEls c = (specs c).map lastCT := by
  induction c using levelEls.induct with
  | case1 a b ih =>
    intro h
    obtain ⟨i1, i2⟩ := ih h.1
    rw [specs, List.forall_mem_append, List.forall_mem_singleton, levelEls, List.map_append, i2, specEls_spec h.2]
    exact ⟨⟨i1, h.2⟩, rfl⟩
  | case2 c hns =>
    intro h
    rw [IsLevelAny.eq_2 c hns] at h
    rw [levelEls.eq_2 c hns, specEls_spec h, (domV_of_spec h).2]
    exact ⟨List.forall_mem_singleton.mpr h, rfl⟩

theorem oerVisible_spec {a : Cons} (h : IsSpec a) (P : ISet) :
    oerVisible P a = if extensible a then P else visible P a := by
  cases a with
  | serial | refine => exact h.elim
  | _ => rfl

theorem oerVisible_size (a : Cons) (P : ISet) :
    oerVisible P (.size a) = if extensible a then P else visible P a := rfl

/-- the constraints written after one type are `init ++ [b]`: `_remove_extensions(ct, 1)` keeps the marker of `b`
    only, and so does the Spec (all but the last constraint are visible, the last one unless extensible) -/
theorem level_shape (c : Cons) (h : IsLevelAny c) :
    ∃ init b, specs c = init ++ [b] ∧ (∀ s ∈ init, IsSpec s) ∧ IsSpec b ∧
      removeExtTop (levelEls c) = init.map stripCT ++ [lastCT b] ∧ extensible c = extensible b ∧
      ∀ Q, oerVisible Q c = (if extensible b then visL Q init else visible (visL Q init) b) := by
  rw [(level_specs c h).2]
  fun_cases levelEls c with
  | case1 a s =>
    have hall := (level_specs a h.1).1
    exact ⟨specs a, s, rfl, hall, h.2, removeExtTop_map_last s (specs a) hall, rfl,
      fun Q => by simp only [oerVisible, visible_eq_visL a]⟩
  | case2 c hns =>
    rw [IsLevelAny.eq_2 c hns] at h
    rw [(domV_of_spec h).2]
    exact ⟨[], c, rfl, nofun, h, removeExtTop_map_last c [] nofun, rfl, fun Q => oerVisible_spec h Q⟩

/-- a constraint of the domain is `init ++ [b]` applied serially: in `combined_constraints` every member but the
    last has lost its marker (those of a parent chain to `_remove_extensions(ct_parent, 0)`, which takes the last one
    of the parent too), the last one stands as written; the Spec reads the same list -/
theorem dom_shape (c : Cons) : DomV c →
    ∃ init b, specs c = init ++ [b] ∧ (∀ s ∈ init, IsSpec s) ∧ IsSpec b ∧
      combinedEls c = init.map stripCT ++ [lastCT b] ∧ extensible c = extensible b ∧
      ∀ P, oerVisible P c = (if extensible b then visL P init else visible (visL P init) b) := by
  induction c using combinedEls.induct with
  | case1 a b0 iha =>
    intro h
    obtain ⟨ia, ba, g1, g2, g3, g4, _⟩ := iha h.1
    obtain ⟨init, b, f1, f2, f3, f4, f5, f6⟩ := level_shape b0 h.2
    refine ⟨specs a ++ init, b, by simp [specs, f1], ?_, f3, ?_, f5, fun P => ?_⟩
    · rw [g1, List.forall_mem_append, List.forall_mem_append, List.forall_mem_singleton]
      exact ⟨⟨g2, g3⟩, f2⟩
    · rw [combinedEls, g4, f4, removeExtList_append_strip _ _ g2, removeExtList_cons_ne (lastCT_ne_ext ba),
        (removeExt_lastCT g3).1, g1]
      simp [removeExtList]
    · simp only [oerVisible, f6, visL_append, visible_eq_visL a]
  | case2 c hnr =>
    intro h
    rw [combinedEls.eq_2 c hnr]
    exact level_shape c (IsChainAny.eq_2 c hnr ▸ h)

theorem combinedEls_spec {a : Cons} (h : IsSpec a) : combinedEls a = [lastCT a] := by
  have hnr : ∀ x y, a = .refine x y → False := by rintro x y rfl; exact h.elim
  have hns : ∀ x y, a = .serial x y → False := by rintro x y rfl; exact h.elim
  rw [combinedEls.eq_2 a hnr, levelEls.eq_2 a hns, specEls_spec h]
  exact removeExtTop.eq_3 _ (lastCT_ne_ext a)

theorem compute_ext_true {p : Params} {range : Range} {P : ISet} (hM : Parent p range P) :
    compute p .ext (some range) true = (.erange, true) := by
  rw [hM.compute]; rfl

/-- the first operand of an ACT_CA_CSV computed against the parent `range`: the second loop goes on
    after it merged the operand into itself -/
theorem csv_first {p : Params} {range : Range} {P : ISet} (hM : Parent p range P) {r : Cons} (hs : IsElem r)
    (hw : Written r) (hl : LitsOK r) {rest : List CT} {Ψ : Range → Prop}
    (k : ∀ R, Acc R (visible P r) → Flags R false → Yields (orRest p true rest R (some range) true) Ψ) :
    Yields (compute p (.csv (elemCT r :: rest)) (some range) true) Ψ := by
  rw [hM.compute]
  exact orFirst_step (compute_elem hs hM hw hl) hM.repr.empty hM.clean k

/-- one serially applied constraint after the pull-up removed its marker (and its additions) -/
theorem compute_strip {p : Params} {range : Range} {P : ISet} (hM : Parent p range P) {s : Cons} (hs : IsSpec s)
    (hw : Written s) (hl : LitsOK s) :
    Yields (compute p (stripCT s) (some range) true) fun r => ReprE r (visible P s) ∧ Flags r false := by
  have one : ∀ r0 : Cons, IsElem r0 → Written r0 → LitsOK r0 →
      Yields (compute p (.csv [elemCT r0]) (some range) true) fun r => ReprE r (visible P r0) ∧ Flags r false := by
    intro r0 he hw0 hl0
    refine csv_first hM he hw0 hl0 fun R aR fR => ?_
    rw [orRest_nil]
    exact orFinish_yields aR fR
  rcases isSpec_cases hs with ⟨r0, rfl, he⟩ | ⟨r0, a, rfl, he, _⟩ | he
  · exact one r0 he hw hl
  · exact one r0 he hw.1 hl.1
  · rw [stripCT_elem he]
    cases s with
    | paren x => exact compute_elem (e := x) he hM hw hl
    | _ => exact compute_elem he hM hw hl

theorem extensible_elem : ∀ (e : Cons), IsElem e → extensible e = false := by
  intro e
  induction e with
  | single v | range lo hi => intro _; rfl
  | union a b iha ihb | inter a b iha ihb => intro h; simp [extensible, iha h.1, ihb h.2]
  | except a b iha _ => intro h; simp [extensible, iha h.1]
  | paren a iha => intro h; simp [extensible, iha h]
  | size | ext | exta | serial | refine => intro h; exact h.elim

/-- the last serially applied constraint as the parser leaves it, `r` or `(r, ...)` or `(r, ..., a)`, computed
    against the parent `range`: the result is marked iff the constraint is extensible.  With CPR_PER_root_only (or
    strict PER visibility) the second loop stops at the marker and the result is the canonical form of the visible
    root; otherwise additions are merged in (the "practical" range of the generated validity checker) and all we
    need to know of the result is the mark, which makes it not OER-visible. -/
theorem compute_last {p : Params} {range : Range} {P : ISet} (hM : Parent p range P) {b : Cons} (hs : IsSpec b)
    (hw : Written b) (hl : LitsOK b) :
    Yields (compute p (lastCT b) (some range) true) fun t => Flags t (extensible b) ∧
      (((p.rootOnly = true ∨ p.strictPER = true) ∨ ∀ r a, b ≠ .exta r a) → ReprE t (visible P b)) := by
  rcases isSpec_cases hs with ⟨r, rfl, he⟩ | ⟨r, a, rfl, he, hea⟩ | he
  · refine csv_first hM he hw hl fun R aR fR => ?_
    rw [orRest_cons_marker (compute_ext_true hM), orRest_nil, ite_self]
    exact (orFinish_yields (Acc.flags aR true true R.notPER) fR.marker).mono
      fun t ⟨hre, ft⟩ => ⟨ft, fun _ => hre⟩
  · refine csv_first hM he hw.1 hl.1 fun R aR fR => ?_
    rw [orRest_cons_marker (compute_ext_true hM)]
    by_cases hcut : (true && (p.rootOnly || p.strictPER)) = true
    · rw [if_pos hcut]
      exact (orFinish_yields (Acc.flags aR true true R.notPER) fR.marker).mono
        fun t ⟨hre, ft⟩ => ⟨ft, fun _ => hre⟩
    · rw [if_neg hcut]
      refine orRest_step (compute_elem hea hM hw.2 hl.2) (Acc.flags aR true true R.notPER) fR.marker fun R2 a2 f2 => ?_
      rw [orRest_nil]
      refine (orFinish_yields a2 f2).mono fun t ⟨hre, ft⟩ => ⟨ft, fun h => ?_⟩
      rcases h with (h | h) | h
      · exact absurd (by simp [h]) hcut
      · exact absurd (by simp [h]) hcut
      · exact absurd rfl (h r a)
  · rw [lastCT_eq_spec1, ← stripCT_elem he, extensible_elem b he]
    exact (compute_strip hM hs hw hl).mono fun t ⟨hre, ft⟩ => ⟨ft, fun _ => hre⟩

theorem set_prefix {p : Params} {rest : List CT} {mm : Option Range} {Ψ : Range → Prop} :
    ∀ (l : List Cons), (∀ s ∈ l, IsSpec s ∧ Written s ∧ LitsOK s) →
    ∀ (range : Range) (P : ISet), Parent p range P → (∃ y, visL P l y = true) →
    (∀ range', Parent p range' (visL P l) → Yields (andLoop p true rest range' mm true) Ψ) →
    Yields (andLoop p true (l.map stripCT ++ rest) range mm true) Ψ := by
  intro l
  induction l with
  | nil => intro _ range P hM _ k; exact k range hM
  | cons s t ih =>
    intro h range P hM hne k
    rw [List.map_cons, List.cons_append]
    obtain ⟨y0, hy0⟩ := hne
    rw [visL_cons] at hy0
    obtain ⟨⟨he, hw, hl⟩, ht⟩ := List.forall_mem_cons.mp h
    -- `(range)(s)`: what `s` leaves of the parent set is not empty, and its range is the parent of the rest
    exact andLoop_step (s := true) (compute_strip hM he hw hl) rfl (Or.inl hM.repr) hM.clean fun r' q1 c1 =>
      ih ht r' _ ⟨hM.compat, hM.nkm, (q1.congr (and_visible s P)).repr ⟨y0, visL_sub t _ y0 hy0⟩, c1⟩ ⟨y0, hy0⟩ k

/-- no serially applied constraint has extension additions -/
def NoAdds (c : Cons) : Prop := ∀ s ∈ specs c, ∀ r a, s ≠ .exta r a

/-- the request does not look at extension additions: CPR_PER_root_only (PER tables) or strict PER
    visibility (the printed PER-visible line) stop at the marker, strict OER visibility ignores an
    extensible constraint altogether.  (Without any of them the additions are merged in: the
    "practical" range of the generated validity checker.) -/
def AddsInvisible (p : Params) : Prop := p.strictOER = true ∨ p.rootOnly = true ∨ p.strictPER = true

/-- what the top-level ACT_CA_SET loop returns on the combined constraints of a type of the
    domain, starting from the clone `range0` of the parent (`P0` = all integers, or the naturals for SIZE): the
    canonical form of the set the mode makes visible (`oerVisible` under strict OER visibility, else the PER-visible
    root), marked extensible iff the last constraint is and the mode is not the OER one (which skips it) -/
theorem chain_top {p : Params} {range0 : Range} {P0 : ISet} (hM : Parent p range0 P0) {c : Cons} (hd : DomV c)
    (hw : Written c) (hl : LitsOK c) (hne : ∃ y, visible P0 c y = true) (hadd : AddsInvisible p ∨ NoAdds c)
    (mm : Option Range) :
    Yields (andLoop p true (combinedEls c) range0 mm true) fun r =>
      Repr r (if p.strictOER = true then oerVisible P0 c else visible P0 c) ∧
        Flags r (!p.strictOER && extensible c) := by
  obtain ⟨init, b, e1, e2, e3, e0, e4, e5⟩ := dom_shape c hd
  have hll := forall_specs (Q := LitsOK) (fun _ _ h => h) (fun _ _ h => h) c hl
  have hww := forall_specs (Q := Written) (fun _ _ h => h) (fun _ _ h => h) c hw
  rw [e1, List.forall_mem_append, List.forall_mem_singleton] at hll hww
  obtain ⟨hli, hlb⟩ := hll
  obtain ⟨hwi, hwb⟩ := hww
  have hvis : visible P0 c = visible (visL P0 init) b := by
    rw [visible_eq_visL c, e1, visL_append]; rfl
  obtain ⟨y0, hy0⟩ := hne
  rw [hvis] at hy0
  rw [e0, e4, e5 P0, hvis]
  refine set_prefix init (fun s hs => ⟨e2 s hs, hwi s hs, hli s hs⟩)
    range0 P0 hM ⟨y0, visible_sub b _ y0 hy0⟩ fun range' hM' => ?_
  have hlast := compute_last hM' e3 hwb hlb
  by_cases hskip : (extensible b && p.strictOER) = true
  · -- X.696 8.2.4: the last constraint carries the marker and is not OER-visible: skipped
    obtain ⟨hx, hso⟩ := Bool.and_eq_true_iff.mp hskip
    refine andLoop_skip (s := true) (hlast.mono fun t h => h.1.2.1.trans hx) hso ?_
    rw [andLoop_nil, hx, hso, if_pos rfl, if_pos rfl]
    exact .ok ⟨hM'.repr, hM'.clean⟩
  · rw [Bool.not_eq_true] at hskip
    -- otherwise the request does not look at additions, or there are none
    have hroot : (p.rootOnly = true ∨ p.strictPER = true) ∨ ∀ r a, b ≠ .exta r a := by
      rcases hadd with (h | h | h) | h
      · exact Or.inr fun r a e => by rw [e, h] at hskip; cases hskip
      · exact Or.inl (Or.inl h)
      · exact Or.inl (Or.inr h)
      · exact Or.inr (h b (by rw [e1]; simp))
    refine andLoop_step (s := true) (hlast.mono fun t ⟨k2, k5⟩ => ⟨k5 hroot, k2⟩) hskip (Or.inl hM'.repr) hM'.clean
      fun r q1 q2 => ?_
    rw [andLoop_nil]
    have q1 := (q1.congr (and_visible b _)).repr ⟨y0, hy0⟩
    rcases Bool.and_eq_false_iff.mp hskip with hx | hso
    · rw [hx] at q2 ⊢
      simp only [Bool.false_eq_true, if_false, ite_self, Bool.and_false]
      exact .ok ⟨q1, q2⟩
    · rw [hso]
      exact .ok ⟨q1, q2⟩

theorem result_by_mode {p : Params} {r : Range} {So Sv : ISet} {e : Bool}
    (h : Repr r (if p.strictOER = true then So else Sv) ∧ Flags r (!p.strictOER && e)) :
    if p.strictOER = true then Repr r So ∧ r.Clean else Repr r Sv ∧ r.ext = e ∧ r.notPER = false := by
  obtain ⟨h1, h2⟩ := h
  by_cases hso : p.strictOER = true
  · rw [hso] at h2; rw [if_pos hso] at h1 ⊢; exact ⟨h1, h2⟩
  · rw [Bool.eq_false_iff.mpr hso] at h2; rw [if_neg hso] at h1 ⊢; exact ⟨h1, h2.1, h2.2.2⟩

/-- the top-level call on an ACT_CA_SET (what `combined_constraints` always is) is its loop, started on a clone of the
    default `minmax` of the request -/
theorem computeTop_set {p : Params} (hc : p.compat = true) (hn : p.nkm = false) (els : List CT) :
    computeTop p (some (.set els)) =
      (andLoop p true els (rangeOf (mmEff p none)) (mmEff p none) (p.req == .value)).1 := by
  have hcl : Flags (rangeOf (mmEff p none)) false := by unfold mmEff; cases p.req <;> exact ⟨rfl, rfl, rfl⟩
  unfold computeTop
  rw [hc]
  show (compute p (.set els) none (p.req == .value)).1 = _
  rw [compute_eq_body hc hn _ _ _ hcl]; rfl

/-- the constraints of an INTEGER-like type at the top level: `chain_top` on a fresh range -/
theorem value_top {p : Params} (hreq : p.req = .value) (hc : p.compat = true) (hn : p.nkm = false)
    {c : Cons} (hd : DomV c) (hw : Written c) (hl : LitsOK c) (hne : ∃ y, visible ISet.univ c y = true)
    (hadd : AddsInvisible p ∨ NoAdds c) {r : Range} (h : computeTop p (some (combined c)) = .ok r) :
    Repr r (if p.strictOER = true then oerVisible ISet.univ c else visible ISet.univ c) ∧
      Flags r (!p.strictOER && extensible c) := by
  have hm : mmEff p none = none := by unfold mmEff; rw [hreq]
  rw [combined, computeTop_set hc hn, hm, hreq] at h
  exact (chain_top ⟨hc, hn, repr_new.1, repr_new.2⟩ hd hw hl hne hadd none).of_ok h

/-- the ACT_CT_SIZE node of a SIZE request sets `*exmet` and hands on a failure or a range of its constraint as it is -/
theorem compute_size {p : Params} {range : Range} {P : ISet} (hM : Parent p range P) (hreq : p.req = .size)
    {c : CT} {ex : Bool} {Φ : Range → Prop} (h : Yields (compute p c (some range) true) Φ) :
    Yields (compute p (.size c) (some range) ex) Φ := by
  rw [hM.compute]
  show Yields (if (p.req == Req.size) = true then _ else _) _
  simp only [hreq, beq_self_eq_true, if_true]
  refine h.bind (fun res e hh => ?_) fun t e ht => ?_
  · rw [e]; rcases hh with rfl | rfl | rfl <;> rfl
  · rw [e]; exact .ok ht

/-- one SIZE constraint `SIZE(root)` / `SIZE(root, ...)` / `SIZE(root, ..., additions)` at the top level: the
    SIZE node runs `chain_top` on its ACT_CA_SET with the naturals as parent, and the outer
    ACT_CA_SET intersects the result with that parent once more -/
theorem size_top {p : Params} (hreq : p.req = .size) (hc : p.compat = true) (hn : p.nkm = false)
    {a : Cons} (hs : IsSpec a) (hw : Written a) (hl : LitsOK a) (hne : ∃ y, visible ISet.nat a y = true)
    (hadd : AddsInvisible p ∨ NoAdds a) {r : Range}
    (h : computeTop p (some (combined (.size a))) = .ok r) :
    Repr r (if p.strictOER = true then oerVisible ISet.nat (.size a) else visible ISet.nat (.size a)) ∧
      Flags r (!p.strictOER && extensible (.size a)) := by
  have hM : Parent p sizeDefault ISet.nat := ⟨hc, hn, repr_sizeDefault.1, repr_sizeDefault.2⟩
  have hcomb : combined (.size a) = .set [.size (.set (combinedEls a))] := by
    show CT.set (removeExtTop (setEls (wrapSet (.size (wrapSet (elemCT a)))))) = _
    rw [wrapSet_spec hs, combinedEls_spec hs]; rfl
  have hm : mmEff p none = some sizeDefault := by unfold mmEff; rw [hreq]
  rw [hcomb, computeTop_set hc hn, hm] at h
  have hnode := compute_size (c := .set (combinedEls a)) (ex := p.req == .value) hM hreq
    (by rw [hM.compute]; exact chain_top hM (domV_of_spec hs).1 hw hl hne hadd (some sizeDefault))
  have hvis : ((!p.strictOER && extensible a) && p.strictOER) = false := by cases p.strictOER <;> simp
  rw [oerVisible_size, ← oerVisible_spec hs]
  refine Yields.of_ok (Φ := fun r => Repr r (if p.strictOER = true then oerVisible ISet.nat a else visible ISet.nat a) ∧
    Flags r (!p.strictOER && extensible a)) (hnode.bind (fun _ => andLoop_cons_hard (s := true)) fun t ht ⟨rt, ft⟩ => ?_) h
  refine andLoop_step (s := true) (by rw [if_pos rfl, ht]; exact .ok ⟨Or.inl rt, ft⟩) hvis (Or.inl hM.repr) hM.clean
    fun r' q1 q2 => ?_
  rw [andLoop_nil]
  -- what the SIZE node delivers lies within the parent (0..MAX)
  refine .ok ⟨(q1.congr fun y => ?_).repr rt.nonempty, q2⟩
  rw [oerVisible_spec hs]
  split
  · split
    · exact Bool.and_self _
    · exact and_visible a _ y
  · exact and_visible a _ y

end Asn1c.Impl.CRange
