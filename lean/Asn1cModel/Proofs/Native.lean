import Asn1cModel.Impl.Native
import Asn1cModel.Proofs.Integer
import Mathlib.Algebra.Group.Nat.Defs
/- Lemmas for C13 (native `long` cells versus `INTEGER_t` octets): the `long` ↔ machine-word conversions of the cell
   (`nativeValue_wordOfLong`), then what the conversions of INTEGER.c (closed forms: Proofs/Integer.lean) make of the
   octets of such a value, and the fake INTEGER that `NativeInteger_encode_der` hands to the INTEGER encoder.  The
   uniqueness of the minimal octets of a value (`minimal_unique`, `strip_eq_of_val`) stands at the end of
   Proofs/Integer.lean.  Property theorems: Props/C13.lean.  `Mathlib.Algebra.Group.Nat.Defs` is imported because
   `wordOfLong_lt` and `wordOfLong_nat` are stated with Mathlib's `Monoid ℕ` reading of `2 ^ 64` (DESIGN.md II.8). -/
namespace Asn1c.Proofs.Native
open Asn1c Asn1c.Impl.Integer Asn1c.Impl.Native Asn1c.Spec Asn1c.Proofs.Integer

theorem wordOfLong_lt (v : Int) : wordOfLong v < 2 ^ 64 := by
  unfold wordOfLong
  omega

theorem wordOfLong_nat (u : Nat) (h : u < 2 ^ 64) : wordOfLong (u : Int) = u := by
  unfold wordOfLong
  omega

theorem toSigned64_wordOfLong (v : Int) (h : fitsS64 v) : toSigned64 (wordOfLong v) = v := by
  unfold fitsS64 at h
  unfold toSigned64 wordOfLong
  split <;> omega

theorem toSigned64_small (u : Nat) (h : u < 2 ^ 63) : toSigned64 u = u := by
  unfold toSigned64; split <;> omega

theorem fitsS64_toSigned64 (w : Nat) : fitsS64 (toSigned64 w) := by
  unfold fitsS64 toSigned64; split <;> omega

theorem wordOfLong_toSigned64 (w : Nat) (h : w < 2 ^ 64) : wordOfLong (toSigned64 w) = w := by
  unfold wordOfLong toSigned64
  rw [Nat.mod_eq_of_lt h]
  split <;> omega

/-- a `long` is read back from its cell, also through `unsigned long` (`field_unsigned`) when it is not negative -/
theorem nativeValue_wordOfLong (uns : Bool) (v : Int) (hv : fitsS64 v) (hun : uns = true → 0 ≤ v) :
    nativeValue uns (wordOfLong v) = v := by
  cases uns
  · exact toSigned64_wordOfLong v hv
  · obtain ⟨n, rfl⟩ := Int.eq_ofNat_of_zero_le (hun rfl)
    unfold nativeValue
    rw [if_pos rfl, wordOfLong_nat n (by have : (n : Int) < 2 ^ 63 := hv.2; omega)]

/-- `asn_INTEGER2ulong` is exact on the whole `unsigned long` range (C16, finding F3 repaired) -/
theorem INTEGER2ulong_fits (bs : Bytes) (h : Bytes.wf bs) (hf : fitsU64 (twosVal bs)) :
    INTEGER2ulong bs = .ok (twosVal bs).toNat := by
  rw [INTEGER2ulong_spec bs h, if_pos hf]

theorem strip_eq_imax2INTEGER (bs : Bytes) (hw : Bytes.wf bs) (hne : bs ≠ []) (v : Int) (hv : twosVal bs = v)
    (hf : fitsS64 v) : strip bs = imax2INTEGER v :=
  strip_eq_of_val bs (imaxOctets v) hw (imaxOctets_wf v) hne (List.cons_ne_nil _ _)
    (hv.trans (imaxOctets_val v hf).symm)

/-- the fake INTEGER of `NativeInteger_encode_der` is the 8-octet image of the `long` -/
theorem nativeOctets_wordOfLong (v : Int) : nativeOctets (wordOfLong v) = imaxOctets v := rfl

/-- the signed path of `NativeInteger_encode_der` is the plain 8-octet image -/
theorem nativeFakeINTEGER_signed (w : Nat) : nativeFakeINTEGER false w = nativeOctets w := rfl

/-- the fake INTEGER of an unsigned native cell is well formed, non-empty and denotes the cell's
    unsigned value, over the whole `unsigned long` range (the leading 00 octet of the F20 repair) -/
theorem nativeFakeINTEGER_unsigned_spec (u : Nat) (h : u < 2 ^ 64) :
    nativeFakeINTEGER true u ≠ [] ∧ Bytes.wf (nativeFakeINTEGER true u) ∧
    twosVal (nativeFakeINTEGER true u) = u := by
  have hw : Bytes.wf (nativeOctets u) := toBEn_wf 8 u
  have hv : unsVal (nativeOctets u) = u := by
    rw [unsVal, nativeOctets, ofBE_toBEn_lt (by omega)]
  unfold nativeFakeINTEGER
  cases hneg : isNegative (nativeOctets u)
  · rw [if_neg (by decide)]
    exact ⟨List.cons_ne_nil _ _, hw, by rw [twosVal_of_not_isNegative _ hneg, hv]⟩
  · rw [if_pos (by decide)]
    exact ⟨List.cons_ne_nil _ _, wf_cons (by decide) hw, by rw [twosVal_zero_cons, hv]⟩

end Asn1c.Proofs.Native
