import Asn1cModel.Impl.StackGuard
import Asn1cModel.Proofs.Bits
/-! Lemmas behind Props/C15: the guarded recursion `nestL`, the ledger invariant of the SET OF loops,
    the UPER length determinant, the fragment loop of the UPER string decoder, the APPEND growth policy.

    `Impl.StackGuard` does not import the PER codec model, so it has its own `uper_get_length` (`uperGetLength`;
    the codec's is `Impl.PerSupport.getLength`, specified by `PerSupport.getLength_some`).  The stack and heap
    bounds need only counts from it: how many items a determinant can announce (`< 16K`, or `m·16K` with repeat)
    and exactly how many bits it costs, which is what `uperGetLength_unconstrained` / `_constrained` state. -/
namespace Asn1c.Proofs.StackGuard
open Asn1c Asn1c.Impl.StackGuard Asn1c.Impl.BerTlv

theorem limitReached_iff (max used : Nat) : limitReached max used = true ↔ max ≠ 0 ∧ used > max := by
  simp [limitReached]

/-- a guarded recursion starts at most `(max - used)/δ + 1` invocations -/
theorem nestL_started_le (max phys δ : Nat) (hmax : max ≠ 0) (frames : List Nat) (used : Nat)
    (hf : ∀ f ∈ frames, δ ≤ f) (hu : used ≤ max) :
    (nestL true max phys used frames).2 * δ ≤ max - used + δ := by
  -- the cases of `nestL`: no frame left; the frame does not fit; the check fires; one level deeper
  fun_induction nestL true max phys used frames with
  | case1 => simp
  | case2 => simp
  | case3 => simp
  | case4 used f rest _ hc r ih =>
    rw [List.forall_mem_cons] at hf
    rw [Bool.true_and, limitReached_iff] at hc
    have := ih hf.2 (by omega)
    simp only [r, Nat.add_mul]
    omega

/-- with room for one more frame above the limit a guarded recursion never overflows, and it fails as soon as
    the frames asked for do not fit under the limit -/
theorem nestL_guarded (max phys δ Δ : Nat) (hmax : max ≠ 0) (hphys : max + Δ ≤ phys) (frames : List Nat)
    (used : Nat) (hf : ∀ f ∈ frames, f ≤ Δ) (hu : used ≤ max) :
    (nestL true max phys used frames).1 ≠ .overflow ∧
    ((∀ f ∈ frames, δ ≤ f) → frames.length * δ + used > max → (nestL true max phys used frames).1 = .fail) := by
  fun_induction nestL true max phys used frames with
  | case1 => exact ⟨nofun, fun _ h => by simp at h; omega⟩
  | case2 used f => have := hf f (List.mem_cons_self ..); omega
  | case3 => exact ⟨nofun, fun _ _ => rfl⟩
  | case4 used f rest _ hc r ih =>
    rw [List.forall_mem_cons] at hf
    rw [Bool.true_and, limitReached_iff] at hc
    obtain ⟨h1, h2⟩ := ih hf.2 (by omega)
    refine ⟨h1, fun hδ hlen => ?_⟩
    rw [List.forall_mem_cons] at hδ
    rw [List.length_cons, Nat.add_mul] at hlen
    exact h2 hδ.2 (by omega)

/-- without a check (or with the limit switched off) the recursion goes as deep as the input says -/
theorem nestL_unchecked_overflows (g : Bool) (max phys δ : Nat) (hg : g = false ∨ max = 0)
    (frames : List Nat) (used : Nat) (hf : ∀ f ∈ frames, δ ≤ f) (hu : used ≤ phys)
    (hlen : frames.length * δ + used > phys) :
    (nestL g max phys used frames).1 = .overflow := by
  fun_induction nestL g max phys used frames with
  | case1 => simp at hlen; omega
  | case2 => rfl
  | case3 used f rest _ hc => rcases hg with h | h <;> simp [h, limitReached] at hc
  | case4 used f rest _ _ r ih =>
    rw [List.forall_mem_cons] at hf
    rw [List.length_cons, Nat.add_mul] at hlen
    exact ih hf.2 (by omega) (by omega)

theorem replicate_frames (depth δ : Nat) : ∀ f ∈ List.replicate depth δ, δ ≤ f ∧ f ≤ δ := by
  intro f hf
  rw [List.eq_of_mem_replicate hf]
  exact ⟨Nat.le_refl _, Nat.le_refl _⟩

/-- `ber_decode_primitive` asks for its 16-byte structure and, only when it accepts the header, for a buffer of
    the announced length + 1, which the `length > size` test has bounded by the input. -/
theorem berPrimitive_requests (tag : Tag) (bs : Bytes) :
    (berPrimitive true tag bs).structReq = 16 ∧
    ∀ r, (berPrimitive true tag bs).bufReq = some r →
      r ≤ bs.length + 1 ∧ (berPrimitive true tag bs).rc = .ok := by
  fun_cases berPrimitive true tag bs <;> refine ⟨rfl, fun r hr => ?_⟩ <;> cases hr
  -- only the accepting leaf requests a buffer; there `h3` says that the test `length > size` was not taken
  next h3 _ => exact ⟨by simp only [Bool.true_and, decide_eq_true_eq] at h3; omega, rfl⟩

/-- ledger invariant of the SET OF loops: structure + `cnt` elements + pointer array of capacity `cap` -/
structure Inv (c : SetOfCfg) (s : LoopState) : Prop where
  live : s.h.live = c.ssz + s.cnt * c.esz + 8 * s.cap
  cap : s.cap ≤ 2 * s.cnt + 4
  peak : s.h.peak ≤ c.ssz + s.cnt * c.esz + 16 * s.cnt + 32 + c.esz

theorem inv_peak {c : SetOfCfg} {s : LoopState} (hi : Inv c s) :
    s.h.peak ≤ c.ssz + s.cnt * c.esz + 16 * s.cnt + 32 + c.esz := hi.peak

theorem inv_init (c : SetOfCfg) : Inv c { h := ({} : Heap).alloc c.ssz } := by
  constructor <;> simp [Heap.alloc] <;> omega

/-- what the invariant gives for the total: elements that take input are paid for by the `B` units of it, `esz + 16`
    bytes each, and those that take none are at most `b` (the zero-width guard) -/
theorem Inv.peak_linear {c : SetOfCfg} {s : LoopState} (hi : Inv c s) {B b : Nat} (hpaid : s.cnt * c.w ≤ B)
    (hz : c.w = 0 → s.cnt ≤ b) :
    s.h.peak ≤ (c.esz + 16) * B + (c.ssz + (c.esz + 16) * b + 32 + c.esz) := by
  have hcnt : s.cnt ≤ B + b := by
    by_cases hw : c.w = 0
    · exact Nat.le_trans (hz hw) (Nat.le_add_left _ _)
    · calc s.cnt ≤ s.cnt * c.w := Nat.le_mul_of_pos_right _ (Nat.pos_of_ne_zero hw)
        _ ≤ B := hpaid
        _ ≤ B + b := Nat.le_add_right _ _
  have hp := hi.peak
  have h1 : s.cnt * c.esz + 16 * s.cnt = (c.esz + 16) * s.cnt := by rw [Nat.add_mul, Nat.mul_comm s.cnt]
  have h2 := Nat.mul_le_mul_left (c.esz + 16) hcnt
  rw [Nat.mul_add] at h2
  omega

/-- `asn_set_add` on the ledger: one more element; the pointer array keeps its capacity or grows to at most
    `2·cnt + 4`, and the ledger pays the difference -/
theorem setAdd_spec (h : Heap) (cnt cap : Nat) (hc : 8 * cap ≤ h.live) :
    (setAdd h cnt cap).2.1 = cnt + 1 ∧
    cap ≤ (setAdd h cnt cap).2.2 ∧ (setAdd h cnt cap).2.2 ≤ max cap (2 * cnt + 4) ∧
    (setAdd h cnt cap).1.live + 8 * cap = h.live + 8 * (setAdd h cnt cap).2.2 ∧
    (setAdd h cnt cap).1.peak ≤ max h.peak (setAdd h cnt cap).1.live := by
  unfold setAdd
  split
  · split <;> simp only [Heap.realloc, true_and] <;> omega
  · simp only [true_and]; omega

/-- the successor state of one successful element -/
def addOne (c : SetOfCfg) (s : LoopState) : LoopState :=
  ⟨(setAdd (s.h.alloc c.esz) s.cnt s.cap).1, (setAdd (s.h.alloc c.esz) s.cnt s.cap).2.1,
   (setAdd (s.h.alloc c.esz) s.cnt s.cap).2.2⟩

theorem addOne_cnt (c : SetOfCfg) (s : LoopState) : (addOne c s).cnt = s.cnt + 1 := by
  simp only [addOne, setAdd]; split <;> rfl

theorem addOne_inv (c : SetOfCfg) (s : LoopState) (hi : Inv c s) : Inv c (addOne c s) := by
  -- the arithmetic: `m` for `cnt·esz`, `L P` the ledger before and `L'` after, `k` the new capacity, `T` the new bound
  have key : ∀ {ssz m esz cnt cap k L P L' T : Nat}, L = ssz + m + 8 * cap → cap ≤ 2 * cnt + 4 →
      P ≤ ssz + m + 16 * cnt + 32 + esz → k ≤ 2 * cnt + 4 → L' + 8 * cap = L + esz + 8 * k →
      T = ssz + (m + esz) + 16 * (cnt + 1) + 32 + esz →
      L' = ssz + (m + esz) + 8 * k ∧ k ≤ 2 * (cnt + 1) + 4 ∧ P ≤ T ∧ L + esz ≤ T ∧ L' ≤ T := by
    omega
  obtain ⟨h1, h2, h3⟩ := hi
  have hl : (s.h.alloc c.esz).live = s.h.live + c.esz := rfl
  obtain ⟨e1, -, e3, e4, e5⟩ := setAdd_spec (s.h.alloc c.esz) s.cnt s.cap (by omega)
  obtain ⟨g1, g2, g3, g4, g5⟩ := key h1 h2 h3 (Nat.le_trans e3 (Nat.max_le.2 ⟨h2, Nat.le_refl _⟩)) e4 rfl
  refine ⟨?_, ?_, ?_⟩ <;> simp only [addOne, e1, Nat.add_mul, Nat.one_mul]
  · exact g1
  · exact g2
  · exact Nat.le_trans e5 (Nat.max_le.2 ⟨Nat.max_le.2 ⟨g3, g4⟩, g5⟩)

theorem addOne_live_ge (c : SetOfCfg) (s : LoopState) (hi : Inv c s) :
    s.h.live + c.esz ≤ (addOne c s).h.live := by
  have hl : (s.h.alloc c.esz).live = s.h.live + c.esz := rfl
  have hc : 8 * s.cap ≤ (s.h.alloc c.esz).live := by rw [hl, hi.live]; omega
  -- the capacity does not shrink (`hcap`) and the ledger pays exactly the difference (`hpay`)
  obtain ⟨-, hcap, -, hpay, -⟩ := setAdd_spec (s.h.alloc c.esz) s.cnt s.cap hc
  show s.h.live + c.esz ≤ (setAdd (s.h.alloc c.esz) s.cnt s.cap).1.live
  omega

/-- the element decoder allocates, starves, and the element is freed again -/
theorem inv_starved (c : SetOfCfg) (s : LoopState) (hi : Inv c s) :
    Inv c { s with h := (s.h.alloc c.esz).free c.esz } := by
  obtain ⟨h1, h2, h3⟩ := hi
  refine ⟨(Nat.add_sub_cancel ..).trans h1, h2, Nat.max_le.2 ⟨h3, ?_⟩⟩
  show s.h.live + c.esz ≤ c.ssz + s.cnt * c.esz + 16 * s.cnt + 32 + c.esz
  omega

/-- the zero-width guard of `SET_OF_decode_uper` applies to a round of `n` announced elements; it reads the
    announced count, so it is the same at every element of the round -/
abbrev Refused (c : SetOfCfg) (n : Nat) : Prop := c.w = 0 ∧ c.limit.any (· < n) = true

theorem elemsUper_step (c : SetOfCfg) (n i : Nat) (bits : Bits) (s : LoopState) :
    elemsUper c n (i + 1) bits s =
      if bits.length < c.w then (.more, bits, { s with h := (s.h.alloc c.esz).free c.esz })
      else if Refused c n then (.fail, bits.drop c.w, addOne c s)
      else elemsUper c n i (bits.drop c.w) (addOne c s) := by
  simp only [elemsUper, addOne]
  split
  · rfl
  · split <;> simp [Refused, *]

/-- the loop keeps the ledger invariant, and every element it counts has consumed `w` of the input -/
theorem elemsUper_inv (c : SetOfCfg) (n : Nat) :
    ∀ (todo : Nat) (bits : Bits) (s : LoopState), Inv c s →
      Inv c (elemsUper c n todo bits s).2.2 ∧
      (elemsUper c n todo bits s).2.2.cnt * c.w + (elemsUper c n todo bits s).2.1.length
        ≤ s.cnt * c.w + bits.length := by
  intro todo
  induction todo with
  | zero => intro bits s hi; exact ⟨hi, Nat.le_refl _⟩
  | succ i ih =>
    intro bits s hi
    rw [elemsUper_step]
    split
    · exact ⟨inv_starved c s hi, Nat.le_refl _⟩
    · have hstep : (addOne c s).cnt * c.w + (bits.drop c.w).length ≤ s.cnt * c.w + bits.length := by
        rw [addOne_cnt, Nat.add_mul, Nat.one_mul, List.length_drop]; omega
      split
      · exact ⟨addOne_inv c s hi, hstep⟩
      · have hrec := ih (bits.drop c.w) _ (addOne_inv c s hi)
        exact ⟨hrec.1, Nat.le_trans hrec.2 hstep⟩

theorem elemsUper_refused (c : SetOfCfg) {n : Nat} (hr : Refused c n) (i : Nat) (bits : Bits) (s : LoopState) :
    elemsUper c n (i + 1) bits s = (.fail, bits, addOne c s) := by
  rw [elemsUper_step, if_neg (by have := hr.1; omega), if_pos hr, hr.1]; rfl

/-- The loop runs to its end, one element per `w` bits, when the data is there and the guard does not apply.
    Elements that take bits are never refused, whatever count was announced (finding F47 repaired: the guard
    looks at the bits moved, not at what the element decoder reports); elements that take none are not refused
    when there is no guard, or the announced count is within its limit, and then the loop allocates as many
    elements as the length determinant says. -/
theorem elemsUper_complete (c : SetOfCfg) (n : Nat) (hg : ¬Refused c n) :
    ∀ (todo : Nat) (bits : Bits) (s : LoopState), todo * c.w ≤ bits.length →
      ∃ s', elemsUper c n todo bits s = (.ok, bits.drop (todo * c.w), s') ∧ s'.cnt = s.cnt + todo ∧
        (Inv c s → s.h.live + todo * c.esz ≤ s'.h.live) := by
  intro todo
  induction todo with
  | zero => intro bits s _; exact ⟨s, by simp [elemsUper], rfl, fun _ => by omega⟩
  | succ i ih =>
    intro bits s hb
    have hmul : (i + 1) * c.w = c.w + i * c.w := by rw [Nat.add_mul, Nat.one_mul, Nat.add_comm]
    obtain ⟨s', he, hc, hlive⟩ := ih (bits.drop c.w) (addOne c s) (by rw [List.length_drop]; omega)
    rw [addOne_cnt] at hc
    rw [List.drop_drop, ← hmul] at he
    have hesz : (i + 1) * c.esz = i * c.esz + c.esz := Nat.succ_mul ..
    refine ⟨s', ?_, by omega, fun hi => ?_⟩
    · rw [elemsUper_step, if_neg (by omega), if_neg hg, he]
    · have h1 : s.h.live + c.esz ≤ (addOne c s).h.live := addOne_live_ge c s hi
      have hi' : (addOne c s).h.live + i * c.esz ≤ s'.h.live := hlive (addOne_inv c s hi)
      omega

theorem getBits_spec {n : Nat} {bits : Bits} {v : Nat} {r : Bits} (h : getBits n bits = some (v, r)) :
    v < 2 ^ n ∧ r.length + n = bits.length := by
  revert h
  fun_cases getBits n bits <;> intro h <;> cases h
  exact ⟨(PerSupport.take_drop_spec (by omega)).1, by rw [List.length_drop]; omega⟩

/-- An unconstrained length determinant is below 16K, or it is a "repeat": a multiple m·16K (1 ≤ m ≤ 4) of
    items, which costs exactly one octet. -/
theorem uperGetLength_unconstrained {lb : Nat} {bits : Bits} {n : Nat} {rep : Bool} {r : Bits}
    (h : uperGetLength none lb bits = some (n, rep, r)) :
    r.length + 8 ≤ bits.length ∧ (rep = false → n < 16384) ∧
    (rep = true → 16384 ≤ n ∧ n ≤ 65536 ∧ n % 16384 = 0 ∧ r.length + 8 = bits.length) := by
  generalize he : (none : Option Nat) = eb at h
  revert h
  fun_cases uperGetLength eb lb bits <;> intro h <;> cases he <;> cases h
  -- the accepting leaves: one octet; two octets; `m·16K` with repeat
  next _ hg => have := getBits_spec hg; exact ⟨by omega, fun _ => by omega, nofun⟩
  next hg _ _ _ hg2 =>
    have := getBits_spec hg; have := getBits_spec hg2; exact ⟨by omega, fun _ => by omega, nofun⟩
  next _ hg => have := getBits_spec hg; exact ⟨by omega, nofun, fun _ => by omega⟩

theorem uperGetLength_constrained {e lb : Nat} {bits : Bits} {n : Nat} {rep : Bool} {r : Bits}
    (h : uperGetLength (some e) lb bits = some (n, rep, r)) :
    rep = false ∧ n < lb + 2 ^ e ∧ r.length + e = bits.length := by
  generalize he : some e = eb at h
  revert h
  fun_cases uperGetLength eb lb bits <;> intro h <;> cases he <;> cases h
  next hg => exact ⟨rfl, by have := (getBits_spec hg).1; omega, (getBits_spec hg).2⟩

theorem uperGetLength_len {eb : Option Nat} {lb : Nat} {bits : Bits} {n : Nat} {rep : Bool} {r : Bits}
    (h : uperGetLength eb lb bits = some (n, rep, r)) : r.length ≤ bits.length := by
  cases eb with
  | none => have := (uperGetLength_unconstrained h).1; omega
  | some e => have := (uperGetLength_constrained h).2.2; omega

theorem uperGetLength_le {lb : Nat} {bits : Bits} {n : Nat} {rep : Bool} {r : Bits}
    (h : uperGetLength none lb bits = some (n, rep, r)) : n ≤ 65536 := by
  obtain ⟨-, h0, h1⟩ := uperGetLength_unconstrained h
  cases rep with
  | false => have := h0 rfl; omega
  | true => exact (h1 rfl).2.1

/-- One round of the `do … while(repeat)` loop of `SET_OF_decode_uper`.  No length can be read; or the element
    loop of this round gives the result; or the round was a fragment (16K elements or more) decoded in full and
    the loop goes round again. -/
theorem roundsUper_round (c : SetOfCfg) (fuel : Nat) (first : Option Nat) (bits : Bits) (s : LoopState) :
    roundsUper c (fuel + 1) first bits s = (.more, bits, s) ∨
    ∃ n bits1, bits1.length ≤ bits.length ∧
      (roundsUper c (fuel + 1) first bits s = elemsUper c n n bits1 s ∨
       16384 ≤ n ∧ ∃ bits2 s2, elemsUper c n n bits1 s = (.ok, bits2, s2) ∧
         roundsUper c (fuel + 1) first bits s = roundsUper c fuel none bits2 s2) := by
  simp only [roundsUper]
  split
  · exact .inl rfl
  · rename_i n rep bits1 hlen
    -- a count known beforehand (`first`) is not a fragment
    have hlen : bits1.length ≤ bits.length ∧ (rep = true → 16384 ≤ n) := by
      cases first with
      | some m => cases hlen; exact ⟨Nat.le_refl _, nofun⟩
      | none => exact ⟨uperGetLength_len hlen, fun hr => ((uperGetLength_unconstrained hlen).2.2 hr).1⟩
    refine .inr ⟨n, bits1, hlen.1, ?_⟩
    split
    · rename_i bits2 s2 heq
      cases rep with
      | false => exact .inl heq.symm
      | true => exact .inr ⟨hlen.2 rfl, bits2, s2, heq, rfl⟩
    · exact .inl rfl

theorem roundsUper_inv (c : SetOfCfg) :
    ∀ (fuel : Nat) (first : Option Nat) (bits : Bits) (s : LoopState), Inv c s →
      Inv c (roundsUper c fuel first bits s).2.2 ∧
      (roundsUper c fuel first bits s).2.2.cnt * c.w + (roundsUper c fuel first bits s).2.1.length
        ≤ s.cnt * c.w + bits.length := by
  intro fuel
  induction fuel with
  | zero => intro first bits s hi; exact ⟨hi, Nat.le_refl _⟩
  | succ k ih =>
    intro first bits s hi
    rcases roundsUper_round c k first bits s with h | ⟨n, bits1, hb, h | ⟨-, bits2, s2, he, h⟩⟩ <;> rw [h]
    · exact ⟨hi, Nat.le_refl _⟩
    · have := elemsUper_inv c n n bits1 s hi
      exact ⟨this.1, by omega⟩
    · have h1 := elemsUper_inv c n n bits1 s hi
      rw [he] at h1
      have h2 := ih none bits2 s2 h1.1
      exact ⟨h2.1, Nat.le_trans h2.2 (Nat.le_trans h1.2 (by omega))⟩

/-- zero-width elements under the guard: the whole decode keeps at most `max lim 1` elements (a round within the
    limit is the last one: a repeat would announce `n ≥ 16384 > lim` elements, and those are refused) -/
theorem roundsUper_cnt_zero (c : SetOfCfg) (lim : Nat) (hw : c.w = 0) (hl : c.limit = some lim) (hlim : lim < 16384)
    (fuel : Nat) (first : Option Nat) (bits : Bits) (s : LoopState) :
    (roundsUper c fuel first bits s).2.2.cnt ≤ s.cnt + max lim 1 := by
  cases fuel with
  | zero => exact Nat.le_add_right _ _
  | succ k =>
    rcases roundsUper_round c k first bits s with h | ⟨n, bits1, -, h | ⟨hn, bits2, s2, he, -⟩⟩
    · rw [h]; exact Nat.le_add_right _ _
    · rw [h]
      by_cases hr : Refused c n
      · cases n with
        | zero => exact Nat.le_add_right _ _
        | succ i => rw [elemsUper_refused c hr, addOne_cnt]; omega
      · obtain ⟨s', he, hc, -⟩ := elemsUper_complete c n hr n bits1 s (by simp [hw])
        have : n ≤ lim := Nat.le_of_not_lt fun h => hr ⟨hw, by simpa [hl] using h⟩
        rw [he, hc]; omega
    · cases n with
      | zero => omega
      | succ i => rw [elemsUper_refused c ⟨hw, by simp [hl]; omega⟩] at he; cases he

theorem setOfUper_inv (c : SetOfCfg) (ct : Option (Nat × Nat)) (bits : Bits) :
    Inv c (setOfUper c ct bits).2.2 ∧ (setOfUper c ct bits).2.2.cnt * c.w ≤ bits.length := by
  have hr := fun fuel first r => roundsUper_inv c fuel first r _ (inv_init c)
  simp only [Nat.zero_mul, Nat.zero_add] at hr
  unfold setOfUper
  simp only
  split
  · exact ⟨(hr _ _ _).1, Nat.le_trans (Nat.le_add_right _ _) (hr (bits.length + 1) none bits).2⟩
  · split
    · exact ⟨inv_init c, by simp⟩
    · rename_i lb _ v r hg
      have := (getBits_spec hg).2
      have := (hr (r.length + 1) (some (v + lb)) r).2
      exact ⟨(hr _ _ _).1, by omega⟩

/-- no guard, zero-width elements, one fragment of `n` elements and then the end of the input -/
theorem setOfUper_noguard_fragment (ssz esz n : Nat) (bits rest : Bits)
    (hlen : uperGetLength none 0 bits = some (n, true, rest))
    (hend : uperGetLength none 0 rest = none) :
    n * esz ≤ (setOfUper ⟨ssz, esz, 0, true, none⟩ none bits).2.2.h.live ∧
    (setOfUper ⟨ssz, esz, 0, true, none⟩ none bits).2.2.cnt = n := by
  obtain ⟨m, hb⟩ : ∃ m, bits.length = m + 1 :=
    ⟨bits.length - 1, by have := (uperGetLength_unconstrained hlen).1; omega⟩
  obtain ⟨s', he, hc, hl⟩ := elemsUper_complete ⟨ssz, esz, 0, true, none⟩ n (fun h => nomatch h.2) n rest
    { h := ({} : Heap).alloc ssz } (by simp)
  have hl := hl (inv_init _)
  simp only [Nat.mul_zero, List.drop_zero] at hc hl he
  simp only [setOfUper, hb, roundsUper, hlen, he, hend, if_true]
  exact ⟨by omega, by omega⟩

theorem elemsOer_step (c : SetOfCfg) (left done : Nat) (moved : Bool) (bs : Bytes) (s : LoopState) :
    elemsOer c (left + 1) done moved bs s =
      if bs.length < c.w then (.more, bs, s)
      else if c.rep0 = true ∧ (moved || decide (c.w > 0)) = false ∧ c.limit.any (· < done) = true then
        (.fail, bs.drop c.w, addOne c s)
      else elemsOer c left (done + 1) (moved || decide (c.w > 0)) (bs.drop c.w) (addOne c s) := by
  simp only [elemsOer, addOne]
  split
  · rfl
  · split <;> simp [and_assoc, *]

theorem elemsOer_inv (c : SetOfCfg) :
    ∀ (left done : Nat) (moved : Bool) (bs : Bytes) (s : LoopState), Inv c s →
      Inv c (elemsOer c left done moved bs s).2.2 ∧
      (elemsOer c left done moved bs s).2.2.cnt * c.w + (elemsOer c left done moved bs s).2.1.length
        ≤ s.cnt * c.w + bs.length := by
  intro left
  induction left with
  | zero => intro done moved bs s hi; exact ⟨hi, Nat.le_refl _⟩
  | succ k ih =>
    intro done moved bs s hi
    rw [elemsOer_step]
    split
    · exact ⟨hi, Nat.le_refl _⟩
    · have hstep : (addOne c s).cnt * c.w + (bs.drop c.w).length ≤ s.cnt * c.w + bs.length := by
        rw [addOne_cnt, Nat.add_mul, Nat.one_mul, List.length_drop]; omega
      split
      · exact ⟨addOne_inv c s hi, hstep⟩
      · have hrec := ih (done + 1) (moved || decide (c.w > 0)) (bs.drop c.w) _ (addOne_inv c s hi)
        exact ⟨hrec.1, Nat.le_trans hrec.2 hstep⟩

/-- zero-width elements under the OER guard: the loop is cut after element number `lim + 1` (0-based) -/
theorem elemsOer_cnt_zero (c : SetOfCfg) (lim : Nat) (hw : c.w = 0) (hr : c.rep0 = true)
    (hl : c.limit = some lim) :
    ∀ (left done : Nat) (bs : Bytes) (s : LoopState),
      (elemsOer c left done false bs s).2.2.cnt ≤ s.cnt + max 1 (lim + 2 - done) := by
  intro left
  induction left with
  | zero => intro done bs s; exact Nat.le_add_right _ _
  | succ k ih =>
    intro done bs s
    rw [elemsOer_step, if_neg (by omega)]
    simp only [hr, hw, hl, Nat.lt_irrefl, decide_false, Bool.or_false, Option.any_some, decide_eq_true_eq, true_and]
    split
    · rw [addOne_cnt]; omega
    · have := ih (done + 1) (bs.drop 0) (addOne c s)
      rw [addOne_cnt] at this
      omega

theorem setOfOer_inv (c : SetOfCfg) (bs : Bytes) :
    Inv c (setOfOer c bs).2.2 ∧ (setOfOer c bs).2.2.cnt * c.w ≤ bs.length := by
  unfold setOfOer
  simp only
  split
  · exact ⟨inv_init c, by simp⟩
  · exact ⟨inv_init c, by simp⟩
  · rename_i q used _
    obtain ⟨h1, h2⟩ := elemsOer_inv c q 0 false (bs.drop used) _ (inv_init c)
    simp only [Nat.zero_mul, Nat.zero_add, List.length_drop] at h2
    exact ⟨h1, by omega⟩

/-- the ledger after `REALLOC(st->buf, req)`, which is a `MALLOC` while there is no buffer -/
def osGrow (h : Heap) (buf : Option Nat) (req : Nat) : Heap :=
  match buf with
  | some old => h.realloc old req
  | none => h.alloc req

theorem osGrow_live (ssz : Nat) (h : Heap) (buf : Option Nat) (req : Nat)
    (hl : h.live = ssz + buf.getD 0) : (osGrow h buf req).live = ssz + req := by
  cases buf with
  | none => simp only [osGrow, Heap.alloc, hl, Option.getD_none, Nat.add_zero]
  | some old => simp only [osGrow, Heap.realloc, hl, Option.getD_some, Nat.add_sub_cancel]

theorem osGrow_peak_le (ssz : Nat) (h : Heap) (buf : Option Nat) {req B : Nat}
    (hl : h.live = ssz + buf.getD 0) (hB : ssz + req ≤ B) : (osGrow h buf req).peak ≤ max h.peak B := by
  have : (osGrow h buf req).peak = max h.peak (osGrow h buf req).live := by cases buf <;> rfl
  rw [this, osGrow_live ssz h buf req hl]
  exact Nat.max_le.2 ⟨Nat.le_max_left _ _, Nat.le_trans hB (Nat.le_max_right _ _)⟩

/-- moving a fragment of `n` units from the input to the buffer leaves `size·u + bpc·(unread bits)` as it is -/
theorem fragment_potential (size n bpc u len : Nat) (h : n * u ≤ len) :
    (size + n * bpc) * u + bpc * (len - n * u) = size * u + bpc * len := by
  have := Nat.mul_le_mul_left bpc h
  rw [Nat.add_mul, Nat.mul_sub, Nat.mul_comm n bpc, Nat.mul_assoc]
  omega

/-- the first round: there is no buffer yet, so even an empty length allocates -/
theorem osUperLoop_first (bpc u : Nat) (eb : Option Nat) (lb fuel : Nat) (bits : Bits) (h : Heap) :
    osUperLoop bpc u eb lb (fuel + 1) bits h none 0 0 =
      match uperGetLength eb lb bits with
      | none => ⟨.more, bits, h, 0⟩
      | some (n, rep, bits1) =>
        if u = 0 ∧ rep = true then ⟨.fail, bits1, h, 1⟩
        else if bits1.length < n * u then ⟨.more, bits1, h.alloc (n * bpc + 1), 1⟩
        else if rep then
          osUperLoop bpc u eb lb fuel (bits1.drop (n * u)) (h.alloc (n * bpc + 1)) (some (n * bpc + 1)) (n * bpc) 1
        else ⟨.ok, bits1.drop (n * u), h.alloc (n * bpc + 1), 1⟩ := by
  simp only [osUperLoop, Option.isSome_none, Bool.false_eq_true, and_false, if_false, Nat.zero_add]
  rfl

/-- One length determinant of the loop of `OCTET_STRING_decode_uper`.  Either it announces a fragment whose data
    is there, and the loop goes round again behind it with the buffer grown; or the loop ends here, within the
    input, and the ledger is as before or has grown once, by what the length says. -/
theorem osUperLoop_round (bpc u : Nat) (eb : Option Nat) (lb fuel : Nat) (bits : Bits) (h : Heap)
    (buf : Option Nat) (size k : Nat) (res : OsResult)
    (hres : osUperLoop bpc u eb lb (fuel + 1) bits h buf size k = res) :
    (∃ n bits1, uperGetLength eb lb bits = some (n, true, bits1) ∧ n * u ≤ bits1.length ∧
      res = osUperLoop bpc u eb lb fuel (bits1.drop (n * u)) (osGrow h buf (size + n * bpc + 1))
          (some (size + n * bpc + 1)) (size + n * bpc) (k + 1)) ∨
    (res.rounds ≤ k + 1 ∧ res.rest.length ≤ bits.length ∧
     (res.h = h ∨ ∃ n rep bits1, uperGetLength eb lb bits = some (n, rep, bits1) ∧
        res.h = osGrow h buf (size + n * bpc + 1))) := by
  subst hres
  generalize hf : fuel + 1 = f
  fun_cases osUperLoop bpc u eb lb f bits h buf size k <;> cases hf
  -- no length; empty length with a buffer; zero-width fragment; data missing; fragment; last round
  · exact .inr ⟨Nat.le_succ _, Nat.le_refl _, .inl rfl⟩
  · exact .inr ⟨Nat.le_refl _, uperGetLength_len ‹_›, .inl rfl⟩
  · exact .inr ⟨Nat.le_refl _, uperGetLength_len ‹_›, .inl rfl⟩
  · exact .inr ⟨Nat.le_refl _, uperGetLength_len ‹_›, .inr ⟨_, _, _, ‹_›, rfl⟩⟩
  · exact .inl ⟨_, _, ‹_›, Nat.le_of_not_lt ‹_›, rfl⟩
  · next hg _ _ =>
    have := uperGetLength_len hg
    exact .inr ⟨Nat.le_refl _, by rw [List.length_drop]; omega, .inr ⟨_, _, _, hg, rfl⟩⟩

/-- Heap bound of the fragment loop: there is a number `S` of content octets, paid for by input actually
    present (`S·u ≤ bpc·bits consumed`), such that the peak is at most `ssz + S + L·bpc + 1`, where `L`
    bounds what one length determinant can announce. -/
theorem osUperLoop_heap (ssz bpc u : Nat) (eb : Option Nat) (lb L : Nat)
    (hL : ∀ bits n rep r, uperGetLength eb lb bits = some (n, rep, r) → n ≤ L) :
    ∀ (fuel : Nat) (bits : Bits) (h : Heap) (buf : Option Nat) (size k : Nat),
      h.live = ssz + buf.getD 0 →
      ∃ S, size ≤ S ∧
        S * u + bpc * (osUperLoop bpc u eb lb fuel bits h buf size k).rest.length ≤ size * u + bpc * bits.length ∧
        (osUperLoop bpc u eb lb fuel bits h buf size k).h.peak ≤ max h.peak (ssz + S + L * bpc + 1) := by
  intro fuel
  induction fuel with
  | zero => intro bits h buf size k _; exact ⟨size, Nat.le_refl _, Nat.le_refl _, Nat.le_max_left _ _⟩
  | succ f ih =>
    intro bits h buf size k hl
    rcases osUperLoop_round bpc u eb lb f bits h buf size k _ rfl with ⟨n, bits1, hg, hdata, hstep⟩ | ⟨-, hrest, hh⟩
    · -- a fragment: its `n·bpc` octets are in the input, the next round starts behind them
      obtain ⟨S, hS1, hS2, hS3⟩ := ih (bits1.drop (n * u)) (osGrow h buf (size + n * bpc + 1))
        (some (size + n * bpc + 1)) (size + n * bpc) (k + 1) (osGrow_live ssz h buf _ hl)
      have hb1 := Nat.mul_le_mul_left bpc (uperGetLength_len hg)
      rw [List.length_drop, fragment_potential _ _ _ _ _ hdata] at hS2
      rw [hstep]
      refine ⟨S, Nat.le_trans (Nat.le_add_right _ _) hS1, Nat.le_trans hS2 (Nat.add_le_add_left hb1 _),
        Nat.le_trans hS3 (Nat.max_le.2 ⟨?_, Nat.le_max_right _ _⟩)⟩
      exact osGrow_peak_le ssz h buf hl (by omega)
    · -- the last round: `S = size`
      refine ⟨size, Nat.le_refl _, Nat.add_le_add_left (Nat.mul_le_mul_left bpc hrest) _, ?_⟩
      rcases hh with hh | ⟨n, rep, bits1, hg, hh⟩
      · rw [hh]; exact Nat.le_max_left _ _
      · have hreq := Nat.mul_le_mul_right bpc (hL _ _ _ _ hg)
        rw [hh]
        exact osGrow_peak_le ssz h buf hl (by omega)

/-- every round but the last one consumes at least 16K units of `u` bits (unconstrained lengths) -/
theorem osUperLoop_rounds (bpc u lb : Nat) :
    ∀ (fuel : Nat) (bits : Bits) (h : Heap) (buf : Option Nat) (size k : Nat),
      (osUperLoop bpc u none lb fuel bits h buf size k).rounds * (16384 * u)
        + (osUperLoop bpc u none lb fuel bits h buf size k).rest.length ≤ bits.length + (k + 1) * (16384 * u) := by
  intro fuel
  induction fuel with
  | zero =>
    intro bits h buf size k
    have := Nat.mul_le_mul_right (16384 * u) (Nat.le_add_right k 1)
    simp only [osUperLoop]
    omega
  | succ f ih =>
    intro bits h buf size k
    rcases osUperLoop_round bpc u none lb f bits h buf size k _ rfl with ⟨n, bits1, hg, hdata, hstep⟩ | ⟨hk, hrest, -⟩
    · have hx : 16384 * u ≤ n * u := Nat.mul_le_mul_right _ ((uperGetLength_unconstrained hg).2.2 rfl).1
      have hb1 := uperGetLength_len hg
      have := ih (bits1.drop (n * u)) (osGrow h buf (size + n * bpc + 1)) (some (size + n * bpc + 1))
        (size + n * bpc) (k + 1)
      rw [List.length_drop, Nat.succ_mul (k + 1)] at this
      rw [hstep]
      omega
    · have := Nat.mul_le_mul_right (16384 * u) hk
      omega

/-- the loop of the `APPEND` macro (OCTET_STRING.c) ends above the needed size (so the fuel `es + 1` is enough)
    and at most doubles it -/
theorem appendCapLoop_spec (fuel ns es : Nat) (h : ns ≤ es) (h' : es < ns + fuel) :
    es < appendCapLoop fuel ns es ∧ appendCapLoop fuel ns es ≤ 2 * es + 16 := by
  fun_induction appendCapLoop fuel ns es with
  | case1 => omega
  | case2 f ns es ns' hle ih => exact ih hle (by simp only [ns']; split <;> omega)
  | case3 f ns es ns' hle => exact ⟨by omega, by simp only [ns']; split <;> omega⟩

end Asn1c.Proofs.StackGuard
