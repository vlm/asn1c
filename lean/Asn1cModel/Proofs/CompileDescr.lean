import Asn1cModel.Impl.CompileDescr
import Asn1cModel.Impl.CompileDescrL2
import Asn1cModel.Proofs.Sort
/-
  Lemmas behind Props/C10Compile.lean, subject by subject.  The tag chain the compiler model emits
  (`fetchTags` on the fixed module, i.e. asn1fix_tags.c after asn1fix_constr.c) equals the tag list of the type the
  L2 codecs resolve (`toL2`, X.680 §31.2.7): resolver and fixer agree on the chain below the own tag
  (`resolved_below`) and put the tag on it in the same way (`applyTag_eq_chainTag`); then two facts about
  `terminal`, through which the PER records of a reference are found.  tag2el is sorted, duplicate free under
  the distinctness rule, binary search finds the member, and what its entries are.  The members of SEQUENCE / SET /
  CHOICE under written tags and automatic tagging.  The optional-member table `oms`.  The member `tag`, and tag2el =
  the outermost tags of the resolved members.
-/
namespace Asn1c.Impl.CompileDescr
open Asn1c Asn1c.L2 Asn1c.Impl.BerTlv

/-- prefix a (fixed) tag: IMPLICIT replaces the first tag of the base chain, EXPLICIT prepends -/
def chainTag (g : Option WTag) (b : List Tag) : List Tag :=
  match g with
  | none => b
  | some g => if g.mode == .imp then g.tag :: b.drop 1 else g.tag :: b

/-- the chain below the own tag -/
def chainBase (M : Module) (rec : CTy → Option (List Tag)) : CTy → Option (List Tag)
  | .ref _ n =>
    match M.lookup n with
    | some t' => rec t'
    | none => none
  | .constr _ .choice _ _ => some []
  | t => some [⟨0, univNum t⟩]

/-- the tag chain X.680 §31.2.7 gives a type: the own tag in front of the chain below it, through at most
    `fuel` references (`none`: a reference that does not resolve within the fuel) -/
def chain (M : Module) : Nat → CTy → Option (List Tag)
  | 0, t => (chainBase M (fun _ => none) t).map (chainTag t.tag)
  | fuel + 1, t => (chainBase M (chain M fuel) t).map (chainTag t.tag)

/-- the chain below the own tag of `t`: what the tag is put on, by the resolver (`applyTag`) as by the fixer
    (`fixTag`, `chainTag`).  One unit of fuel is spent on `t` itself. -/
def below (M : Module) (f : Nat) (t : CTy) : Option (List Tag) := chainBase M (chain M f) t

theorem chain_succ (M : Module) (f : Nat) (t : CTy) :
    chain M (f + 1) t = (below M f t).map (chainTag t.tag) := rfl

/-- the chain below the own tag of a type that is not a reference -/
def baseOf : CTy → List Tag
  | .constr _ .choice _ _ => []
  | t => [⟨0, univNum t⟩]

/-- a type reference, the one case in which the chain is found elsewhere -/
def CTy.isRef : CTy → Bool
  | .ref _ _ => true
  | _ => false

/-- what `tagsOf` keeps of the result of `fetchTags`: the collected tags, none after a failure -/
def fetchList (r : Option (List Tag × Nat)) : List Tag :=
  match r with
  | some st => st.1
  | none => []

theorem CTy.ref_or_nonref (t : CTy) : (∃ tg n, t = .ref tg n) ∨ t.isRef = false := by
  cases t <;> simp [CTy.isRef]

theorem chainBase_nonref (M : Module) (rec : CTy → Option (List Tag)) (t : CTy) (h : t.isRef = false) :
    chainBase M rec t = some (baseOf t) := by
  cases t with
  | ref tg n => simp [CTy.isRef] at h
  | constr tg k e cs => cases k <;> rfl
  | _ => rfl

theorem chain_nonref (M : Module) (fuel : Nat) (t : CTy) (h : t.isRef = false) :
    chain M fuel t = some (chainTag t.tag (baseOf t)) := by
  cases fuel <;> simp [chain, chainBase_nonref M _ t h]

theorem chain_ref (M : Module) (fuel : Nat) (tg : Option WTag) (n : String) :
    chain M fuel (.ref tg n) = match fuel with
      | 0 => none
      | f + 1 => ((M.lookup n).bind (chain M f)).map (chainTag tg) := by
  cases fuel <;> simp only [chain, chainBase] <;> cases M.lookup n <;> rfl

/-- how a chain comes about: whatever is read off a chain is read off in these two cases -/
theorem chain_elim {M : Module} {P : Nat → CTy → List Tag → Prop}
    (nonref : ∀ f t, t.isRef = false → P f t (chainTag t.tag (baseOf t)))
    (ref : ∀ f tg n t' b, M.lookup n = some t' → chain M f t' = some b → P f t' b →
      P (f + 1) (.ref tg n) (chainTag tg b)) :
    ∀ (f : Nat) (t : CTy) (c : List Tag), chain M f t = some c → P f t c := by
  intro f
  induction f with
  | zero =>
    intro t c h
    rcases t.ref_or_nonref with ⟨tg, n, rfl⟩ | hr
    · rw [chain_ref] at h; cases h
    · rw [chain_nonref M _ t hr] at h; cases h; exact nonref _ t hr
  | succ f ih =>
    intro t c h
    rcases t.ref_or_nonref with ⟨tg, n, rfl⟩ | hr
    · rw [chain_ref] at h
      obtain ⟨b, hb, rfl⟩ := Option.map_eq_some_iff.mp h
      obtain ⟨t', hl, hb⟩ := Option.bind_eq_some_iff.mp hb
      exact ref _ tg n t' b hl hb (ih t' b hb)
    · rw [chain_nonref M _ t hr] at h; cases h; exact nonref _ t hr

/-- `ADD_TAG` with the pending "skip" count read as "drop that many of the tags that follow": adding the tag `g`
    in front of a chain `b` -/
theorem addTag_drop (g : WTag) (st : List Tag × Nat) (b : List Tag) :
    (addTag false g st).1 ++ b.drop (addTag false g st).2 = st.1 ++ (chainTag (some g) b).drop st.2 := by
  obtain ⟨acc, s⟩ := st
  cases s with
  | zero =>
    -- nothing pending: the tag is appended, and under IMPLICIT the next one becomes pending
    by_cases hm : g.mode = .imp <;> simp [addTag, chainTag, hm]
  | succ s =>
    -- tags pending: this tag is one of those dropped, and it counts only if it is not IMPLICIT
    by_cases hm : g.mode = .imp <;> simp [addTag, chainTag, hm]

theorem addOwn_drop (t : CTy) (st : List Tag × Nat) (b : List Tag) :
    (addOwn false t st).1 ++ b.drop (addOwn false t st).2 = st.1 ++ (chainTag t.tag b).drop st.2 := by
  unfold addOwn
  cases t.tag with
  | none => rfl
  | some g => exact addTag_drop g st b

theorem baseOf_cases (t : CTy) : baseOf t = [] ∨ baseOf t = [⟨0, univNum t⟩] := by
  cases t with
  | constr tg k e cs => cases k <;> simp [baseOf]
  | _ => simp [baseOf]

theorem fetchTags_nonref (M : Module) (fuel : Nat) (t : CTy) (st : List Tag × Nat) (h : t.isRef = false) :
    fetchTags M false fuel t st =
      if (baseOf t).isEmpty then (if (addOwn false t st).1.length > 0 then some (addOwn false t st) else none)
      else some (addTag false ⟨⟨0, univNum t⟩, .dflt⟩ (addOwn false t st)) := by
  cases t with
  | ref tg n => cases h
  | constr tg k e cs => cases k <;> cases fuel <;> rfl
  | _ => cases fuel <;> rfl

theorem fetch_nonref (M : Module) (fuel : Nat) (t : CTy) (st : List Tag × Nat) (h : t.isRef = false) :
    fetchList (fetchTags M false fuel t st) = st.1 ++ (chainTag t.tag (baseOf t)).drop st.2 := by
  rw [fetchTags_nonref M fuel t _ h, ← addOwn_drop t st (baseOf t)]
  generalize addOwn false t st = st'
  rcases baseOf_cases t with hb | hb <;> rw [hb]
  · -- CHOICE, no universal tag: the fetch fails if nothing was collected, and then there is nothing to return
    simp only [List.isEmpty_nil, if_true, List.drop_nil, List.append_nil]
    split
    · rfl
    · exact (List.eq_nil_of_length_eq_zero (by omega)).symm
  · simpa [chainTag, fetchList] using addTag_drop ⟨⟨0, univNum t⟩, .dflt⟩ st' []

/-- **`asn1f_fetch_tags_impl` computes the chain**: started with the tags `st.1` and a skip count `st.2` it
    appends the chain of the type minus its first `st.2` tags -/
theorem fetch_chain (M : Module) : ∀ (fuel : Nat) (t : CTy) (c : List Tag), chain M fuel t = some c →
    ∀ st : List Tag × Nat, fetchList (fetchTags M false fuel t st) = st.1 ++ c.drop st.2 :=
  chain_elim (fun f t hr st => fetch_nonref M f t st hr) fun f tg n t' b hl _ ih st => by
    unfold fetchTags
    simp only [hl]
    rw [ih, addOwn_drop]; rfl

theorem tagsOf_chain (M : Module) (t : CTy) (c : List Tag) (h : chain M M.fuel t = some c) : tagsOf M t = c :=
  fetch_chain M M.fuel t c h ([], 0)

/-- the module's tagging default is one of the four the generator writes ("none" = no TAGS clause = EXPLICIT) -/
def ValidTagDefault (M : Module) : Prop :=
  M.tagDefault = "none" ∨ M.tagDefault = "EXPLICIT" ∨ M.tagDefault = "IMPLICIT" ∨ M.tagDefault = "AUTOMATIC"

theorem lookup_map_fix (M : Module) (l : List (String × CTy)) (n : String) :
    (l.map fun (p : String × CTy) => (p.1, fixTop M p.2)).lookup n = (l.lookup n).map (fixTop M) := by
  induction l with
  | nil => rfl
  | cons p rest ih =>
    by_cases h : (n == p.1) = true <;> simp [List.lookup, h, ih]

theorem lookup_fix (M : Module) (n : String) : (fixModule M).lookup n = (M.lookup n).map (fixTop M) := by
  unfold Module.lookup fixModule
  exact lookup_map_fix M M.types n

theorem withTag_tag (t : CTy) (g : Option WTag) : (t.withTag g).tag = g := by cases t <;> rfl
theorem fixTy_tag (M : Module) (t : CTy) : (fixTy M t).tag = t.tag := by cases t <;> rfl

theorem chainBase_withTag (M : Module) (rec : CTy → Option (List Tag)) (t : CTy) (g : Option WTag) :
    chainBase M rec (t.withTag g) = chainBase M rec t := by
  cases t with
  | constr tg k e cs => cases k <;> rfl
  | listOf tg q z e => cases q <;> rfl
  | prim tg k => cases k <;> rfl
  | _ => rfl

theorem below_withTag (M : Module) (f : Nat) (t : CTy) (g : Option WTag) :
    below M f (t.withTag g) = below M f t := chainBase_withTag M _ t g

theorem below_fixTy (M M' : Module) (f : Nat) (t : CTy) : below M' f (fixTy M t) = below M' f t := by
  cases t with
  | constr tg k e cs => cases k <;> rfl
  | listOf tg q z e => cases q <;> rfl
  | _ => rfl

theorem below_fixTop (M M' : Module) (f : Nat) (t : CTy) : below M' f (fixTop M t) = below M' f t := by
  unfold fixTop; cases t.tag <;> simp [below_withTag, below_fixTy]

theorem fixTop_tag (M : Module) (t : CTy) :
    (fixTop M t).tag = t.tag.map (fixTag M (mustExplicit M M.fuel t)) := by
  unfold fixTop
  cases ht : t.tag with
  | none => simp [fixTy_tag, ht]
  | some g => simp [withTag_tag]

theorem fixTop_ref (M : Module) (tg : Option WTag) (n : String) :
    fixTop M (.ref tg n) = .ref (tg.map (fixTag M (mustExplicit M M.fuel (.ref tg n)))) n := by
  cases tg <;> rfl

theorem fixTop_untagged (M : Module) (t : CTy) (h : t.tag = none) : fixTop M t = fixTy M t := by
  unfold fixTop; simp [h]

theorem applyTag_some_ne_nil (td : String) (s : TagSpec) (base : List Tag) (b : Bool) :
    applyTag td (some s) base b ≠ [] := by
  simp only [applyTag]; split <;> simp

theorem implicitDefault_eq {M : Module} (htd : ValidTagDefault M) :
    implicitDefault M = !(M.tagDefault == "none" || M.tagDefault == "EXPLICIT") := by
  rcases htd with h | h | h | h <;> rw [implicitDefault, h] <;> decide

/-- **the tag mode the fixer decides is the one X.680 §31.2.7 prescribes**: EXPLICIT iff written EXPLICIT, or
    the module default is explicit and nothing was written, or the tagged type is an untagged CHOICE -/
theorem applyTag_eq_chainTag (M : Module) (htd : ValidTagDefault M) (tg : Option WTag) (b : List Tag) :
    applyTag M.tagDefault (specOf tg) b b.isEmpty = chainTag (tg.map (fixTag M b.isEmpty)) b := by
  cases tg with
  | none => rfl
  | some g =>
    obtain ⟨tag, mode⟩ := g
    simp only [applyTag, specOf, Option.map_some, chainTag, fixTag, implicitDefault_eq htd, Bool.or_assoc, Bool.or_self]
    generalize (M.tagDefault == "none" || M.tagDefault == "EXPLICIT") = d
    generalize b.isEmpty = me
    cases mode with
    | exp => cases me <;> rfl                -- written EXPLICIT stays EXPLICIT
    | imp => cases me <;> rfl                -- written IMPLICIT: EXPLICIT all the same if nothing is below to replace
    | dflt => cases me <;> cases d <;> rfl   -- nothing written: the module default, with the same exception

theorem mustExplicit_nonref (M : Module) (f : Nat) (t : CTy) (hr : t.isRef = false) :
    mustExplicit M f t = (baseOf t).isEmpty := by
  cases t with
  | ref tg n => simp [CTy.isRef] at hr
  | constr tg k e cs => cases k <;> cases f <;> rfl
  | _ => cases f <;> rfl

theorem mustExplicit_ref (M : Module) (f : Nat) (tg : Option WTag) {n : String} {d : CTy}
    (hl : M.lookup n = some d) :
    mustExplicit M (f + 1) (.ref tg n) = (d.tag.isNone && mustExplicit M f d) := by
  simp only [mustExplicit, hl]
  cases d.tag <;> simp

theorem applyTag_isEmpty (td : String) (tg : Option WTag) (base : List Tag) (b : Bool) :
    (applyTag td (specOf tg) base b).isEmpty = (tg.isNone && base.isEmpty) := by
  cases tg with
  | none => simp [specOf, applyTag]
  | some g => exact List.isEmpty_eq_false_iff.mpr (applyTag_some_ne_nil td _ base b)

theorem tyTags_retag (t : Ty) (f : List Tag → List Tag) : tyTags (retag t f) = f (tyTags t) := by
  cases t <;> rfl

theorem isUntaggedChoice_tags {t : Ty} (h : isUntaggedChoice t = true) : tyTags t = [] := by
  cases t <;> simp_all [isUntaggedChoice, tyTags]

theorem applyTag_choice_flag (td : String) (s : Option TagSpec) (base : List Tag) (b : Bool)
    (h : b = true → base = []) : applyTag td s base b = applyTag td s base base.isEmpty := by
  cases s with
  | none => rfl
  | some s =>
    cases b with
    | false => simp [applyTag]
    | true => simp [applyTag, h rfl]

theorem strUniv_eq (k : String) : strUniv k = (L2.strUniv k).getD 0 := by
  simp only [L2.strUniv, strUniv, apply_ite (Option.getD · 0), Option.getD_some, Option.getD_none]

theorem toL2_ref {M : Module} {k : Nat} {tg : Option WTag} {n : String} {ty : Ty}
    (h : toL2 M (k + 1) (.ref tg n) = some ty) :
    ∃ d ty0, M.lookup n = some d ∧ toL2 M k d = some ty0 ∧
      ty = retag ty0 (fun base => applyTag M.tagDefault (specOf tg) base (isUntaggedChoice ty0)) := by
  simp only [toL2] at h
  split at h
  · cases h
  · rename_i d hl
    obtain ⟨ty0, hd, h⟩ := Option.bind_eq_some_iff.mp h
    exact ⟨d, ty0, hl, hd, (Option.some.inj h).symm⟩

theorem toL2_ref_tags {M : Module} {k : Nat} {tg : Option WTag} {n : String} {ty : Ty}
    (h : toL2 M (k + 1) (.ref tg n) = some ty) :
    ∃ d ty0, M.lookup n = some d ∧ toL2 M k d = some ty0 ∧
      tyTags ty = applyTag M.tagDefault (specOf tg) (tyTags ty0) (tyTags ty0).isEmpty := by
  obtain ⟨d, ty0, hl, hd, rfl⟩ := toL2_ref h
  exact ⟨d, ty0, hl, hd, by
    rw [tyTags_retag]; exact applyTag_choice_flag _ _ _ _ fun hb => isUntaggedChoice_tags hb⟩

theorem toL2_nonref {M : Module} {k : Nat} {t : CTy} {ty : Ty} (hr : t.isRef = false)
    (h : toL2 M (k + 1) t = some ty) :
    tyTags ty = applyTag M.tagDefault (specOf t.tag) (baseOf t) (baseOf t).isEmpty := by
  cases t with
  | ref tg n => simp [CTy.isRef] at hr
  | prim tag k => cases h; cases k <;> rfl
  | str tag k s a =>
    obtain ⟨u, hu, h⟩ := Option.bind_eq_some_iff.mp h
    cases h
    simp only [baseOf, univNum, strUniv_eq, hu]
    rfl
  | listOf tag q s e =>
    obtain ⟨e', _, h⟩ := Option.bind_eq_some_iff.mp h
    cases h
    cases q <;> rfl
  | constr tag k ext comps =>
    obtain ⟨p, _, h⟩ := Option.bind_eq_some_iff.mp h
    cases k <;> cases h <;> rfl
  | _ => cases h; rfl

theorem fixTop_chain_of_below {M : Module} (htd : ValidTagDefault M) {t : CTy} {b : List Tag} {f : Nat}
    (h1 : below (fixModule M) f t = some b) (h2 : mustExplicit M M.fuel t = b.isEmpty) :
    chain (fixModule M) (f + 1) (fixTop M t) = some (applyTag M.tagDefault (specOf t.tag) b b.isEmpty) := by
  rw [chain_succ, below_fixTop, h1, fixTop_tag, h2, applyTag_eq_chainTag M htd]; rfl

/-- **resolver and fixer agree below the own tag**: whatever tag the type carries, the chain below it in the fixed
    module is the list `b` on which the L2 resolver puts that tag, and `_asn1f_check_if_tag_must_be_explicit`
    answers whether `b` is empty.  `k` is the fuel the resolver needed; any fuel from there on will do. -/
theorem resolved_below (M : Module) (htd : ValidTagDefault M) : ∀ (k : Nat) (t : CTy) (ty : Ty),
    k ≤ M.fuel → toL2 M k t = some ty → ∃ b,
      tyTags ty = applyTag M.tagDefault (specOf t.tag) b b.isEmpty ∧
      ∀ f, k ≤ f + 1 → below (fixModule M) f t = some b ∧ mustExplicit M (f + 1) t = b.isEmpty := by
  intro k
  induction k with
  | zero => intro t ty _ h; cases h
  | succ k ih =>
    intro t ty hk h
    rcases t.ref_or_nonref with ⟨tg, n, rfl⟩ | hr
    · -- below a reference stands the referenced type, fixed like a top-level type
      obtain ⟨d, ty0, hl, hd, e⟩ := toL2_ref_tags h
      obtain ⟨b, hb, hf⟩ := ih d ty0 (by omega) hd
      refine ⟨tyTags ty0, e, fun f hkf => ?_⟩
      have hk0 : k ≠ 0 := by rintro rfl; cases hd
      obtain ⟨f', rfl⟩ : ∃ f', f = f' + 1 := ⟨f - 1, by omega⟩
      obtain ⟨F, hF⟩ : ∃ F, M.fuel = F + 1 := ⟨M.fuel - 1, by omega⟩
      obtain ⟨h1, h2⟩ := hf f' (by omega)
      constructor
      · simp only [below, chainBase, lookup_fix, hl, Option.map_some]
        rw [hb]
        exact fixTop_chain_of_below htd h1 (hF ▸ (hf F (by omega)).2)
      · rw [mustExplicit_ref M _ tg hl, h2, hb, applyTag_isEmpty]
    · refine ⟨baseOf t, toL2_nonref hr h, fun f _ => ⟨?_, mustExplicit_nonref M _ t hr⟩⟩
      rw [below, chainBase_nonref _ _ t hr]

/-- `resolved_below` at the fuel of the module, which is where `tagsOf`, `outmost` and the fixer use it -/
theorem resolved_below_fuel (M : Module) (htd : ValidTagDefault M) {k : Nat} {t : CTy} {ty : Ty}
    (hk : k ≤ M.fuel) (h : toL2 M k t = some ty) : ∃ b F, M.fuel = F + 1 ∧
      tyTags ty = applyTag M.tagDefault (specOf t.tag) b b.isEmpty ∧
      below (fixModule M) F t = some b ∧ mustExplicit M M.fuel t = b.isEmpty := by
  obtain ⟨b, hb, hf⟩ := resolved_below M htd k t ty hk h
  have hk0 : k ≠ 0 := by rintro rfl; cases h
  obtain ⟨F, hF⟩ : ∃ F, M.fuel = F + 1 := ⟨M.fuel - 1, by omega⟩
  exact ⟨b, F, hF, hb, (hf F (by omega)).1, hF ▸ (hf F (by omega)).2⟩

/-- **tag chains, top-level**: the chain on the fixed module = the tags of the L2-resolved type -/
theorem fixTop_chain (M : Module) (htd : ValidTagDefault M) {k : Nat} {t : CTy} {ty : Ty}
    (hk : k ≤ M.fuel) (h : toL2 M k t = some ty) :
    chain (fixModule M) M.fuel (fixTop M t) = some (tyTags ty) := by
  obtain ⟨b, F, hF, hb, h1, h2⟩ := resolved_below_fuel M htd hk h
  rw [hF, hb]
  exact fixTop_chain_of_below htd h1 h2

theorem terminal_mono (M : Module) : ∀ (k : Nat) (t tt : CTy), terminal M k t = some tt → terminal M (k + 1) t = some tt
  | 0, t, tt, h => by
    cases t with
    | ref g n => cases h
    | _ => exact h
  | k + 1, t, tt, h => by
    cases t with
    | ref g n =>
      obtain ⟨t', hl, h⟩ := Option.bind_eq_some_iff.mp h
      exact Option.bind_eq_some_iff.mpr ⟨t', hl, terminal_mono M k t' tt h⟩
    | _ => exact h

theorem typeEnc_per_congr (M : Module) (o : Opts) {t t' : CTy} (h : terminal M M.fuel t = terminal M M.fuel t') :
    (typeEnc M o t).per = (typeEnc M o t').per := by
  simp only [typeEnc, combinedOf, h]; rfl

theorem tagLt_iff {a b : Tag} : tagLt a b = true ↔ a.cls < b.cls ∨ (a.cls = b.cls ∧ a.num < b.num) := by
  simp [tagLt]

theorem tagLt_irrefl (a : Tag) : tagLt a a = false := by
  rw [← Bool.not_eq_true, tagLt_iff]; omega
theorem tagLt_asymm {a b : Tag} (h : tagLt a b = true) : tagLt b a = false := by
  rw [tagLt_iff] at h; rw [← Bool.not_eq_true, tagLt_iff]; omega
theorem tagLt_trans {a b c : Tag} (h1 : tagLt a b = true) (h2 : tagLt b c = true) : tagLt a c = true := by
  rw [tagLt_iff] at *; omega
theorem tagLt_trichotomy {a b : Tag} (h1 : tagLt a b = false) (h2 : tagLt b a = false) : a = b := by
  rw [← Bool.not_eq_true, tagLt_iff] at h1 h2
  obtain ⟨ac, an⟩ := a; obtain ⟨bc, bn⟩ := b
  simp only [Tag.mk.injEq] at *; omega

theorem t2eLe_iff {a b : Tag × Nat} :
    t2eLe a b = true ↔ tagLt a.1 b.1 = true ∨ (a.1 = b.1 ∧ a.2 ≤ b.2) := by
  simp [t2eLe]

theorem t2eLe_total (a b : Tag × Nat) : t2eLe a b = true ∨ t2eLe b a = true := by
  rw [t2eLe_iff, t2eLe_iff]
  cases h1 : tagLt a.1 b.1 with
  | true => exact .inl (.inl rfl)
  | false =>
    cases h2 : tagLt b.1 a.1 with
    | true => exact .inr (.inl rfl)
    | false =>
      have e := tagLt_trichotomy h1 h2
      rcases Nat.le_total a.2 b.2 with h | h
      · exact .inl (.inr ⟨e, h⟩)
      · exact .inr (.inr ⟨e.symm, h⟩)

theorem t2eLe_trans {a b c : Tag × Nat} (h1 : t2eLe a b = true) (h2 : t2eLe b c = true) : t2eLe a c = true := by
  rw [t2eLe_iff] at *
  rcases h1 with h1 | ⟨e1, l1⟩ <;> rcases h2 with h2 | ⟨e2, l2⟩
  · exact .inl (tagLt_trans h1 h2)
  · exact .inl (e2 ▸ h1)
  · exact .inl (e1 ▸ h2)
  · exact .inr ⟨e1.trans e2, Nat.le_trans l1 l2⟩

theorem insertT2E_eq (x : Tag × Nat) (l : List (Tag × Nat)) : insertT2E x l = L2.insertBy t2eLe x l := by
  induction l with
  | nil => rfl
  | cons y ys ih => simp only [insertT2E, L2.insertBy, ih]

theorem sortT2E_eq (l : List (Tag × Nat)) : sortT2E l = L2.sortBy t2eLe l := by
  induction l with
  | nil => rfl
  | cons x xs ih => rw [sortT2E, L2.sortBy, insertT2E_eq, ih]

theorem insertT2E_perm (x : Tag × Nat) (l : List (Tag × Nat)) : (insertT2E x l).Perm (x :: l) :=
  insertT2E_eq x l ▸ Proofs.Sort.perm_insertBy _ x l

theorem insertT2E_sorted (x : Tag × Nat) (l : List (Tag × Nat))
    (h : l.Pairwise (fun a b => t2eLe a b = true)) : (insertT2E x l).Pairwise (fun a b => t2eLe a b = true) :=
  insertT2E_eq x l ▸ Proofs.Sort.pairwise_insertBy_of _ (fun _ _ h => h)
    (fun a b h => (t2eLe_total a b).resolve_left (by simp [h])) (fun _ _ _ => t2eLe_trans) x l h

theorem sortT2E_perm (l : List (Tag × Nat)) : (sortT2E l).Perm l :=
  sortT2E_eq l ▸ Proofs.Sort.perm_sortBy _ l

theorem sortT2E_sorted (l : List (Tag × Nat)) : (sortT2E l).Pairwise (fun a b => t2eLe a b = true) :=
  sortT2E_eq l ▸ Proofs.Sort.pairwise_sortBy _ t2eLe_total (fun _ _ _ => t2eLe_trans) l

theorem annotate_keys (pre l : List (Tag × Nat)) : (annotate pre l).map (fun e => (e.tag, e.elNo)) = l := by
  induction l generalizing pre with
  | nil => rfl
  | cons e rest ih => simp [annotate, ih]

theorem tag2el_keys (M : Module) (comps : List Comp) :
    (tag2el M comps).map (fun e => (e.tag, e.elNo)) = sortT2E (t2eRaw M 0 comps) := annotate_keys _ _

theorem sortT2E_strict (l : List (Tag × Nat)) (hnd : (l.map (·.1)).Nodup) :
    (sortT2E l).Pairwise (fun a b => tagLt a.1 b.1 = true) := by
  have hnd' : ((sortT2E l).map (·.1)).Nodup := ((sortT2E_perm l).map (·.1)).nodup_iff.mpr hnd
  have hne : (sortT2E l).Pairwise (fun a b => a.1 ≠ b.1) := List.pairwise_map.mp hnd'
  refine ((sortT2E_sorted l).and hne).imp ?_
  intro a b ⟨hle, hne⟩
  rcases t2eLe_iff.mp hle with h | ⟨h, _⟩
  · exact h
  · exact absurd h hne

theorem tag2el_strict (M : Module) (comps : List Comp) (hnd : ((t2eRaw M 0 comps).map (·.1)).Nodup) :
    (tag2el M comps).Pairwise (fun a b => tagLt a.tag b.tag = true) := by
  have h := sortT2E_strict _ hnd
  rw [← tag2el_keys] at h
  exact List.pairwise_map.mp h

theorem bsearchGo_sound (key : Tag) (l : List T2E) (fuel lo hi : Nat) (e : T2E)
    (h : bsearchGo key l fuel lo hi = some e) : e ∈ l ∧ e.tag = key := by
  fun_induction bsearchGo key l fuel lo hi with
  | case3 _ _ _ _ _ _ _ _ ih => exact ih h
  | case4 _ _ _ _ _ _ _ _ _ ih => exact ih h
  | case5 _ _ _ _ _ m hm h1 h2 =>
    -- neither comparison holds: the middle entry carries the key
    cases h
    exact ⟨List.mem_of_getElem? hm, (tagLt_trichotomy (by simpa using h1) (by simpa using h2)).symm⟩
  | _ => cases h

theorem sorted_lt_iff {l : List T2E} (hs : l.Pairwise (fun a b => tagLt a.tag b.tag = true)) {i j : Nat}
    (hi : i < l.length) (hj : j < l.length) : tagLt l[i].tag l[j].tag = true ↔ i < j := by
  have hpw := List.pairwise_iff_getElem.mp hs
  refine ⟨fun h => ?_, hpw i j hi hj⟩
  rcases Nat.lt_trichotomy i j with hlt | heq | hgt
  · exact hlt
  · subst heq; rw [tagLt_irrefl] at h; cases h
  · rw [tagLt_asymm (hpw j i hj hi hgt)] at h; cases h

theorem bsearchGo_complete (l : List T2E) (hs : l.Pairwise (fun a b => tagLt a.tag b.tag = true))
    (fuel lo hi idx : Nat) (hidxl : idx < l.length) (hhi : hi ≤ l.length) (hf : hi - lo < fuel) (hlo : lo ≤ idx)
    (hidx : idx < hi) : bsearchGo l[idx].tag l fuel lo hi = some l[idx] := by
  -- the two comparisons say on which side of the middle the index lies
  fun_induction bsearchGo l[idx].tag l fuel lo hi with
  | case1 => omega
  | case2 _ _ _ _ _ hm => exact absurd hm (by rw [List.getElem?_eq_getElem (by omega)]; simp)
  | case3 _ _ _ _ _ _ hm h1 ih =>
    obtain ⟨hmid, rfl⟩ := List.getElem?_eq_some_iff.mp hm
    exact ih (by omega) (by omega) hlo ((sorted_lt_iff hs hidxl hmid).mp h1)
  | case4 _ _ _ _ _ _ hm _ h2 ih =>
    obtain ⟨hmid, rfl⟩ := List.getElem?_eq_some_iff.mp hm
    exact ih hhi (by omega) ((sorted_lt_iff hs hmid hidxl).mp h2) hidx
  | case5 _ lo hi _ _ _ hm h1 h2 =>
    obtain ⟨hmid, rfl⟩ := List.getElem?_eq_some_iff.mp hm
    -- the key stands on neither side of the middle entry, so that entry is the one at `idx`
    have : ¬ idx < (lo + hi) / 2 := mt (sorted_lt_iff hs hidxl hmid).mpr h1
    have : ¬ (lo + hi) / 2 < idx := mt (sorted_lt_iff hs hmid hidxl).mpr h2
    congr 2; omega
  | case6 => omega

theorem bsearchTag_finds (key : Tag) (l : List T2E) (hs : l.Pairwise (fun a b => tagLt a.tag b.tag = true))
    (e : T2E) (he : e ∈ l) (hk : e.tag = key) : bsearchTag key l = some e := by
  obtain ⟨idx, hidx, rfl⟩ := List.mem_iff_getElem.mp he
  subst hk
  exact bsearchGo_complete l hs (l.length + 1) 0 l.length idx hidx (Nat.le_refl _) (by omega) (by omega) hidx

theorem bsearchTag_sound (key : Tag) (l : List T2E) (e : T2E) (h : bsearchTag key l = some e) :
    e ∈ l ∧ e.tag = key := bsearchGo_sound key l _ _ _ e h

theorem t2eMember_elNo (M : Module) (f : Nat) (t : CTy) (el : Nat) (p : Tag × Nat)
    (h : p ∈ t2eMember M f t el) : p.2 = el := by
  fun_induction t2eMember M f t el with
  | case2 => cases List.mem_singleton.mp h; rfl   -- a member with an outermost tag: the one entry `(g, el)`
  | case3 _ _ _ _ _ _ ih => obtain ⟨c, _, hc⟩ := List.mem_flatMap.mp h; exact ih c hc
  | case4 _ _ _ _ _ _ _ ih => exact ih h
  | _ => cases h

theorem t2eRaw_eq_flatMap (M : Module) : ∀ (cs : List Comp) (s : Nat),
    t2eRaw M s cs = (cs.zipIdx s).flatMap fun p => t2eMember M t2eFuel p.1.ty p.2
  | [], _ => rfl
  | c :: rest, s => by simp only [t2eRaw, t2eRaw_eq_flatMap M rest, List.zipIdx_cons, List.flatMap_cons]

theorem t2eRaw_mem (M : Module) (cs : List Comp) (g : Tag) (i : Nat) :
    (g, i) ∈ t2eRaw M 0 cs ↔ ∃ c, cs[i]? = some c ∧ (g, i) ∈ t2eMember M t2eFuel c.ty i := by
  simp only [t2eRaw_eq_flatMap, List.mem_flatMap, Prod.exists, List.mk_mem_zipIdx_iff_getElem?]
  constructor
  · rintro ⟨c, j, hc, hm⟩
    obtain rfl : i = j := t2eMember_elNo M _ _ _ _ hm
    exact ⟨c, hc, hm⟩
  · rintro ⟨c, hc, hm⟩
    exact ⟨c, i, hc, hm⟩

theorem tag2el_mem (M : Module) (comps : List Comp) (g : Tag) (i : Nat) :
    (∃ e ∈ tag2el M comps, e.tag = g ∧ e.elNo = i) ↔ (g, i) ∈ t2eRaw M 0 comps := by
  rw [← (sortT2E_perm (t2eRaw M 0 comps)).mem_iff, ← tag2el_keys]
  simp only [List.mem_map, Prod.mk.injEq]

theorem tag2el_finds (M : Module) (comps : List Comp) (hnd : ((t2eRaw M 0 comps).map (·.1)).Nodup) {g : Tag} {i : Nat}
    (h : ∃ e ∈ tag2el M comps, e.tag = g ∧ e.elNo = i) :
    ∃ e, bsearchTag g (tag2el M comps) = some e ∧ e.tag = g ∧ e.elNo = i := by
  obtain ⟨e, he, h1, h2⟩ := h
  exact ⟨e, bsearchTag_finds g _ (tag2el_strict M comps hnd) e he h1, h1, h2⟩

/-- the type of component `i` as the fixer leaves it (`fixComps`) -/
def fixedComp (M : Module) (auto : Bool) (i : Nat) (t : CTy) : CTy :=
  if auto then (fixTy M t).withTag (some ⟨⟨2, i⟩, if mustExplicit M M.fuel t then .exp else .imp⟩)
  else match t.tag with
    | some g => (fixTy M t).withTag (some (fixTag M (mustExplicit M M.fuel t) g))
    | none => fixTy M t

/-- the component as `L2.resolveComps` tags it -/
def l2Auto (auto : Bool) (i : Nat) (t0 : Ty) : Ty :=
  if auto then
    (if isUntaggedChoice t0 then retag t0 (fun base => (⟨2, i⟩ : Tag) :: base)
     else retag t0 (fun base => ⟨2, i⟩ :: base.drop 1))
  else t0

theorem Comp.ty_mk (n : String) (t : CTy) (o : Opt) : (Comp.mk n t o).ty = t := rfl

theorem fixComps_cons (M : Module) (auto : Bool) (i : Nat) (c : Comp) (rest : List Comp) :
    fixComps M auto i (c :: rest) = .mk c.name (fixedComp M auto i c.ty) c.opt :: fixComps M auto (i + 1) rest := by
  obtain ⟨n, t, o⟩ := c
  cases auto <;> rfl

theorem fixedComp_false (M : Module) (i : Nat) (t : CTy) : fixedComp M false i t = fixTop M t := by
  unfold fixedComp fixTop
  cases t.tag <;> rfl

theorem l2Auto_true_tags (t0 : Ty) (i : Nat) : tyTags (l2Auto true i t0) = ⟨2, i⟩ :: (tyTags t0).drop 1 := by
  by_cases h : isUntaggedChoice t0 = true
  · simp [l2Auto, h, tyTags_retag, isUntaggedChoice_tags h]
  · simp [l2Auto, h, tyTags_retag]

theorem fixedComp_chain (M : Module) (htd : ValidTagDefault M) (f : Nat) (hf : f ≤ M.fuel) (auto : Bool) (i : Nat)
    (t : CTy) (t0 : Ty) (hauto : auto = true → t.tag = none) (h0 : toL2 M f t = some t0) :
    chain (fixModule M) M.fuel (fixedComp M auto i t) = some (tyTags (l2Auto auto i t0)) := by
  cases auto with
  | false =>
    -- written tags: the component is fixed like a top-level type
    rw [fixedComp_false]; exact fixTop_chain M htd hf h0
  | true =>
    -- automatic tagging: the component is untagged, so its resolved tags are the chain below; the context tag
    -- replaces the head of that chain, or is put in front of it when it is empty (EXPLICIT for an untagged CHOICE)
    obtain ⟨b, F, hF, hb, h1, h2⟩ := resolved_below_fuel M htd hf h0
    rw [hauto rfl] at hb
    rw [l2Auto_true_tags, hb, hF, chain_succ]
    simp only [fixedComp, if_true, below_withTag, below_fixTy, h1, withTag_tag, h2, specOf, applyTag]
    cases b <;> rfl

/-- **fixed components against resolved components**: whatever `F` computes from a member as the fixer leaves it
    and `G` from that member as `L2.resolveComps` tags it (written tags or automatic tagging), if they agree member
    by member, mapping them over a component list and over the resolved members gives the same list -/
theorem map_fixComps {β : Type} (M : Module) (k : Nat) (auto : Bool) (extAt : Nat) (F : CTy → β) (G : Ty → β)
    (hFG : ∀ i t t0, (auto = true → t.tag = none) → toL2 M k t = some t0 →
      F (fixedComp M auto i t) = G (l2Auto auto i t0))
    (cs : List Comp) (j : Nat) (ms : List Ty) (as : List Attr)
    (hau : ∀ c ∈ cs, auto = true → c.ty.tag = none) (h : l2Comps (toL2 M k) auto extAt j cs = some (ms, as)) :
    (fixComps M auto j cs).map (fun c => F c.ty) = ms.map G := by
  fun_induction l2Comps (toL2 M k) auto extAt j cs generalizing ms as with
  | case1 => cases h; rfl
  | case2 j c rest t0 ts as' hr h0 _ ih =>
    cases h
    rw [fixComps_cons, List.map_cons, Comp.ty_mk, hFG j c.ty t0 (hau c (List.mem_cons_self ..)) h0,
      ih ts as' (fun c hc => hau c (List.mem_cons_of_mem _ hc)) hr]
    rfl
  | case3 => cases h

/-- a `flatMap` over `zipIdx` that hands `f` each member with its index sees the list only through `l.map f` -/
theorem flatMap_zipIdx_congr {α α' γ : Type} {f : α → Nat → List γ} {g : α' → Nat → List γ} {l : List α}
    {l' : List α'} (h : l.map f = l'.map g) (j : Nat) :
    (l.zipIdx j).flatMap (fun p => f p.1 p.2) = (l'.zipIdx j).flatMap (fun p => g p.1 p.2) := by
  simpa only [List.zipIdx_map, List.flatMap_map, Prod.map_fst, Prod.map_snd, id] using
    congrArg (fun fs : List (Nat → List γ) => (fs.zipIdx j).flatMap fun p => p.1 p.2) h

theorem autoSelected_untagged (M : Module) (comps : List Comp) :
    ∀ c ∈ comps, autoSelected M comps = true → c.ty.tag = none := by
  intro c hc h
  simp only [autoSelected, Bool.and_eq_true, List.all_eq_true] at h
  have := h.2 c hc
  cases ht : c.ty.tag <;> simp_all

/-- a member of a SEQUENCE with `n` members is omitable iff it is OPTIONAL / DEFAULT or stands at or after
    `ext.getD n`, which is where the additions begin also when there is no marker -/
theorem omitable_sequence (ext : Option Nat) {n j : Nat} (hj : j < n) (c : Comp) :
    omitable .sequence ext j c = (!c.opt.isMand || decide (ext.getD n ≤ j)) := by
  cases ext with
  | none => simp [omitable, Nat.not_le.mpr hj]
  | some e => rfl

theorem omsFrom_eq_filter (k : CK) (ext : Option Nat) (e : Nat) (r : Bool) : ∀ (cs : List Comp) (i : Nat),
    omsFrom k ext e r i cs =
      ((cs.zipIdx i).filter fun p => (decide (p.2 < e) == r) && omitable k ext p.2 p.1).map (·.2)
  | [], _ => rfl
  | c :: rest, i => by
    simp only [omsFrom, omsFrom_eq_filter k ext e r rest, List.zipIdx_cons, List.filter_cons]
    split <;> rfl

theorem omsFrom_mem (k : CK) (ext : Option Nat) (e : Nat) (r : Bool) (cs : List Comp) (j : Nat) :
    j ∈ omsFrom k ext e r 0 cs ↔
      ∃ c, cs[j]? = some c ∧ (decide (j < e) == r) = true ∧ omitable k ext j c = true := by
  simp only [omsFrom_eq_filter, List.mem_map, List.mem_filter, Prod.exists, List.mk_mem_zipIdx_iff_getElem?,
    Bool.and_eq_true]
  constructor
  · rintro ⟨c, _, ⟨hc, h⟩, rfl⟩
    exact ⟨c, hc, h⟩
  · rintro ⟨c, hc, h⟩
    exact ⟨c, j, ⟨hc, h⟩, rfl⟩

theorem omsFrom_sorted (k : CK) (ext : Option Nat) (e : Nat) (r : Bool) (cs : List Comp) (i : Nat) :
    (omsFrom k ext e r i cs).Pairwise (· < ·) := by
  rw [omsFrom_eq_filter]
  refine List.Pairwise.sublist (List.filter_sublist.map _) ?_
  rw [List.zipIdx_map_snd]
  exact List.pairwise_lt_range'

theorem l2Comps_attrs (res : CTy → Option Ty) (auto : Bool) (extAt : Nat) (cs : List Comp) (i : Nat)
    (ms : List Ty) (as : List Attr) (h : l2Comps res auto extAt i cs = some (ms, as)) :
    as.map (·.optional) = cs.map (fun c => !c.opt.isMand) := by
  fun_induction l2Comps res auto extAt i cs generalizing ms as with
  | case1 => cases h; rfl
  | case2 i c rest t0 ts as' hr _ _ ih =>
    cases h
    rw [List.map_cons, List.map_cons, ih ts as' hr]
    cases c.opt <;> rfl
  | case3 => cases h

theorem outmost_nonref (M : Module) (f : Nat) (t : CTy) (hr : t.isRef = false) :
    outmost M f t = (chainTag t.tag (baseOf t)).head? := by
  unfold outmost chainTag
  generalize t.tag = tg
  cases tg with
  | some g => simp only []; split <;> rfl
  | none =>
    cases t with
    | ref tg n => simp [CTy.isRef] at hr
    | constr tg k e cs => cases k <;> rfl
    | _ => rfl

/-- the `tag` of a member (`asn1f_fetch_outmost_tag`) is the first tag of its chain; `none` (the "ambiguous"
    marker −1) exactly for a type without tags of its own, i.e. an untagged CHOICE -/
theorem outmost_eq_chain_head (M : Module) : ∀ (f : Nat) (t : CTy) (c : List Tag),
    chain M f t = some c → outmost M f t = c.head? :=
  chain_elim (fun f t hr => outmost_nonref M f t hr) fun f tg n t' b hl _ ih => by
    cases tg with
    | none => simp [outmost, chainTag, CTy.tag, hl, ih]
    | some g => simp only [outmost, chainTag, CTy.tag]; split <;> rfl

theorem outerTags_of_tags {ty : Ty} {g : Tag} {r : List Tag} (h : tyTags ty = g :: r) : outerTags ty = [g] := by
  cases ty <;> simp_all [tyTags, outerTags]

theorem retag_id (t : Ty) : retag t (fun b => b) = t := by cases t <;> rfl

theorem outerTagsAlts_eq_flatMap : ∀ (ms : List Ty), outerTagsAlts ms = ms.flatMap outerTags
  | [] => rfl
  | m :: ms => by rw [outerTagsAlts, outerTagsAlts_eq_flatMap ms, List.flatMap_cons]

/-- a resolved type without tags is an untagged CHOICE, written inline or referenced without a tag -/
theorem toL2_empty_tags (M : Module) (k : Nat) (t : CTy) (ty : Ty) (h : toL2 M (k + 1) t = some ty)
    (he : tyTags ty = []) :
    (∃ ext comps ms as, t = .constr none .choice ext comps ∧
        l2Comps (toL2 M k) (autoSelected M comps) (ext.getD comps.length) 0 comps = some (ms, as) ∧
        ty = .choice [] ms ext.isSome) ∨
    (∃ n d, t = .ref none n ∧ M.lookup n = some d ∧ toL2 M k d = some ty) := by
  -- not a reference: no own tag and nothing below it
  have nonref : t.isRef = false → t.tag.isNone ∧ (baseOf t).isEmpty := fun hr => by
    have hem := congrArg List.isEmpty (toL2_nonref hr h)
    rw [he, applyTag_isEmpty] at hem
    simpa using hem.symm
  cases t with
  | ref tg n =>
    obtain ⟨d, ty0, hl, hd, rfl⟩ := toL2_ref h
    rw [tyTags_retag] at he
    cases tg with
    | some g => exact absurd he (applyTag_some_ne_nil _ _ _ _)
    | none => exact .inr ⟨n, d, rfl, hl, by simp only [specOf, applyTag]; rw [retag_id, hd]⟩
  | constr tg kk ext comps =>
    obtain ⟨rfl, rfl⟩ : tg = none ∧ kk = .choice := by
      have hem := nonref rfl
      cases kk <;> cases tg <;> simp [baseOf, CTy.tag] at hem ⊢
    obtain ⟨p, hc, h⟩ := Option.bind_eq_some_iff.mp h
    cases h
    exact .inl ⟨ext, comps, p.1, p.2, rfl, hc, by simp [specOf, applyTag]⟩
  | _ => simpa [baseOf] using (nonref rfl).2

/-- **tag2el = outerTags**: the tags `_add_tag2el_member` collects for a (fixed) component are the possible outermost
    tags (`L2.outerTags`, X.680 §31.2.7 "outermost tags") of the component as the L2 codecs resolve it — one tag,
    or for an untagged CHOICE (also behind references, also nested) those of all its alternatives in order -/
theorem t2e_eq_outerTags (M : Module) (htd : ValidTagDefault M) : ∀ (k : Nat), k ≤ M.fuel →
    ∀ (fuel : Nat), k ≤ fuel → ∀ (auto : Bool) (i : Nat) (t : CTy) (t0 : Ty) (el : Nat),
      (auto = true → t.tag = none) → toL2 M k t = some t0 →
      t2eMember (fixModule M) fuel (fixedComp M auto i t) el = (outerTags (l2Auto auto i t0)).map fun g => (g, el) := by
  intro k
  induction k with
  | zero => intro _ fuel _ auto i t t0 el _ h; cases h
  | succ k ih =>
    intro hk fuel hfuel auto i t t0 el hauto h0
    obtain ⟨fuel', rfl⟩ : ∃ f', fuel = f' + 1 := ⟨fuel - 1, by omega⟩
    have hout := outmost_eq_chain_head (fixModule M) M.fuel _ _ (fixedComp_chain M htd (k + 1) hk auto i t t0 hauto h0)
    unfold t2eMember
    rw [show (fixModule M).fuel = M.fuel from rfl, hout]
    cases htags : tyTags (l2Auto auto i t0) with
    | cons g r => rw [outerTags_of_tags htags]; rfl
    | nil =>
      simp only [List.head?_nil]
      -- no tag of its own: not automatic tagging, and the component is an untagged CHOICE or an untagged reference
      cases auto with
      | true => rw [l2Auto_true_tags] at htags; cases htags
      | false =>
        rw [fixedComp_false]
        rcases toL2_empty_tags M k t t0 h0 htags with ⟨ext, comps, ms, as, rfl, hl, rfl⟩ | ⟨n, d, rfl, hl, hd⟩
        · -- inline untagged CHOICE: flatten the alternatives, one level down
          change (fixComps M (autoSelected M comps) 0 comps).flatMap (fun c' => t2eMember (fixModule M) fuel' c'.ty el) =
            (outerTagsAlts ms).map fun g => (g, el)
          rw [outerTagsAlts_eq_flatMap, List.map_flatMap]
          exact congrArg List.flatten (map_fixComps M k (autoSelected M comps) (ext.getD comps.length)
            (fun t => t2eMember (fixModule M) fuel' t el) (fun m => (outerTags m).map fun g => (g, el))
            (fun j t1 t1' ht1 h1 => ih (by omega) fuel' (by omega) (autoSelected M comps) j t1 t1' el ht1 h1)
            comps 0 ms as (autoSelected_untagged M comps) hl)
        · -- untagged reference to a type without tags: follow it
          simp only [fixTop_ref, Option.map_none, lookup_fix, hl, Option.map_some]
          rw [← fixedComp_false M 0 d]
          exact ih (by omega) fuel' (by omega) false 0 d t0 el nofun hd

/-- (tag, member index) pairs of a list of resolved members: what a dispatch table built from `L2.outerTags` holds -/
def pairsFrom (j : Nat) (ms : List Ty) : List (Tag × Nat) :=
  (ms.zipIdx j).flatMap fun p => (outerTags p.1).map fun g => (g, p.2)

theorem t2eRaw_eq_pairs (M : Module) (htd : ValidTagDefault M) (k : Nat) (hk : k ≤ M.fuel) (auto : Bool)
    (extAt : Nat) : ∀ (cs : List Comp) (j : Nat) (ms : List Ty) (as : List Attr),
      (∀ c ∈ cs, auto = true → c.ty.tag = none) →
      l2Comps (toL2 M k) auto extAt j cs = some (ms, as) →
      t2eRaw (fixModule M) j (fixComps M auto j cs) = pairsFrom j ms := by
  intro cs j ms as hau h
  -- member by member the entries agree, as functions of the element number
  have hmem : (fixComps M auto j cs).map (fun c => t2eMember (fixModule M) t2eFuel c.ty) =
      ms.map fun m el => (outerTags m).map fun g => (g, el) :=
    map_fixComps M k auto extAt _ _ (fun i t t1 ht h1 => funext fun el =>
      t2e_eq_outerTags M htd k hk t2eFuel (by simpa [t2eFuel, Module.fuel] using hk) auto i t t1 el ht h1)
      cs j ms as hau h
  rw [t2eRaw_eq_flatMap, pairsFrom]
  exact flatMap_zipIdx_congr hmem j

theorem pairsFrom_mem (ms : List Ty) (g : Tag) (i : Nat) :
    (g, i) ∈ pairsFrom 0 ms ↔ ∃ m, ms[i]? = some m ∧ g ∈ outerTags m := by
  simp only [pairsFrom, List.mem_flatMap, List.mem_map, Prod.exists, List.mk_mem_zipIdx_iff_getElem?, Prod.mk.injEq]
  constructor
  · rintro ⟨m, _, hm, _, hg, rfl, rfl⟩
    exact ⟨m, hm, hg⟩
  · rintro ⟨m, hm, hg⟩
    exact ⟨m, i, hm, g, hg, rfl, rfl⟩

theorem pairsFrom_fst (ms : List Ty) (j : Nat) : (pairsFrom j ms).map (·.1) = outerTagsAlts ms := by
  rw [pairsFrom, outerTagsAlts_eq_flatMap, List.map_flatMap]
  simp only [List.map_map, Function.comp_def, List.map_id']
  rw [← List.flatMap_map Prod.fst outerTags, List.zipIdx_map_fst]

/-- the tag column of the unsorted tag2el map of a constructed type = the concatenated outermost tags of its
    resolved members -/
theorem t2eRaw_eq_outerTagsAlts (M : Module) (htd : ValidTagDefault M) (k : Nat) (hk : k ≤ M.fuel) (auto : Bool)
    (extAt : Nat) : ∀ (cs : List Comp) (j : Nat) (ms : List Ty) (as : List Attr),
      (∀ c ∈ cs, auto = true → c.ty.tag = none) →
      l2Comps (toL2 M k) auto extAt j cs = some (ms, as) →
      (t2eRaw (fixModule M) j (fixComps M auto j cs)).map (·.1) = outerTagsAlts ms := by
  intro cs j ms as hau h
  rw [t2eRaw_eq_pairs M htd k hk auto extAt cs j ms as hau h, pairsFrom_fst]

end Asn1c.Impl.CompileDescr
