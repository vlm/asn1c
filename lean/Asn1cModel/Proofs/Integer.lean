import Asn1cModel.Impl.Integer
import Asn1cModel.Proofs.Bits
import Asn1cModel.Spec.Twos
/- skeletons/INTEGER.c against `Spec.Twos`: the two's complement reading (`twosVal`) of big-endian octets (their
   algebra, also in this namespace, is in Proofs/Bits.lean), the strip loop of `INTEGER_encode_der` and minimal octet
   strings, then the conversion engines, whose closed forms (`…_spec`) are restated as the property theorems of C16 in
   Props/C16.lean. -/
namespace Asn1c.Proofs.Integer
open Asn1c Asn1c.Impl.Integer Asn1c.Spec

theorem ofBE_lt_int (bs : Bytes) (h : Bytes.wf bs) : (ofBE 0 bs : Int) < 256 ^ bs.length := by
  have := Int.ofNat_lt.mpr (ofBE_lt bs h)
  rwa [Int.natCast_pow] at this

theorem ofBE_cons_int (b : Nat) (bs : Bytes) : (ofBE 0 (b :: bs) : Int) = b * 256 ^ bs.length + ofBE 0 bs := by
  rw [ofBE_cons, Int.natCast_add, Int.natCast_mul, Int.natCast_pow, Int.cast_ofNat_Int]

theorem pow_le_pow_int (b : Nat) (hb : 0 < b) {m n : Nat} (h : m ≤ n) : (b : Int) ^ m ≤ (b : Int) ^ n :=
  Int.ofNat_le.mpr (Nat.pow_le_pow_right hb h)

theorem head_lt_iff (b : Nat) (bs : Bytes) (h : Bytes.wf (b :: bs)) :
    b < 128 ↔ 2 * (ofBE 0 (b :: bs) : Int) < 256 ^ (bs.length + 1) := by
  have ht := ofBE_lt_int bs (wf_tail h)
  rw [ofBE_cons_int, Int.pow_succ]
  generalize (256 : Int) ^ bs.length = Q at *
  constructor
  · intro hlt
    have : (b : Int) * Q ≤ 127 * Q := Int.mul_le_mul_of_nonneg_right (by omega) (by omega)
    omega
  · intro hlt
    refine Decidable.byContradiction fun hge => ?_
    have : 128 * Q ≤ (b : Int) * Q := Int.mul_le_mul_of_nonneg_right (by omega) (by omega)
    omega

theorem twosVal_eq (bs : Bytes) (h : Bytes.wf bs) :
    twosVal bs = if 2 * (ofBE 0 bs : Int) < 256 ^ bs.length then (ofBE 0 bs : Int)
      else (ofBE 0 bs : Int) - 256 ^ bs.length := by
  cases bs with
  | nil => rfl
  | cons b bs => simp only [twosVal, head_lt_iff b bs h, List.length_cons]

theorem twosVal_range (bs : Bytes) (h : Bytes.wf bs) (hne : bs ≠ []) :
    -(256 ^ bs.length / 2 : Int) ≤ twosVal bs ∧ twosVal bs < (256 ^ bs.length / 2 : Int) := by
  have hlt := ofBE_lt_int bs h
  rw [twosVal_eq bs h]
  cases bs with
  | nil => exact absurd rfl hne
  | cons b bs =>
    rw [List.length_cons, Int.pow_succ] at *
    split <;> omega

theorem twosVal_zero_cons (bs : Bytes) : twosVal (0 :: bs) = unsVal bs := by
  simp [twosVal, unsVal, ofBE]

/-- the `k` low octets of a C integer `z` in two's complement (what `asn_imax2INTEGER` copies out of an
    `intmax_t`, `k = 8`) denote `z` as soon as `z` fits `k` octets -/
theorem twosVal_toBEn (k : Nat) (z : Int) (hlo : -(256 ^ k / 2 : Int) ≤ z) (hhi : z < (256 ^ k / 2 : Int)) :
    twosVal (toBEn k (z % 256 ^ k).toNat) = z := by
  have hQ : (0 : Int) < 256 ^ k := Int.pow_pos (by decide)
  have hnn := Int.emod_nonneg z (Int.ne_of_gt hQ)
  rw [twosVal_eq _ (toBEn_wf _ _), ofBE_toBEn, toBEn_length, Nat.zero_mul, Nat.zero_add, Int.natCast_emod,
    Int.natCast_pow, Int.cast_ofNat_Int, Int.toNat_of_nonneg hnn, Int.emod_emod_of_dvd _ (Int.dvd_refl _)]
  by_cases hz : 0 ≤ z
  · rw [Int.emod_eq_of_lt hz (by omega), if_pos (by omega)]
  · have : z % 256 ^ k = z + 256 ^ k := by
      rw [← Int.add_emod_right, Int.emod_eq_of_lt (by omega) (by omega)]
    rw [this, if_neg (by omega)]; omega

/-- one more octet `a` in front of `b :: bs` adds a multiple of `256 ^ (b :: bs).length`: `a` read as a signed octet,
    plus one when `b` has its top bit set (the tail, read alone, loses its own `256 ^ length`) -/
theorem twosVal_cons_cons (a b : Nat) (bs : Bytes) :
    twosVal (a :: b :: bs) =
      ((if a < 128 then (a : Int) else a - 256) + (if b < 128 then 0 else 1)) * 256 ^ (bs.length + 1)
        + twosVal (b :: bs) := by
  simp only [twosVal, ofBE_cons_int a, List.length_cons, Int.pow_succ _ (bs.length + 1)]
  generalize (256 : Int) ^ (bs.length + 1) = Q
  split <;> split <;> simp only [Int.add_mul, Int.sub_mul, Int.add_zero, Int.one_mul] <;> omega

theorem twosVal_cons_00 (c : Nat) (cs : Bytes) (h : c < 128) : twosVal (0 :: c :: cs) = twosVal (c :: cs) := by
  rw [twosVal_cons_cons, if_pos (by decide), if_pos h]; simp

theorem twosVal_cons_ff (c : Nat) (cs : Bytes) (h : c ≥ 128) : twosVal (255 :: c :: cs) = twosVal (c :: cs) := by
  rw [twosVal_cons_cons, if_neg (by decide), if_neg (by omega)]; simp

theorem twosVal_signext (m : Nat) (l : Bytes) (hne : l ≠ []) :
    twosVal (List.replicate m (if l.headD 0 ≥ 128 then 255 else 0) ++ l) = twosVal l := by
  induction m generalizing l with
  | zero => rfl
  | succ m ih =>
    match l, hne with
    | b :: bs, _ =>
      rw [List.replicate_succ', List.append_assoc, List.singleton_append, List.headD_cons]
      by_cases hb : b ≥ 128
      · rw [if_pos hb]
        have := ih (255 :: b :: bs) (by simp)
        rw [List.headD_cons, if_pos (by omega)] at this
        rw [this, twosVal_cons_ff b bs hb]
      · rw [if_neg hb]
        have := ih (0 :: b :: bs) (by simp)
        rw [List.headD_cons, if_neg (by omega)] at this
        rw [this, twosVal_cons_00 b bs (by omega)]

/-- X.690 §8.3.2 spelled out: the first octet and the top bit of the second are not all zeros and not all ones -/
theorem minimalTwos_cons_cons (a b : Nat) (bs : Bytes) :
    MinimalTwos (a :: b :: bs) ↔ ¬ (a = 0 ∧ b < 128) ∧ ¬ (a = 255 ∧ b ≥ 128) := by
  unfold MinimalTwos
  split
  · rename_i h; cases h; omega
  · rename_i h; cases h; omega
  · rename_i h0 h255
    have h0' : a ≠ 0 := fun h => h0 b bs (h ▸ rfl)
    have h255' : a ≠ 255 := fun h => h255 b bs (h ▸ rfl)
    simp [h0', h255']

/-- what the strip loop leaves has no redundant leading octet (X.690 §8.3.2) -/
theorem strip_minimal (bs : Bytes) : MinimalTwos (strip bs) := by
  fun_induction strip bs with
  | case1 b bs hb ih | case3 b bs hb ih => exact ih
  | case2 b bs hb | case4 b bs hb => exact hb
  | case5 bs h1 h2 =>
    unfold MinimalTwos
    split
    · exact absurd rfl (h1 _ _)
    · exact absurd rfl (h2 _ _)
    · trivial

theorem strip_ne_nil (bs : Bytes) (h : bs ≠ []) : strip bs ≠ [] := by
  fun_induction strip bs with
  | case1 b bs hb ih | case3 b bs hb ih => exact ih (List.cons_ne_nil _ _)
  | case2 | case4 | case5 => exact h

theorem strip_suffix (bs : Bytes) : strip bs <:+ bs := by
  fun_induction strip bs with
  | case1 b bs hb ih | case3 b bs hb ih => exact ih.trans (List.suffix_cons _ _)
  | case2 | case4 | case5 => exact List.suffix_refl _

theorem strip_wf (bs : Bytes) (h : Bytes.wf bs) : Bytes.wf (strip bs) :=
  fun x hx => h x ((strip_suffix bs).subset hx)

theorem strip_length_le (bs : Bytes) : (strip bs).length ≤ bs.length :=
  (strip_suffix bs).length_le

theorem strip_of_minimal (bs : Bytes) (h : MinimalTwos bs) : strip bs = bs := by
  fun_induction strip bs with
  | case1 b bs hb ih | case3 b bs hb ih => exact absurd hb h
  | case2 | case4 | case5 => rfl

theorem strip_idem (bs : Bytes) : strip (strip bs) = strip bs :=
  strip_of_minimal _ (strip_minimal bs)

theorem strip_val (bs : Bytes) (h : Bytes.wf bs) : twosVal (strip bs) = twosVal bs := by
  fun_induction strip bs with
  | case1 b bs hb ih => rw [ih (wf_tail h), twosVal_cons_00 b bs hb]
  | case3 b bs hb ih => rw [ih (wf_tail h), twosVal_cons_ff b bs hb]
  | case2 | case4 | case5 => rfl

theorem strip_sign (l : Bytes) : (strip l).headD 0 ≥ 128 ↔ l.headD 0 ≥ 128 := by
  fun_induction strip l
  · rename_i b bs hb ih; simp only [List.headD_cons] at ih ⊢; omega
  · rfl
  · rename_i b bs hb ih; simp only [List.headD_cons] at ih ⊢; omega
  · rfl
  · rfl

theorem minimal_needs_all (a b : Nat) (bs : Bytes) (h : Bytes.wf (a :: b :: bs))
    (hm : MinimalTwos (a :: b :: bs)) :
    ¬ (-(256 ^ (bs.length + 1) / 2 : Int) ≤ twosVal (a :: b :: bs) ∧
        twosVal (a :: b :: bs) < (256 ^ (bs.length + 1) / 2 : Int)) := by
  -- the multiplier of `twosVal_cons_cons` is not 0, and the tail alone is less than half a unit away from 0
  have hc : (if a < 128 then (a : Int) else a - 256) + (if b < 128 then 0 else 1) ≠ 0 := by
    have ha : a < 256 := h a (by simp)
    have := (minimalTwos_cons_cons a b bs).mp hm
    split <;> split <;> omega
  have hr := twosVal_range (b :: bs) (wf_tail h) (List.cons_ne_nil _ _)
  rw [twosVal_cons_cons]
  rw [List.length_cons] at hr
  generalize (if a < 128 then (a : Int) else a - 256) + (if b < 128 then 0 else 1) = c at *
  generalize (256 : Int) ^ (bs.length + 1) = Q at *
  rcases Int.lt_or_gt_of_ne hc with hc | hc
  · have : c * Q ≤ -1 * Q := Int.mul_le_mul_of_nonneg_right (by omega) (by omega)
    omega
  · have : 1 * Q ≤ c * Q := Int.mul_le_mul_of_nonneg_right (by omega) (by omega)
    omega

theorem minimal_not_fits (bs : Bytes) (h : Bytes.wf bs) (hm : MinimalTwos bs) (k : Nat) (hl : k < bs.length) :
    ¬ (-(256 ^ k / 2 : Int) ≤ twosVal bs ∧ twosVal bs < (256 ^ k / 2 : Int)) := by
  match bs, hl with
  | a :: b :: rest, hl =>
    have hna := minimal_needs_all a b rest h hm
    have hmono : (256 : Int) ^ k ≤ 256 ^ (rest.length + 1) :=
      pow_le_pow_int 256 (by decide) (by simp only [List.length_cons] at hl; omega)
    omega
  | [_], hl =>
    obtain rfl : k = 0 := by simpa using hl
    omega
  | [], hl => simp at hl

theorem integerConvert_eq_twosVal (bs : Bytes) : integerConvert bs = twosVal bs := by
  cases bs <;> rfl

theorem fitsS64_of_length_le (bs : Bytes) (h : Bytes.wf bs) (hl : bs.length ≤ 8) : fitsS64 (twosVal bs) := by
  by_cases hne : bs = []
  · subst hne; decide
  · have hr := twosVal_range bs h hne
    have hmono : (256 : Int) ^ bs.length ≤ 256 ^ 8 := pow_le_pow_int 256 (by decide) hl
    unfold fitsS64
    omega

theorem not_fitsS64_of_minimal (bs : Bytes) (h : Bytes.wf bs) (hm : MinimalTwos bs) (hl : 8 < bs.length) :
    ¬ fitsS64 (twosVal bs) := by
  have := minimal_not_fits bs h hm 8 hl
  unfold fitsS64
  omega

/-- the zero-skipping loop of `asn_INTEGER2umax` followed by the conversion of what it leaves -/
theorem umaxSkip_spec (bs : Bytes) (h : Bytes.wf bs) :
    (match umaxSkip bs with
      | none => Conv.erange
      | some r => .ok (ofBE 0 r)) = if fitsU64 (unsVal bs) then .ok (unsVal bs) else .erange := by
  have hf (n : Nat) : fitsU64 n ↔ n < 2 ^ 64 := by unfold fitsU64; omega
  unfold unsVal
  fun_induction umaxSkip bs with
  | case1 b bs hl hb =>
    have hmono : (256 : Nat) ^ 8 ≤ 256 ^ bs.length :=
      Nat.pow_le_pow_right (by decide) (by simp only [List.length_cons] at hl; omega)
    have : 1 * 256 ^ bs.length ≤ b * 256 ^ bs.length := Nat.mul_le_mul_right _ (by omega)
    rw [ofBE_cons, if_neg (by rw [hf]; omega)]
  | case2 b bs hl hb ih =>
    have hb0 : b = 0 := by omega
    rw [ih (wf_tail h), hb0, ofBE_cons, Nat.zero_mul, Nat.zero_add]
  | case3 b bs hl =>
    have hlt := ofBE_lt _ h
    have hmono : (256 : Nat) ^ (b :: bs).length ≤ 256 ^ 8 := Nat.pow_le_pow_right (by decide) (by omega)
    exact (if_pos ((hf _).mpr (by omega))).symm
  | case4 => rfl

/-- the sign test of `asn_INTEGER2umax` decides the sign of the denoted value -/
theorem isNegative_iff (bs : Bytes) (h : Bytes.wf bs) : isNegative bs = true ↔ twosVal bs < 0 := by
  cases bs with
  | nil => simp [isNegative, twosVal]
  | cons b bs =>
    have hlt := ofBE_lt_int (b :: bs) h
    simp only [isNegative, twosVal, decide_eq_true_eq, List.length_cons] at *
    split <;> omega

theorem twosVal_of_not_isNegative (bs : Bytes) (h : isNegative bs = false) : twosVal bs = unsVal bs := by
  cases bs with
  | nil => rfl
  | cons b bs =>
    have : b < 128 := by simpa [isNegative] using h
    simp only [twosVal, if_pos this, unsVal]

theorem twosVal_nonneg (bs : Bytes) (h : Bytes.wf bs) (hnn : 0 ≤ twosVal bs) : twosVal bs = unsVal bs :=
  twosVal_of_not_isNegative bs (by rw [Bool.eq_false_iff, ne_eq, isNegative_iff bs h]; omega)

theorem imaxOctets_wf (v : Int) : Bytes.wf (imaxOctets v) := toBEn_wf _ _

theorem imaxOctets_val (v : Int) (h : fitsS64 v) : twosVal (imaxOctets v) = v := by
  unfold fitsS64 at h
  have := twosVal_toBEn 8 v (by omega) (by omega)
  rwa [show (256 : Int) ^ 8 = 2 ^ 64 by decide] at this

theorem imax2INTEGER_spec (v : Int) (h : fitsS64 v) :
    imax2INTEGER v ≠ [] ∧ Bytes.wf (imax2INTEGER v) ∧ MinimalTwos (imax2INTEGER v) ∧
    twosVal (imax2INTEGER v) = v :=
  ⟨strip_ne_nil _ (List.cons_ne_nil _ _), strip_wf _ (imaxOctets_wf v), strip_minimal _,
    (strip_val _ (imaxOctets_wf v)).trans (imaxOctets_val v h)⟩

theorem INTEGER2imax_spec (bs : Bytes) (h : Bytes.wf bs) :
    INTEGER2imax bs = if fitsS64 (twosVal bs) then .ok (twosVal bs) else .erange := by
  unfold INTEGER2imax
  -- the buffer the conversion engine sees: same value, and minimal if still longer than 8 octets
  generalize hb : (if bs.length > 8 then strip bs else bs) = b
  obtain ⟨hw, hv, hm⟩ : Bytes.wf b ∧ twosVal b = twosVal bs ∧ (8 < b.length → MinimalTwos b) := by
    subst hb; split
    · exact ⟨strip_wf _ h, strip_val _ h, fun _ => strip_minimal _⟩
    · exact ⟨h, rfl, fun hl => absurd hl ‹_›⟩
  rw [← hv]
  by_cases hl : b.length > 8
  · simp only [if_pos hl, if_neg (not_fitsS64_of_minimal b hw (hm hl) hl)]
  · simp only [if_neg hl, if_pos (fitsS64_of_length_le b hw (by omega)), integerConvert_eq_twosVal]
    split
    · rename_i he; rw [he]; rfl
    · rfl

theorem INTEGER2umax_spec (bs : Bytes) (h : Bytes.wf bs) :
    INTEGER2umax bs = if fitsU64 (twosVal bs) then .ok (twosVal bs).toNat else .erange := by
  unfold INTEGER2umax
  cases hn : isNegative bs
  · rw [if_neg (by decide), twosVal_of_not_isNegative bs hn, Int.toNat_natCast]
    exact umaxSkip_spec bs h
  · have := (isNegative_iff bs h).mp hn
    rw [if_pos rfl, if_neg (by unfold fitsU64; omega)]

theorem INTEGER2ulong_spec (bs : Bytes) (h : Bytes.wf bs) :
    INTEGER2ulong bs = if fitsU64 (twosVal bs) then .ok (twosVal bs).toNat else .erange := by
  unfold INTEGER2ulong
  rw [INTEGER2umax_spec bs h]
  by_cases hf : fitsU64 (twosVal bs)
  · rw [if_pos hf]; unfold fitsU64 at hf; simp only []; rw [if_neg (by omega)]
  · rw [if_neg hf]

/-- `asn_INTEGER2long`: the `long` instance of `INTEGER2imax_spec` (`long` = `intmax_t` on LP64) -/
theorem INTEGER2long_spec (bs : Bytes) (h : Bytes.wf bs) :
    INTEGER2long bs = if fitsS64 (twosVal bs) then .ok (twosVal bs) else .erange := by
  unfold INTEGER2long
  rw [INTEGER2imax_spec bs h]
  by_cases hf : fitsS64 (twosVal bs)
  · rw [if_pos hf]; unfold fitsS64 at hf; simp only []; rw [if_neg (by omega)]
  · rw [if_neg hf]

end Asn1c.Proofs.Integer

/- The minimal octets of a value are unique, hence `strip` is a function of the value denoted.  In the namespace of
   Proofs/Native, which continues them for the native cell, and in this file, so that a module without Mathlib's
   `Monoid ℕ` in scope (Proofs/OerSupport) can cite them: Proofs/Native imports it for its own statements. -/
namespace Asn1c.Proofs.Native
open Asn1c Asn1c.Impl.Integer Asn1c.Spec Asn1c.Proofs.Integer

theorem twosVal_inj_of_length (a b : Bytes) (ha : Bytes.wf a) (hb : Bytes.wf b)
    (hl : a.length = b.length) (h : twosVal a = twosVal b) : a = b := by
  apply ofBE_inj a b ha hb hl
  -- each value is the unsigned reading or that less `256 ^ length`, and both readings are below `256 ^ length`
  have h1 := ofBE_lt_int a ha
  have h2 := ofBE_lt_int b hb
  rw [twosVal_eq a ha, twosVal_eq b hb, hl] at h
  rw [hl] at h1
  split at h <;> split at h <;> omega

/-- **uniqueness of the canonical form** (X.690 §8.3.2): two non-empty minimal octet strings with
    the same two's complement value are equal. -/
theorem minimal_unique (a b : Bytes) (ha : Bytes.wf a) (hb : Bytes.wf b) (hane : a ≠ []) (hbne : b ≠ [])
    (hma : MinimalTwos a) (hmb : MinimalTwos b) (h : twosVal a = twosVal b) : a = b := by
  -- a longer minimal string denotes a value that does not fit the shorter length
  have key : ∀ (s l : Bytes), Bytes.wf s → Bytes.wf l → s ≠ [] → MinimalTwos l →
      twosVal s = twosVal l → ¬ s.length < l.length := fun s l hs hl hsne hml hv hlt =>
    minimal_not_fits l hl hml s.length hlt (hv ▸ twosVal_range s hs hsne)
  have h1 := key a b ha hb hane hmb h
  have h2 := key b a hb ha hbne hma h.symm
  exact twosVal_inj_of_length a b ha hb (by omega) h

theorem strip_eq_of_val (a b : Bytes) (ha : Bytes.wf a) (hb : Bytes.wf b) (hane : a ≠ []) (hbne : b ≠ [])
    (h : twosVal a = twosVal b) : strip a = strip b :=
  minimal_unique _ _ (strip_wf a ha) (strip_wf b hb) (strip_ne_nil a hane) (strip_ne_nil b hbne)
    (strip_minimal a) (strip_minimal b) (by rw [strip_val a ha, strip_val b hb, h])

end Asn1c.Proofs.Native
