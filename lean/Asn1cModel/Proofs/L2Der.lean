import Asn1cModel.Proofs.L2Tlv
import Asn1cModel.Proofs.L2Contents
import Mathlib.Data.List.Perm.Basic
/-
  L2 DER tree builder `toTlv`: well-formed types (`TyWf`) and canonical values (`Canon`); the trees
  are DER (by `toTlv_induct`, induction on a successful run), the builder is total on canonical
  values and does not depend on the representation of the value (`canonV`, SET OF order).  For
  C01 / C06; that `interp` inverts `toTlv` is proved in Proofs/L2Variants.lean, where every valid
  BER tree is interpreted.
-/
namespace Asn1c.Proofs.L2Der
open Asn1c Asn1c.Impl.BerTlv Asn1c.L2 Asn1c.Spec Asn1c.Proofs.L2Tlv Asn1c.Proofs.Integer Asn1c.Proofs.Sort

theorem forall₂_insertBy {α β : Type} {R : α → β → Prop} {le : α → α → Bool} {le' : β → β → Bool}
    (hle : ∀ a b a' b', R a a' → R b b' → le a b = le' a' b') {x : α} {x' : β} (hx : R x x')
    {l : List α} {l' : List β} (h : List.Forall₂ R l l') :
    List.Forall₂ R (insertBy le x l) (insertBy le' x' l') := by
  induction h with
  | nil => exact .cons hx .nil
  | cons h1 h2 ih =>
    simp only [insertBy, hle _ _ _ _ hx h1]
    split
    · exact .cons hx (.cons h1 h2)
    · exact .cons h1 ih

theorem forall₂_sortBy {α β : Type} {R : α → β → Prop} {le : α → α → Bool} {le' : β → β → Bool}
    (hle : ∀ a b a' b', R a a' → R b b' → le a b = le' a' b') {l : List α} {l' : List β}
    (h : List.Forall₂ R l l') : List.Forall₂ R (sortBy le l) (sortBy le' l') := by
  induction h with
  | nil => exact .nil
  | cons h1 _ ih => exact forall₂_insertBy hle h1 ih

/-- sorting by a key commutes with taking the keys: `forall₂_sortBy` for the graph of `f` -/
theorem map_sortBy {α β : Type} (r : β → β → Bool) (f : α → β) (l : List α) :
    (sortBy (fun a b => r (f a) (f b)) l).map f = sortBy r (l.map f) := by
  have h : List.Forall₂ (fun a b => f a = b) l (l.map f) :=
    List.forall₂_map_right_iff.mpr (List.forall₂_same.mpr fun _ _ => rfl)
  have := forall₂_sortBy (le := fun a b => r (f a) (f b)) (le' := r) (by rintro _ _ _ _ rfl rfl; rfl) h
  exact List.forall₂_eq_eq_eq ▸ List.forall₂_map_left_iff.mpr this

theorem tag_wrapAround (outer : List Tag) (y : Tlv) :
    (wrapAround outer y).tag = (outer ++ [y.tag]).head (by simp) := by
  cases outer with
  | nil => simp [wrapAround]
  | cons t ts => simp [wrapAround, Tlv.tag]

theorem wrapTags_eq_some {tags : List Tag} {mk : Tag → Tlv} {x : Tlv} :
    wrapTags tags mk = some x ↔ ∃ outer inner, tags = outer ++ [inner] ∧ x = wrapAround outer (mk inner) := by
  unfold wrapTags
  constructor
  · intro h
    split at h
    · cases h
    · rename_i inner outerRev hr
      refine ⟨outerRev.reverse, inner, ?_, by injection h with h; exact h.symm⟩
      have := congrArg List.reverse hr
      simpa using this
  · rintro ⟨outer, inner, rfl, rfl⟩
    simp

theorem wrapTags_total (tags : List Tag) (mk : Tag → Tlv) (h : tags ≠ []) : ∃ x, wrapTags tags mk = some x :=
  ⟨_, wrapTags_eq_some.mpr ⟨_, _, (List.dropLast_concat_getLast h).symm, rfl⟩⟩

theorem isDer_wrapAround (outer : List Tag) (y : Tlv) (ho : ∀ t ∈ outer, TagOk t) (hy : IsDer y) :
    IsDer (wrapAround outer y) := by
  induction outer with
  | nil => simpa [wrapAround] using hy
  | cons t ts ih =>
    simp only [wrapAround]
    refine (isDer_cons t 0 _).mpr ⟨ho t (by simp), rfl, ?_⟩
    exact (isDerList_cons _ _).mpr ⟨ih (fun t' ht' => ho t' (by simp [ht'])), isDerList_nil⟩

/-- canonical abstract values of the primitive kinds -/
def canonPrim : Prim → Val → Bool
  | .boolean, .bool _ => true
  | .null, .null => true
  | .integer, .int _ => true
  | .enumerated, .int _ => true
  | .real, .real b => decide (RealOk b)
  | .octets, .octets _ => true
  | .bits, .bits bs u => decide (u ≤ 7 ∧ (bs = [] → u = 0) ∧ maskLast bs u = bs)
  | _, _ => false

theorem primContent_total (p : Prim) (v : Val) : canonPrim p v = true → ∃ c, primContent p v = some c := by
  fun_cases canonPrim p v
  -- BOOLEAN, NULL, INTEGER, ENUMERATED, REAL, OCTET STRING: the contents are written unconditionally
  iterate 6 exact fun _ => ⟨_, rfl⟩
  · -- BIT STRING: `primContent` tests the first two conjuncts
    intro h
    obtain ⟨h1, h2, _⟩ := of_decide_eq_true h
    exact ⟨_, if_pos ⟨h1, h2⟩⟩
  · exact nofun

def disjointB (a b : List Tag) : Bool := a.all (fun t => !b.contains t)

/-- `T` is disjoint from the outermost tags of the following components up to and including
    the next mandatory one -/
def disjFollow (T : List Tag) : List Ty → List Attr → Bool
  | m :: ms, a :: as => disjointB T (outerTags m) && (!a.optional || disjFollow T ms as)
  | _, _ => true

/-- X.680 §25.6: an OPTIONAL/DEFAULT component's tags differ from those of the following
    components up to and including the next mandatory one -/
def seqDisj : List Ty → List Attr → Bool
  | m :: ms, a :: as => (!a.optional || disjFollow (outerTags m) ms as) && seqDisj ms as
  | _, _ => true

/-- pairwise distinct outermost tags (X.680 §27.3 SET, §29.3 CHOICE) -/
def pairDisj : List Ty → Bool
  | [] => true
  | m :: ms => disjointB (outerTags m) (outerTagsAlts ms) && pairDisj ms

def tagsOkB (tags : List Tag) : Bool := tags.all (fun t => decide (TagOk t))

mutual
def tyWfB : Ty → Bool
  | .prim tags _ => tagsOkB tags && !tags.isEmpty
  | .seq tags ms attrs _ =>
    tagsOkB tags && !tags.isEmpty && tyWfListB ms && (attrs.length == ms.length) && seqDisj ms attrs
  | .set tags ms attrs _ =>
    tagsOkB tags && !tags.isEmpty && tyWfListB ms && (attrs.length == ms.length) && pairDisj ms
  | .choice tags alts _ => tagsOkB tags && tyWfListB alts && pairDisj alts
  | .seqOf tags e => tagsOkB tags && !tags.isEmpty && tyWfB e
  | .setOf tags e => tagsOkB tags && !tags.isEmpty && tyWfB e
def tyWfListB : List Ty → Bool
  | [] => true
  | m :: ms => tyWfB m && tyWfListB ms
end

/-- **well-formed resolved type**: every tag fits `ber_tlv_tag_t`; every non-CHOICE node has at
    least one tag; SEQUENCE/SET have one attribute record per component; the tag-distinctness
    rules of X.680 §25.6 (SEQUENCE), §27.3 (SET) and §29.3 (CHOICE) hold. -/
def TyWf (t : Ty) : Prop := tyWfB t = true
instance (t : Ty) : Decidable (TyWf t) := by unfold TyWf; infer_instance

/-- SET OF: the element encodings are in ascending order (X.690 §11.6) -/
def sortedEnc (e : Ty) (vs : List Val) : Bool :=
  match toTlvList e vs with
  | some cs => chainB (fun a b => bytesLe a.enc b.enc) cs
  | none => false

mutual
def canonB : Ty → Val → Bool
  | .prim _ p, v => canonPrim p v
  | .seq _ ms attrs _, .seq vs => canonSeq ms attrs vs
  | .set _ ms attrs _, .seq vs => canonSeq ms attrs vs
  | .choice _ alts _, .choice i v => canonAlt alts i v
  | .seqOf _ e, .list vs => vs.all (fun v => canonB e v)
  | .setOf _ e, .list vs => vs.all (fun v => canonB e v) && sortedEnc e vs
  | _, _ => false
def canonSeq : List Ty → List Attr → List Val → Bool
  | [], [], [] => true
  | m :: ms, a :: as, v :: vs =>
    (if isAbsent v then a.optional else (!isDefault a v && canonB m v)) && canonSeq ms as vs
  | _, _, _ => false
def canonAlt : List Ty → Nat → Val → Bool
  | [], _, _ => false
  | a :: _, 0, v => canonB a v
  | _ :: as, i + 1, v => canonAlt as i v
end

/-- **canonical abstract value of a type**: the value has the shape of the type; absent
    components are OPTIONAL/DEFAULT, present ones are not the DEFAULT value; BIT STRING values
    are normalised (unused ≤ 7, unused bits zero); REAL values are in `RealOk`; SET OF lists
    are sorted by element encoding. -/
def Canon (t : Ty) (v : Val) : Prop := canonB t v = true
instance (t : Ty) (v : Val) : Decidable (Canon t v) := by unfold Canon; infer_instance

theorem tyWfList_iff (ms : List Ty) : tyWfListB ms = true ↔ ∀ m ∈ ms, TyWf m :=
  forall_mem_of_eqns rfl (fun _ _ => rfl) ms

theorem tagsOk_iff (tags : List Tag) : tagsOkB tags = true ↔ ∀ t ∈ tags, TagOk t := by
  simp [tagsOkB]

theorem disjointB_iff (a b : List Tag) : disjointB a b = true ↔ ∀ t ∈ a, t ∉ b := by
  simp [disjointB]

theorem pairDisj_cons {m : Ty} {ms : List Ty} :
    pairDisj (m :: ms) = true ↔ (∀ t ∈ outerTags m, t ∉ outerTagsAlts ms) ∧ pairDisj ms = true := by
  simp only [pairDisj, Bool.and_eq_true, disjointB_iff]

theorem disjFollow_cons {T : List Tag} {m : Ty} {ms : List Ty} {a : Attr} {as : List Attr} :
    disjFollow T (m :: ms) (a :: as) = true ↔
      (∀ t ∈ T, t ∉ outerTags m) ∧ (a.optional = true → disjFollow T ms as = true) := by
  simp only [disjFollow, Bool.and_eq_true, Bool.or_eq_true, Bool.not_eq_true', disjointB_iff,
    imp_iff_not_or, Bool.not_eq_true]

theorem seqDisj_cons {m : Ty} {ms : List Ty} {a : Attr} {as : List Attr} :
    seqDisj (m :: ms) (a :: as) = true ↔
      (a.optional = true → disjFollow (outerTags m) ms as = true) ∧ seqDisj ms as = true := by
  simp only [seqDisj, Bool.and_eq_true, Bool.or_eq_true, Bool.not_eq_true', imp_iff_not_or, Bool.not_eq_true]

theorem tyWf_iff (t : Ty) : TyWf t ↔
    match t with
    | .prim tags _ => (∀ t ∈ tags, TagOk t) ∧ tags ≠ []
    | .seq tags ms attrs _ => (∀ t ∈ tags, TagOk t) ∧ tags ≠ [] ∧ (∀ m ∈ ms, TyWf m) ∧
        attrs.length = ms.length ∧ seqDisj ms attrs = true
    | .set tags ms attrs _ => (∀ t ∈ tags, TagOk t) ∧ tags ≠ [] ∧ (∀ m ∈ ms, TyWf m) ∧
        attrs.length = ms.length ∧ pairDisj ms = true
    | .choice tags alts _ => (∀ t ∈ tags, TagOk t) ∧ (∀ m ∈ alts, TyWf m) ∧ pairDisj alts = true
    | .seqOf tags e | .setOf tags e => (∀ t ∈ tags, TagOk t) ∧ tags ≠ [] ∧ TyWf e := by
  cases t <;> simp [TyWf, tyWfB, tagsOk_iff, tyWfList_iff, and_assoc]

theorem mem_outerTagsAlts (t : Tag) (alts : List Ty) :
    t ∈ outerTagsAlts alts ↔ ∃ a ∈ alts, t ∈ outerTags a := by
  induction alts with
  | nil => simp [outerTagsAlts]
  | cons a as ih => simp [outerTagsAlts, ih]

example : TyWf (.seq [⟨0, 16⟩] [.prim [⟨2, 0⟩] .integer, .prim [⟨0, 2⟩] .integer]
    [⟨true, none, false⟩, ⟨false, none, false⟩] false) := by decide

theorem canonSeq_cons {m : Ty} {ms : List Ty} {a : Attr} {as : List Attr} {v : Val} {vs : List Val} :
    canonSeq (m :: ms) (a :: as) (v :: vs) = true ↔
      (if isAbsent v = true then a.optional = true else (isDefault a v = false ∧ Canon m v)) ∧
        canonSeq ms as vs = true := by
  simp only [canonSeq, Bool.and_eq_true, Canon]
  by_cases h : isAbsent v = true <;> simp [h]

theorem toTlv_inv {t : Ty} {v : Val} {x : Tlv} (h : toTlv t v = some x) :
    match (generalizing := false) t with
    | .prim tags p => ∃ c, primContent p v = some c ∧ wrapTags tags (fun t => .prim t 0 c) = some x
    | .seq tags ms attrs _ => ∃ vs cs, v = .seq vs ∧ toTlvs ms attrs vs = some cs ∧
        wrapTags tags (fun t => .cons t (some 0) cs) = some x
    | .set tags ms attrs _ => ∃ vs cs, v = .seq vs ∧ toTlvs ms attrs vs = some cs ∧
        wrapTags tags (fun t => .cons t (some 0) (sortBy (fun a b => tagLe a.tag b.tag) cs)) = some x
    | .choice tags alts _ => ∃ i v' y, v = .choice i v' ∧ toTlvAlt alts i v' = some y ∧ x = wrapAround tags y
    | .seqOf tags e => ∃ vs cs, v = .list vs ∧ toTlvList e vs = some cs ∧
        wrapTags tags (fun t => .cons t (some 0) cs) = some x
    | .setOf tags e => ∃ vs cs, v = .list vs ∧ toTlvList e vs = some cs ∧
        wrapTags tags (fun t => .cons t (some 0) (sortBy (fun a b => bytesLe a.enc b.enc) cs)) = some x := by
  revert h
  -- each clause of `toTlv` has a branch that succeeds and hands over its equations, and one that fails
  fun_cases toTlv t v <;> intro h <;>
    first
    | exact ⟨_, ‹_›, h⟩                                    -- primitive
    | exact ⟨_, _, rfl, ‹_›, h⟩                            -- SEQUENCE, SET, SEQUENCE OF, SET OF
    | exact ⟨_, _, _, rfl, ‹_›, (Option.some.inj h).symm⟩  -- CHOICE
    | cases h                                              -- `h : none = some x`

theorem toTlvs_nil : toTlvs [] [] [] = some [] := by rw [toTlvs]

theorem toTlvs_cons (m : Ty) (ms : List Ty) (a : Attr) (as : List Attr) (v : Val) (vs : List Val) :
    toTlvs (m :: ms) (a :: as) (v :: vs) =
      if isAbsent v then (if a.optional then toTlvs ms as vs else none)
      else if isDefault a v then toTlvs ms as vs
      else match toTlv m v, toTlvs ms as vs with
        | some x, some xs => some (x :: xs)
        | _, _ => none := by
  cases v
  case absent => rw [toTlvs]; rfl
  all_goals
    -- the last clause of the inner `match`: its equation asks that `v` is not `.absent`
    rw [toTlvs]
    · rfl
    · exact nofun

theorem toTlvs_shape_none (ms : List Ty) (as : List Attr) (vs : List Val)
    (h : ¬ (ms = [] ∧ as = [] ∧ vs = []))
    (h2 : ¬ ∃ m ms' a as' v vs', ms = m :: ms' ∧ as = a :: as' ∧ vs = v :: vs') :
    toTlvs ms as vs = none := by
  rw [toTlvs]
  · exact fun e1 e2 e3 => h ⟨e1, e2, e3⟩
  · exact fun m ms' a as' v vs' e1 e2 e3 => h2 ⟨m, ms', a, as', v, vs', e1, e2, e3⟩

theorem toTlvAlt_nil (i : Nat) (v : Val) : toTlvAlt [] i v = none := by rw [toTlvAlt]
theorem toTlvAlt_zero (a : Ty) (as : List Ty) (v : Val) : toTlvAlt (a :: as) 0 v = toTlv a v := by
  rw [toTlvAlt]
theorem toTlvAlt_succ (a : Ty) (as : List Ty) (i : Nat) (v : Val) :
    toTlvAlt (a :: as) (i + 1) v = toTlvAlt as i v := by
  rw [toTlvAlt]

theorem toTlvList_nil (e : Ty) : toTlvList e [] = some [] := by rw [toTlvList]
theorem toTlvList_cons (e : Ty) (v : Val) (vs : List Val) :
    toTlvList e (v :: vs) =
      match toTlv e v, toTlvList e vs with
      | some x, some xs => some (x :: xs)
      | _, _ => none := by
  rw [toTlvList]; rfl

theorem toTlvList_eq_some {e : Ty} {vs : List Val} {cs : List Tlv} :
    toTlvList e vs = some cs ↔ List.Forall₂ (fun v c => toTlv e v = some c) vs cs := by
  induction vs generalizing cs with
  | nil => rw [toTlvList_nil, List.forall₂_nil_left_iff, Option.some.injEq, eq_comm]
  | cons v vs ih =>
    rw [toTlvList_cons, List.forall₂_cons_left_iff]
    constructor
    · intro h
      split at h
      · cases h; exact ⟨_, _, ‹_›, ih.mp ‹_›, rfl⟩
      · cases h
    · rintro ⟨c, cs', h1, h2, rfl⟩
      rw [h1, ih.mpr h2]

theorem toTlvList_eq_none (e : Ty) (vs : List Val) :
    toTlvList e vs = none ↔ ∃ v ∈ vs, toTlv e v = none := by
  induction vs with
  | nil => simp [toTlvList_nil]
  | cons v vs ih =>
    rw [toTlvList_cons, List.exists_mem_cons_iff, ← ih]
    cases toTlv e v <;> cases toTlvList e vs <;> simp

/-- induction on a successful run of `toTlv`: the rules by which the DER tree of a value is built, one for each
    constructor of `L2Variants.ValidG` and its companions, and `dflt`, which has no counterpart there (a present
    component that holds its DEFAULT value is skipped) -/
theorem toTlv_induct {P : Ty → Val → Tlv → Prop} {Ps : List Ty → List Attr → List Val → List Tlv → Prop}
    {Pa : List Ty → Nat → Val → Tlv → Prop} {Pl : Ty → List Val → List Tlv → Prop}
    (prim : ∀ {outer inner p v c}, primContent p v = some c →
      P (.prim (outer ++ [inner]) p) v (wrapAround outer (.prim inner 0 c)))
    (seq : ∀ {outer inner ms attrs ext vs cs}, Ps ms attrs vs cs →
      P (.seq (outer ++ [inner]) ms attrs ext) (.seq vs) (wrapAround outer (.cons inner (some 0) cs)))
    (set : ∀ {outer inner ms attrs ext vs cs}, Ps ms attrs vs cs →
      P (.set (outer ++ [inner]) ms attrs ext) (.seq vs)
        (wrapAround outer (.cons inner (some 0) (sortBy (fun a b => tagLe a.tag b.tag) cs))))
    (choice : ∀ {tags alts ext i v y}, Pa alts i v y → P (.choice tags alts ext) (.choice i v) (wrapAround tags y))
    (seqOf : ∀ {outer inner e vs cs}, Pl e vs cs →
      P (.seqOf (outer ++ [inner]) e) (.list vs) (wrapAround outer (.cons inner (some 0) cs)))
    (setOf : ∀ {outer inner e vs cs}, toTlvList e vs = some cs → Pl e vs cs →
      P (.setOf (outer ++ [inner]) e) (.list vs)
        (wrapAround outer (.cons inner (some 0) (sortBy (fun a b => bytesLe a.enc b.enc) cs))))
    (nil : Ps [] [] [] [])
    (absent : ∀ {m ms a as vs cs}, a.optional = true → Ps ms as vs cs → Ps (m :: ms) (a :: as) (.absent :: vs) cs)
    (dflt : ∀ {m ms a as v vs cs}, isAbsent v = false → isDefault a v = true → Ps ms as vs cs →
      Ps (m :: ms) (a :: as) (v :: vs) cs)
    (cons : ∀ {m ms a as v vs x cs}, isAbsent v = false → isDefault a v = false → P m v x → Ps ms as vs cs →
      Ps (m :: ms) (a :: as) (v :: vs) (x :: cs))
    (here : ∀ {a as v y}, P a v y → Pa (a :: as) 0 v y)
    (there : ∀ {a as i v y}, Pa as i v y → Pa (a :: as) (i + 1) v y)
    (lnil : ∀ {e}, Pl e [] [])
    (lcons : ∀ {e v vs x cs}, P e v x → Pl e vs cs → Pl e (v :: vs) (x :: cs))
    {t : Ty} {v : Val} {x : Tlv} (h : toTlv t v = some x) : P t v x := by
  have hl : ∀ {e vs cs}, (∀ v x, toTlv e v = some x → P e v x) → toTlvList e vs = some cs → Pl e vs cs := by
    intro e vs cs ih h
    rw [toTlvList_eq_some] at h
    induction h with
    | nil => exact lnil
    | cons h1 _ ih2 => exact lcons (ih _ _ h1) ih2
  refine Ty.rec (motive_1 := fun t => ∀ v x, toTlv t v = some x → P t v x)
    (motive_2 := fun ms => (∀ as vs cs, toTlvs ms as vs = some cs → Ps ms as vs cs) ∧
      ∀ i v y, toTlvAlt ms i v = some y → Pa ms i v y) ?_ ?_ ?_ ?_ ?_ ?_ ?_ ?_ t v x h
  · intro tags p v x h
    obtain ⟨c, hpc, hx⟩ := toTlv_inv h
    obtain ⟨outer, inner, rfl, rfl⟩ := wrapTags_eq_some.mp hx
    exact prim hpc
  · intro tags ms attrs ext ih v x h
    obtain ⟨vs, cs, rfl, hcs, hx⟩ := toTlv_inv h
    obtain ⟨outer, inner, rfl, rfl⟩ := wrapTags_eq_some.mp hx
    exact seq (ih.1 _ _ _ hcs)
  · intro tags ms attrs ext ih v x h
    obtain ⟨vs, cs, rfl, hcs, hx⟩ := toTlv_inv h
    obtain ⟨outer, inner, rfl, rfl⟩ := wrapTags_eq_some.mp hx
    exact set (ih.1 _ _ _ hcs)
  · intro tags alts ext ih v x h
    obtain ⟨i, v', y, rfl, hy, rfl⟩ := toTlv_inv h
    exact choice (ih.2 _ _ _ hy)
  · intro tags e ih v x h
    obtain ⟨vs, cs, rfl, hcs, hx⟩ := toTlv_inv h
    obtain ⟨outer, inner, rfl, rfl⟩ := wrapTags_eq_some.mp hx
    exact seqOf (hl ih hcs)
  · intro tags e ih v x h
    obtain ⟨vs, cs, rfl, hcs, hx⟩ := toTlv_inv h
    obtain ⟨outer, inner, rfl, rfl⟩ := wrapTags_eq_some.mp hx
    exact setOf hcs (hl ih hcs)
  · refine ⟨fun as vs cs h => ?_, fun i v y h => by rw [toTlvAlt_nil] at h; cases h⟩
    match as, vs with
    | [], [] =>
      rw [toTlvs_nil] at h
      cases h
      exact nil
    | _ :: _, _ | [], _ :: _ => simp [toTlvs] at h
  · intro m ms ihm ⟨ihs, iha⟩
    refine ⟨fun as vs cs h => ?_, fun i v y h => ?_⟩
    · match as, vs with
      | [], _ | _ :: _, [] => simp [toTlvs] at h
      | a :: as, v :: vs =>
        rw [toTlvs_cons] at h
        by_cases hv : isAbsent v = true
        · obtain rfl := (isAbsent_iff v).mp hv
          rw [if_pos hv] at h
          split at h
          · exact absent ‹_› (ihs _ _ _ h)
          · cases h
        · rw [if_neg hv] at h
          have hv := Bool.eq_false_iff.mpr hv
          split at h
          · exact dflt hv ‹_› (ihs _ _ _ h)
          · split at h
            · cases h
              exact cons hv (Bool.eq_false_iff.mpr ‹_›) (ihm _ _ ‹_›) (ihs _ _ _ ‹_›)
            · cases h
    · cases i with
      | zero => exact here (ihm _ _ (toTlvAlt_zero m ms v ▸ h))
      | succ i => exact there (iha _ _ _ (toTlvAlt_succ m ms i v ▸ h))

theorem isDer_wrap {outer : List Tag} {inner : Tag} {y : Tlv} (ht : ∀ t ∈ outer ++ [inner], TagOk t)
    (hy : TagOk inner → IsDer y) : IsDer (wrapAround outer y) :=
  isDer_wrapAround outer y (fun t h => ht t (List.mem_append_left _ h)) (hy (ht inner (by simp)))

theorem isDerList_sortBy {le : Tlv → Tlv → Bool} {cs : List Tlv} (h : IsDerList cs) : IsDerList (sortBy le cs) :=
  (isDerList_iff _).mpr fun c hc => (isDerList_iff cs).mp h c ((mem_sortBy le c cs).mp hc)

/-- **`toTlv` produces DER trees**: all tags fit, every length is definite and minimal -/
theorem toTlv_isDer (t : Ty) (hw : TyWf t) (v : Val) (x : Tlv) (h : toTlv t v = some x) : IsDer x :=
  toTlv_induct (P := fun t _ x => TyWf t → IsDer x) (Ps := fun ms _ _ cs => (∀ m ∈ ms, TyWf m) → IsDerList cs)
    (Pa := fun alts _ _ y => (∀ a ∈ alts, TyWf a) → IsDer y) (Pl := fun e _ cs => TyWf e → IsDerList cs)
    (prim := fun _ hw => isDer_wrap ((tyWf_iff _).mp hw).1 fun h => (isDer_prim _ 0 _).mpr ⟨h, rfl⟩)
    (seq := fun ih hw => by
      obtain ⟨ht, _, hwm, _⟩ := (tyWf_iff _).mp hw
      exact isDer_wrap ht fun h => (isDer_cons _ 0 _).mpr ⟨h, rfl, ih hwm⟩)
    (set := fun ih hw => by
      obtain ⟨ht, _, hwm, _⟩ := (tyWf_iff _).mp hw
      exact isDer_wrap ht fun h => (isDer_cons _ 0 _).mpr ⟨h, rfl, isDerList_sortBy (ih hwm)⟩)
    (choice := fun ih hw => by
      obtain ⟨ht, hwa, _⟩ := (tyWf_iff _).mp hw
      exact isDer_wrapAround _ _ ht (ih hwa))
    (seqOf := fun ih hw => by
      obtain ⟨ht, _, hwe⟩ := (tyWf_iff _).mp hw
      exact isDer_wrap ht fun h => (isDer_cons _ 0 _).mpr ⟨h, rfl, ih hwe⟩)
    (setOf := fun _ ih hw => by
      obtain ⟨ht, _, hwe⟩ := (tyWf_iff _).mp hw
      exact isDer_wrap ht fun h => (isDer_cons _ 0 _).mpr ⟨h, rfl, isDerList_sortBy (ih hwe)⟩)
    (nil := fun _ => isDerList_nil)
    (absent := fun _ ih hw => ih fun b hb => hw b (.tail _ hb))
    (dflt := fun _ _ ih hw => ih fun b hb => hw b (.tail _ hb))
    (cons := fun _ _ ih1 ih2 hw => (isDerList_cons _ _).mpr ⟨ih1 (hw _ (.head _)), ih2 fun b hb => hw b (.tail _ hb)⟩)
    (here := fun ih hw => ih (hw _ (.head _)))
    (there := fun ih hw => ih fun b hb => hw b (.tail _ hb))
    (lnil := fun _ => isDerList_nil)
    (lcons := fun ih1 ih2 hw => (isDerList_cons _ _).mpr ⟨ih1 hw, ih2 hw⟩)
    h hw

/-- the outermost tag of the encoding of a value is one of the type's `outerTags` -/
theorem toTlv_tag_mem (t : Ty) (_hw : TyWf t) (v : Val) (x : Tlv) (h : toTlv t v = some x) :
    x.tag ∈ outerTags t :=
  have hwr {outer : List Tag} {y : Tlv} : (wrapAround outer y).tag ∈ (outer ++ [y.tag]).take 1 := by
    cases outer <;> exact List.mem_cons_self    -- both sides compute: the head of the chain
  toTlv_induct (P := fun t _ x => x.tag ∈ outerTags t) (Ps := fun _ _ _ _ => True)
    (Pa := fun alts _ _ y => y.tag ∈ outerTagsAlts alts) (Pl := fun _ _ _ => True)
    (prim := fun _ => hwr) (seq := fun _ => hwr) (set := fun _ => hwr)
    (choice := fun {tags _ _ _ _ _} ih => by
      cases tags with
      | nil => exact ih
      | cons t ts => exact List.mem_cons_self)
    (seqOf := fun _ => hwr) (setOf := fun _ _ => hwr)
    (nil := trivial) (absent := fun _ _ => trivial) (dflt := fun _ _ _ => trivial)
    (cons := fun _ _ _ _ => trivial)
    (here := fun ih => List.mem_append_left _ ih) (there := fun ih => List.mem_append_right _ ih)
    (lnil := trivial) (lcons := fun _ _ => trivial) h

theorem toTlvList_total (e : Ty) (ih : ∀ v, canonB e v = true → ∃ x, toTlv e v = some x) (vs : List Val)
    (hc : vs.all (fun v => canonB e v) = true) : ∃ cs, toTlvList e vs = some cs := by
  induction vs with
  | nil => exact ⟨[], toTlvList_nil e⟩
  | cons v vs ihv =>
    simp only [List.all_cons, Bool.and_eq_true] at hc
    obtain ⟨x, hx⟩ := ih v hc.1
    obtain ⟨cs, hcs⟩ := ihv hc.2
    exact ⟨x :: cs, by rw [toTlvList_cons, hx, hcs]⟩

/-- **the DER tree builder is total** on canonical values of well-formed types -/
theorem toTlv_total (t : Ty) (v : Val) (hw : TyWf t) (hc : Canon t v) : ∃ x, toTlv t v = some x := by
  refine (canonB.mutual_induct
    (motive_1 := fun t v => TyWf t → canonB t v = true → ∃ x, toTlv t v = some x)
    (motive_2 := fun alts i v => (∀ a ∈ alts, TyWf a) → canonAlt alts i v = true → ∃ x, toTlvAlt alts i v = some x)
    (motive_3 := fun ms as vs => (∀ m ∈ ms, TyWf m) → canonSeq ms as vs = true → ∃ cs, toTlvs ms as vs = some cs)
    ?prim ?seq ?set ?choice ?seqOf ?setOf ?other ?altNil ?altZero ?altSucc ?nil ?cons ?ragged).1 t v hw hc
  case prim =>
    intro tags p v hw hc
    obtain ⟨c, hpc⟩ := primContent_total p v hc
    rw [toTlv, hpc]
    exact wrapTags_total tags _ ((tyWf_iff _).mp hw).2
  case seq | set =>
    intro tags ms attrs ext vs ih hw hc
    obtain ⟨_, hne, hwm, _⟩ := (tyWf_iff _).mp hw
    obtain ⟨cs, hcs⟩ := ih hwm hc
    rw [toTlv, hcs]
    exact wrapTags_total tags _ hne
  case choice =>
    intro tags alts ext i v ih hw hc
    obtain ⟨y, hy⟩ := ih ((tyWf_iff _).mp hw).2.1 hc
    exact ⟨_, by rw [toTlv, hy]⟩
  case seqOf =>
    intro tags e vs ih hw hc
    obtain ⟨_, hne, hwe⟩ := (tyWf_iff _).mp hw
    obtain ⟨cs, hcs⟩ := toTlvList_total e (fun v => ih v hwe) vs hc
    rw [toTlv, hcs]
    exact wrapTags_total tags _ hne
  case setOf =>
    intro tags e vs ih hw hc
    obtain ⟨_, hne, hwe⟩ := (tyWf_iff _).mp hw
    obtain ⟨cs, hcs⟩ := toTlvList_total e (fun v => ih v hwe) vs (Bool.and_eq_true_iff.mp hc).1
    rw [toTlv, hcs]
    exact wrapTags_total tags _ hne
  case other => intro t v _ _ _ _ _ _ _ hc; rw [canonB] at hc; cases hc; all_goals assumption
  case altNil => intro i v _ hc; cases hc
  case altZero => intro a as v ih hw hc; exact toTlvAlt_zero a as v ▸ ih (hw a (.head _)) hc
  case altSucc => intro a as i v ih hw hc; exact toTlvAlt_succ a as i v ▸ ih (fun b hb => hw b (.tail _ hb)) hc
  case nil => exact fun _ _ => ⟨[], toTlvs_nil⟩
  case ragged => intro ms as vs _ _ _ hc; rw [canonSeq] at hc; cases hc; all_goals assumption
  case cons =>
    intro m ms a as v vs ih ih' hw hc
    obtain ⟨hwm, hws⟩ := List.forall_mem_cons.mp hw
    obtain ⟨hc1, hc2⟩ := canonSeq_cons.mp hc
    obtain ⟨cs, hcs⟩ := ih' hws hc2
    by_cases hv : isAbsent v = true
    · rw [if_pos hv] at hc1
      exact ⟨cs, by rw [toTlvs_cons, if_pos hv, if_pos hc1, hcs]⟩
    · rw [if_neg hv] at hc1
      obtain ⟨x, hx⟩ := ih hwm hc1.2
      exact ⟨x :: cs, by rw [toTlvs_cons, if_neg hv, if_neg (by simp [hc1.1]), hx, hcs]⟩

/-- order on SET OF element values by their DER encodings -/
def encKeyLe (e : Ty) (a b : Val) : Bool :=
  match toTlv e a, toTlv e b with
  | some x, some y => bytesLe x.enc y.enc
  | _, _ => true

mutual
/-- canonical representative of an abstract value: DEFAULT-valued components become `absent`,
    SET OF lists are sorted by element encoding (recursively) -/
def canonV : Ty → Val → Val
  | .seq _ ms attrs _, .seq vs => .seq (canonVs ms attrs vs)
  | .set _ ms attrs _, .seq vs => .seq (canonVs ms attrs vs)
  | .choice _ alts _, .choice i v => .choice i (canonAltV alts i v)
  | .seqOf _ e, .list vs => .list (vs.map (fun v => canonV e v))
  | .setOf _ e, .list vs => .list (sortBy (encKeyLe e) (vs.map (fun v => canonV e v)))
  | _, v => v
def canonVs : List Ty → List Attr → List Val → List Val
  | m :: ms, a :: as, v :: vs =>
    (if isAbsent v then v else if isDefault a v then (if a.optional then .absent else v) else canonV m v)
      :: canonVs ms as vs
  | _, _, vs => vs
def canonAltV : List Ty → Nat → Val → Val
  | [], _, v => v
  | a :: _, 0, v => canonV a v
  | _ :: as, i + 1, v => canonAltV as i v
end

theorem canonV_isAbsent (m : Ty) (v : Val) : isAbsent (canonV m v) = isAbsent v := by
  fun_cases canonV m v <;> rfl

/-- asn1c emits a `default_value_cmp` for BOOLEAN, INTEGER and ENUMERATED components only (`try_inline_default`):
    a SEQUENCE / SET, CHOICE or list value is never a DEFAULT -/
theorem isDefault_seq (a : Attr) (vs : List Val) : isDefault a (.seq vs) = false := by
  unfold isDefault
  split
  · contradiction
  · contradiction
  · rfl

theorem isDefault_choice (a : Attr) (i : Nat) (v : Val) : isDefault a (.choice i v) = false := by
  unfold isDefault
  split
  · contradiction
  · contradiction
  · rfl

theorem isDefault_list (a : Attr) (vs : List Val) : isDefault a (.list vs) = false := by
  unfold isDefault
  split
  · contradiction
  · contradiction
  · rfl

/-- `canonV` changes SEQUENCE / CHOICE / list values only, and those are never a DEFAULT -/
theorem canonV_isDefault (m : Ty) (a : Attr) (v : Val) : isDefault a (canonV m v) = isDefault a v := by
  fun_cases canonV m v <;> simp only [isDefault_seq, isDefault_choice, isDefault_list]

theorem toTlvList_map_canonV (e : Ty) (ih : ∀ v, toTlv e (canonV e v) = toTlv e v) (vs : List Val) :
    toTlvList e (vs.map (fun v => canonV e v)) = toTlvList e vs := by
  induction vs with
  | nil => rfl
  | cons v vs ihv => rw [List.map_cons, toTlvList_cons, toTlvList_cons, ih v, ihv]

theorem toTlvList_perm (e : Ty) (vs₁ vs₂ : List Val) (hp : vs₁.Perm vs₂) (cs₁ : List Tlv)
    (h1 : toTlvList e vs₁ = some cs₁) : ∃ cs₂, toTlvList e vs₂ = some cs₂ ∧ cs₁.Perm cs₂ := by
  obtain ⟨cs₂, h2, hp2⟩ := List.perm_comp_forall₂ hp.symm (toTlvList_eq_some.mp h1)
  exact ⟨cs₂, toTlvList_eq_some.mpr h2, hp2.symm⟩

theorem toTlvList_sortBy (e : Ty) (W : List Val) :
    toTlvList e (sortBy (encKeyLe e) W) = (toTlvList e W).map (sortBy fun a b => bytesLe a.enc b.enc) := by
  cases h : toTlvList e W with
  | some cs =>
    exact toTlvList_eq_some.mpr (forall₂_sortBy (fun a b a' b' ha hb => by simp only [encKeyLe, ha, hb])
      (toTlvList_eq_some.mp h))
  | none =>
    obtain ⟨v, hv, hn⟩ := (toTlvList_eq_none e W).mp h
    exact (toTlvList_eq_none e _).mpr ⟨v, (mem_sortBy _ v W).mpr hv, hn⟩

/-- **canonical-form independence of the DER tree**: a value and its canonical representative
    (DEFAULT-valued components dropped, SET OF lists sorted) have the same DER tree -/
theorem toTlv_canonV (t : Ty) (v : Val) : toTlv t (canonV t v) = toTlv t v := by
  refine (canonV.mutual_induct (motive_1 := fun t v => toTlv t (canonV t v) = toTlv t v)
    (motive_2 := fun alts i v => toTlvAlt alts i (canonAltV alts i v) = toTlvAlt alts i v)
    (motive_3 := fun ms as vs => toTlvs ms as (canonVs ms as vs) = toTlvs ms as vs)
    ?seq ?set ?choice ?seqOf ?setOf ?other ?altNil ?altZero ?altSucc ?cons ?ragged).1 t v
  case seq | set => intro tags ms attrs ext vs ih; rw [canonV, toTlv, toTlv, ih]
  case choice => intro tags alts ext i v ih; rw [canonV, toTlv, toTlv, ih]
  case seqOf => intro tags e vs ih; rw [canonV, toTlv, toTlv, toTlvList_map_canonV e ih vs]
  case setOf =>
    intro tags e vs ih
    rw [canonV, toTlv, toTlv, toTlvList_sortBy, toTlvList_map_canonV e ih vs]
    cases toTlvList e vs with
    | none => rfl
    | some cs =>
      simp only [Option.map_some]
      rw [sortBy_idem _ (fun a b => bytesLe_total a.enc b.enc)]
  case other => intro t v h1 h2 h3 h4 h5; rw [canonV] <;> assumption
  case altNil => intro i v; rw [canonAltV]
  case altZero => intro a as v ih; rw [canonAltV, toTlvAlt_zero, toTlvAlt_zero, ih]
  case altSucc => intro a as i v ih; rw [canonAltV, toTlvAlt_succ, toTlvAlt_succ, ih]
  case ragged => intro ms as vs h; rw [canonVs]; exact h
  case cons =>
    intro m ms a as v vs ih ih'
    rw [canonVs, toTlvs_cons, toTlvs_cons, ih']
    by_cases hv : isAbsent v = true
    · rw [if_pos hv]
    · by_cases hd : isDefault a v = true
      · by_cases ho : a.optional = true
        · simp only [if_neg hv, if_pos hd, if_pos ho]
          rfl
        · simp only [if_neg hv, if_pos hd, if_neg ho]
      · simp only [if_neg hv, if_neg hd, canonV_isAbsent, canonV_isDefault, ih]

theorem encList_eq_flatten (l : List Tlv) : Tlv.encList l = (l.map Tlv.enc).flatten := by
  induction l with
  | nil => simp [encList_nil]
  | cons x xs ih => simp [encList_cons, ih]

theorem enc_wrapAround_congr (outer : List Tag) (y y' : Tlv) (h : y.enc = y'.enc) :
    (wrapAround outer y).enc = (wrapAround outer y').enc := by
  induction outer with
  | nil => simpa [wrapAround] using h
  | cons t ts ih =>
    simp only [wrapAround, enc_cons_def, encList_cons, encList_nil, ih]

/-- **SET OF order independence**: permuting the value list of a SET OF does not change the
    DER encoding (X.690 §11.6: the encodings are sorted) -/
theorem encDER_setOf_perm (tags : List Tag) (e : Ty) (vs₁ vs₂ : List Val) (hp : vs₁.Perm vs₂) :
    encDER (.setOf tags e) (.list vs₁) = encDER (.setOf tags e) (.list vs₂) := by
  unfold encDER
  rw [toTlv, toTlv]
  cases h1 : toTlvList e vs₁ with
  | none =>
    obtain ⟨v, hv, hn⟩ := (toTlvList_eq_none e vs₁).mp h1
    rw [(toTlvList_eq_none e vs₂).mpr ⟨v, hp.mem_iff.mp hv, hn⟩]
  | some cs₁ =>
    obtain ⟨cs₂, h2, hperm⟩ := toTlvList_perm e vs₁ vs₂ hp cs₁ h1
    rw [h2]
    simp only []
    have hkeys := sortBy_perm_keys bytesLe Tlv.enc bytesLe_total bytesLe_trans bytesLe_antisymm cs₁ cs₂ hperm
    unfold wrapTags
    cases tags.reverse with
    | nil => rfl
    | cons inner outerRev =>
      simp only [Option.map_some]
      congr 1
      apply enc_wrapAround_congr
      rw [enc_cons_def, enc_cons_def, encList_eq_flatten, encList_eq_flatten, hkeys]

/-- `t.Wf` for a resolved type `t`, as the property files write it (`x.Wf` for a TLV tree is in Proofs/L2Tlv.lean) -/
abbrev _root_.Asn1c.L2.Ty.Wf (t : Ty) : Prop := TyWf t

/-- a DER encoding (short enough for `ber_fetch_length`) is the serialisation of a well-formed tree,
    the one `toTlv` builds -/
theorem encDER_eq_some {t : Ty} {v : Val} {bs : Bytes} (hw : TyWf t) (h : encDER t v = some bs)
    (hl : bs.length ≤ 2 ^ 62 - 1) : ∃ x, toTlv t v = some x ∧ bs = x.enc ∧ Wf x := by
  simp only [encDER, Option.map_eq_some_iff] at h
  obtain ⟨x, hx, rfl⟩ := h
  exact ⟨x, hx, rfl, isDer_wf x (toTlv_isDer t hw v x hx) hl⟩

end Asn1c.Proofs.L2Der
