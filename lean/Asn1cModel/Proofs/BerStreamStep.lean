import Asn1cModel.Proofs.BerStream
import Asn1cModel.Proofs.Restart
/-
  What one iteration of a machine with a saved context does when octets are appended to the buffer.  The readers
  through the `LEFT` window and the member call give an answer that stands unless it is RC_WMORE (`wfOf_spec`,
  `callMember_ext`).  `Step` is the judgement of one iteration, with one rule for each of the six shapes in which the
  machines look at the buffer (`onCheck`, `onTag`, `onEoc`, `onSkip`, `onMember`, `onCopy`); `itBound_of_step` and
  `itLaws_of_step` turn it into `ItBound` and `ItLaws`.  Last, the primitive decoders obey `Restart.Lawful`.
-/
namespace Asn1c.Proofs.BerStream
open Asn1c Asn1c.Impl.BerTlv Asn1c.Impl.Restart Asn1c.Impl.BerStream Asn1c.Proofs.BerTlv

/-- the `LEFT` window of the presented bytes -/
def winOf (left : Int) (bs : Bytes) : Bytes := bs.take (leftOf left bs.length)

theorem sizeViolation_mono (left : Int) (a b : Nat) (h : sizeViolation left a = true) (hab : a ≤ b) :
    sizeViolation left b = true := by
  unfold sizeViolation at *
  simp only [Bool.and_eq_true, decide_eq_true_eq] at *
  omega

theorem leftOf_le (left : Int) (size : Nat) : leftOf left size ≤ size := by
  unfold leftOf; split <;> omega
theorem leftOf_neg (left : Int) (size : Nat) : left < 0 → leftOf left size = size := by
  intro h; unfold leftOf; simp [h]
theorem leftOf_nat (m size : Nat) : leftOf (m : Int) size = min size m := by
  unfold leftOf; rw [if_neg (by omega)]; rfl

/-- `LEFT` is everything when `ctx->left` is negative (indefinite length), else the first `ctx->left` octets -/
theorem winOf_neg {left : Int} (h : left < 0) (bs : Bytes) : winOf left bs = bs := by
  rw [winOf, leftOf_neg _ _ h, List.take_length]

theorem winOf_nat (m : Nat) (bs : Bytes) : winOf (m : Int) bs = bs.take m := by
  rw [winOf, leftOf_nat, Nat.min_comm, ← List.take_eq_take_min]

theorem winOf_length (left : Int) (bs : Bytes) : (winOf left bs).length = leftOf left bs.length := by
  rw [winOf, List.length_take]; exact Nat.min_eq_left (leftOf_le _ _)

/-- appending bytes extends the window, and not at all once the frame is exhausted -/
theorem win_ext (left : Int) (p ext : Bytes) :
    ∃ e, winOf left (p ++ ext) = winOf left p ++ e ∧ (sizeViolation left p.length = true → e = []) := by
  by_cases hneg : left < 0
  · exact ⟨ext, by rw [winOf_neg hneg, winOf_neg hneg], fun h => by simp [sizeViolation, show ¬ 0 ≤ left by omega] at h⟩
  · obtain ⟨m, rfl⟩ := Int.eq_ofNat_of_zero_le (by omega : 0 ≤ left)
    refine ⟨ext.take (m - p.length), by rw [winOf_nat, winOf_nat, List.take_append], fun h => ?_⟩
    have : m ≤ p.length := by simpa [sizeViolation] using h
    rw [Nat.sub_eq_zero_of_le this]; rfl

/-- the `switch` after a fetch through the window: `case 0: if(!SIZE_VIOLATION) RETURN(RC_WMORE); case -1:
    RETURN(RC_FAIL)` -/
def wfOf {α : Type} (left : Int) (size : Nat) : Fetch α → WF α
  | .more => .ret (moreOrFail left size)
  | .fail => .ret .fail
  | .ok v n => .ok v n

/-- the answer `a` of a reader through the window on `p` against its answer `b` on `p ++ ext`: a `RETURN` is never
    RC_OK and stands unless it is RC_WMORE; a delivery stands, and what it delivers satisfies `B` -/
def WF.Ext {α : Type} (B : α → Nat → Prop) : WF α → WF α → Prop
  | .ret rc, b => rc ≠ .ok ∧ (rc ≠ .more → b = .ret rc)
  | .ok v n, b => B v n ∧ b = .ok v n

/-- the two cases of `WF.Ext` (`elab_as_elim`, like `Fetch.ExtP.elim`: the two answers are found in the goal by
    abstraction) -/
@[elab_as_elim] theorem WF.Ext.elim {α : Type} {B : α → Nat → Prop} {a b : WF α} {motive : WF α → WF α → Prop}
    (h : WF.Ext B a b) (ret : ∀ rc b, rc ≠ .ok → (rc ≠ .more → b = .ret rc) → motive (.ret rc) b)
    (ok : ∀ v n, B v n → motive (.ok v n) (.ok v n)) : motive a b := by
  cases a with
  | ret rc => exact ret rc b h.1 h.2
  | ok v n => exact h.2 ▸ ok v n h.1

theorem moreOrFail_ne_ok (left : Int) (size : Nat) : moreOrFail left size ≠ .ok := by
  unfold moreOrFail; split <;> simp

/-- a reader that is stable under appended octets, run on the window: whatever it answers other than RC_WMORE
    stands, since once the frame is exhausted (SIZE_VIOLATION) the window does not grow -/
theorem wfOf_spec {α : Type} {P : Bytes → α → Nat → Prop} (left : Int) (p ext : Bytes) (f : Bytes → Fetch α)
    (hf : ∀ a b, Fetch.ExtP (P a) (f a) (f (a ++ b))) :
    WF.Ext (P (winOf left p)) (wfOf left p.length (f (winOf left p)))
      (wfOf left (p ++ ext).length (f (winOf left (p ++ ext)))) := by
  obtain ⟨e, he, hsv⟩ := win_ext left p ext
  have hx := hf (winOf left p) e
  rw [he]
  cases hr : f (winOf left p) with
  | fail => rw [hx.of_fail hr]; exact ⟨nofun, fun _ => rfl⟩
  | ok v n => rw [hx.of_ok hr]; exact ⟨hx.out hr, rfl⟩
  | more =>
    refine ⟨moreOrFail_ne_ok _ _, fun h => ?_⟩
    have hs : sizeViolation left p.length = true := by
      unfold moreOrFail at h
      cases hsz : sizeViolation left p.length with
      | true => rfl
      | false => rw [hsz] at h; exact absurd rfl h
    rw [hsv hs, List.append_nil, hr]
    show WF.ret (moreOrFail _ _) = WF.ret (moreOrFail _ _)
    unfold moreOrFail
    rw [hs, sizeViolation_mono left p.length (p ++ ext).length hs (by simp)]

theorem winFetchTag_eq (left : Int) (bs : Bytes) :
    winFetchTag left bs = wfOf left bs.length (fetchTag (winOf left bs)) := by
  unfold winFetchTag winOf
  cases fetchTag (bs.take (leftOf left bs.length)) <;> rfl

theorem winSkip_eq (left : Int) (b : Nat) (bs : Bytes) (tl : Nat) :
    winSkip left (b :: bs) tl =
      wfOf left (b :: bs).length (skipLength skipFuel (isConstructed b) ((winOf left (b :: bs)).drop tl)) := by
  unfold winSkip winOf
  rw [if_neg (by simp), List.headD_cons]
  cases skipLength skipFuel (isConstructed b) (((b :: bs).take (leftOf left (b :: bs).length)).drop tl) <;> rfl

theorem winFetchTag_spec (left : Int) (p ext : Bytes) :
    WF.Ext (fun _ n => 1 ≤ n ∧ n ≤ leftOf left p.length) (winFetchTag left p) (winFetchTag left (p ++ ext)) := by
  rw [winFetchTag_eq, winFetchTag_eq, ← winOf_length]
  exact wfOf_spec left p ext fetchTag fetchTag_ext

theorem winSkip_spec (left : Int) (p ext : Bytes) (tl : Nat) :
    WF.Ext (fun _ n => n ≤ leftOf left p.length - tl) (winSkip left p tl) (winSkip left (p ++ ext) tl) := by
  cases p with
  | nil => exact ⟨nofun, fun h => absurd rfl h⟩
  | cons b bs =>
    rw [List.cons_append, winSkip_eq, winSkip_eq, ← winOf_length]
    refine wfOf_spec (P := fun a _ n => n ≤ a.length - tl) left (b :: bs) ext
      (fun w => skipLength skipFuel (isConstructed b) (w.drop tl)) fun a c => ?_
    by_cases htl : tl ≤ a.length
    · rw [List.drop_append_of_le_length htl]
      exact (skipLength_ext ..).mono fun _ n h => by rw [List.length_drop] at h; exact h.2
    · -- the tag is longer than the window (unreachable after a successful fetch): nothing to skip yet
      rw [List.drop_eq_nil_of_le (by omega)]
      have : skipLength skipFuel (isConstructed b) [] = .more := by unfold skipFuel; rw [skipLength]; rfl
      rw [this]; exact .more

theorem eocTest_spec (left : Int) (p ext : Bytes) :
    (eocTest left p ≠ .wait .more → eocTest left (p ++ ext) = eocTest left p) ∧ (eocTest left p = .yes → 2 ≤ p.length) := by
  match p with
  | [] => exact ⟨fun h => absurd rfl h, nofun⟩
  | [a] =>
    -- one octet: 00 under an indefinite length waits for the second, anything else is answered `.no` for good
    by_cases hc : (decide (left < 0) && a == 0) = true
    · have hneg : left < 0 := by simp only [Bool.and_eq_true, decide_eq_true_eq] at hc; exact hc.1
      have : eocTest left [a] = .wait .more := by
        simp [eocTest, hc, leftOf_neg _ _ hneg, moreOrFail, sizeViolation, show ¬ 0 ≤ left by omega]
      exact ⟨fun h => absurd this h, by rw [this]; nofun⟩
    · simp [eocTest, hc]
  | a :: b :: t =>
    refine ⟨fun _ => ?_, fun _ => by simp⟩
    simp only [List.cons_append, eocTest, List.isEmpty_cons, Bool.false_eq_true, if_false, List.headD_cons, List.drop_succ_cons,
      List.drop_zero]
    refine ite_rel (R := Eq) (fun hc => ?_) fun _ => rfl
    have hneg : left < 0 := by simp only [Bool.and_eq_true, decide_eq_true_eq] at hc; exact hc.1
    have h2 : ∀ l : Bytes, ¬ (a :: b :: l).length < 2 := fun l => by simp
    rw [leftOf_neg _ _ hneg, leftOf_neg _ _ hneg, if_neg (h2 _), if_neg (h2 _)]

/-- the RC_WMORE / SIZE_VIOLATION post-processing of `callMember` -/
def postMember (left : Int) (size : Nat) (r : Node × Rc × Nat) : Node × Rc × Nat :=
  match r.2.1 with
  | .ok => r
  | .more => if !sizeViolation left size then r else (r.1, .fail, 0)
  | .fail => (r.1, .fail, 0)

theorem callMember_eq (d : Node → Bytes → Node × Rc × Nat) (left : Int) (n : Node) (bs : Bytes) :
    callMember d left n bs = postMember left bs.length (d n (winOf left bs)) := rfl

theorem postMember_cases (left : Int) (size : Nat) (r : Node × Rc × Nat) :
    postMember left size r = r ∧ r.2.1 ≠ .fail ∧ (r.2.1 = .more → sizeViolation left size = false) ∨
      postMember left size r = (r.1, .fail, 0) ∧ (r.2.1 = .fail ∨ r.2.1 = .more ∧ sizeViolation left size = true) := by
  unfold postMember
  cases hrc : r.2.1 with
  | ok => exact Or.inl ⟨rfl, nofun, nofun⟩
  | fail => exact Or.inr ⟨rfl, Or.inl rfl⟩
  | more =>
    cases hs : sizeViolation left size with
    | false => exact Or.inl ⟨rfl, nofun, fun _ => rfl⟩
    | true => exact Or.inr ⟨rfl, Or.inr ⟨rfl, rfl⟩⟩

theorem postMember_rc_fail (left : Int) (size : Nat) (r : Node × Rc × Nat) (h : r.2.1 = .fail) :
    (postMember left size r).2.1 = .fail := by
  unfold postMember; rw [h]

theorem callMember_le (d : Node → Bytes → Node × Rc × Nat) (hd : DecBound d) (left : Int) (n : Node) (bs : Bytes) :
    (callMember d left n bs).2.2 ≤ bs.length := by
  rw [callMember_eq]
  rcases postMember_cases left bs.length (d n (winOf left bs)) with ⟨e, _⟩ | ⟨e, _⟩ <;> rw [e]
  · exact Nat.le_trans (hd n _) (winOf_length left bs ▸ leftOf_le left bs.length)
  · exact Nat.zero_le _

theorem callMember_ok_inner {d : Node → Bytes → Node × Rc × Nat} {left : Int} {n : Node} {p : Bytes}
    (h : (callMember d left n p).2.1 = .ok) : callMember d left n p = d n (winOf left p) := by
  rw [callMember_eq] at h ⊢
  rcases postMember_cases left p.length (d n (winOf left p)) with ⟨e, _⟩ | ⟨e, _⟩
  · exact e
  · rw [e] at h; cases h

theorem advLeft_nat (m k : Nat) (h : k ≤ m) : advLeft (m : Int) k = ((m - k : Nat) : Int) := by
  unfold advLeft; rw [if_pos (by omega)]; omega

/-- `LEFT` after `ADVANCE(k)` within it (`size -= k`, and `ctx->left -= k` unless it is negative): `k` less -/
theorem leftOf_adv (left : Int) (size k : Nat) (hk : k ≤ leftOf left size) :
    leftOf (advLeft left k) (size - k) = leftOf left size - k := by
  by_cases hneg : left < 0
  · rw [show advLeft left k = left by unfold advLeft; rw [if_neg (by omega)], leftOf_neg _ _ hneg, leftOf_neg _ _ hneg]
  · obtain ⟨m, rfl⟩ := Int.eq_ofNat_of_zero_le (by omega : 0 ≤ left)
    rw [leftOf_nat] at hk ⊢
    rw [advLeft_nat m k (Nat.le_trans hk (Nat.min_le_right ..)), leftOf_nat, Nat.sub_min_sub_right]

/-- `SIZE_VIOLATION` is the same before and after `ADVANCE(k)` within `LEFT` -/
theorem sv_adv (left : Int) (size k : Nat) (hk : k ≤ leftOf left size) :
    sizeViolation (advLeft left k) (size - k) = sizeViolation left size := by
  by_cases hneg : left < 0
  · -- an indefinite length: `ctx->left` stays negative, never a violation
    rw [show advLeft left k = left by unfold advLeft; rw [if_neg (by omega)]]
    simp [sizeViolation, show ¬ 0 ≤ left by omega]
  · obtain ⟨m, rfl⟩ := Int.eq_ofNat_of_zero_le (by omega : 0 ≤ left)
    rw [leftOf_nat] at hk
    rw [advLeft_nat m k (by omega)]
    unfold sizeViolation
    simp only [ge_iff_le, Int.natCast_nonneg, decide_true, Bool.true_and, Int.ofNat_le, decide_eq_decide]
    omega

/-- `ADVANCE(k)` within the window: the window of the rest is the rest of the window, and the frame is exhausted
    afterwards exactly when it was before -/
theorem win_adv (left : Int) (q : Bytes) (k : Nat) (hk : k ≤ leftOf left q.length) :
    winOf (advLeft left k) (q.drop k) = (winOf left q).drop k ∧
      sizeViolation (advLeft left k) (q.length - k) = sizeViolation left q.length :=
  ⟨by rw [winOf, List.length_drop, leftOf_adv _ _ _ hk, winOf, List.drop_take], sv_adv _ _ _ hk⟩

theorem advLeft_add {left : Int} {a b : Nat} {size : Nat} (ha : a ≤ leftOf left size) :
    advLeft (advLeft left a) b = advLeft left (a + b) := by
  unfold advLeft
  by_cases h : left ≥ 0
  · have : a ≤ left.toNat := by
      unfold leftOf at ha; rw [if_neg (by omega)] at ha; omega
    rw [if_pos h, if_pos (by omega), if_pos h]; omega
  · rw [if_neg h, if_neg h, if_neg h]

theorem postMember_shift (left left' : Int) (size size' k : Nat) (r' r'' : Node × Rc × Nat)
    (hsv : sizeViolation left' size' = sizeViolation left size) (h : ResEq r' (shiftR k r'')) :
    ResEq (postMember left size r') (shiftR k (postMember left' size' r'')) := by
  obtain ⟨h1, h2⟩ := h
  simp only [shiftR] at h1
  cases hrc : r''.2.1 with
  | fail =>
    rw [hrc] at h1
    exact ResEq.of_fail (postMember_rc_fail _ _ _ h1) (by simp only [shiftR]; exact postMember_rc_fail _ _ _ hrc)
  | ok =>
    rw [hrc] at h1
    have := h2 (by rw [h1]; simp)
    unfold postMember
    rw [h1, hrc]
    simp only
    rw [this]; exact ResEq.refl _
  | more =>
    rw [hrc] at h1
    have := h2 (by rw [h1]; simp)
    unfold postMember
    rw [h1, hrc]
    simp only [hsv]
    split
    · rw [this]; exact ResEq.refl _
    · exact ResEq.of_fail rfl rfl

/-- the member call on `p` against the call on `p ++ ext`, for a lawful member decoder: RC_OK stands, RC_FAIL stays
    RC_FAIL, and after RC_WMORE (`k` octets consumed, within the window) the call on all the data agrees with the call
    resumed on the unconsumed tail and `ext`, `ctx->left` reduced by `k` -/
theorem callMember_ext (d : Node → Bytes → Node × Rc × Nat) (hd : LawfulRc ⟨d⟩) (left : Int) (n : Node) (p ext : Bytes) :
    match callMember d left n p with
    | (n', .ok, k) => callMember d left n (p ++ ext) = (n', .ok, k)
    | (_, .fail, _) => (callMember d left n (p ++ ext)).2.1 = .fail
    | (n1, .more, k) => k ≤ leftOf left p.length ∧
        ResEq (callMember d left n (p ++ ext)) (shiftR k (callMember d (advLeft left k) n1 (p.drop k ++ ext))) := by
  obtain ⟨e, he, hsv⟩ := win_ext left p ext
  rw [callMember_eq, callMember_eq, he]
  rcases postMember_cases left p.length (d n (winOf left p)) with ⟨e0, hnf, hs⟩ | ⟨e0, hc⟩ <;> rw [e0]
  · -- the member's answer on the window is the answer of the call
    rcases hst : d n (winOf left p) with ⟨n1, rc, k⟩
    rw [hst] at hnf hs
    cases rc with
    | fail => exact absurd rfl hnf
    | ok =>
      have hx : d n (winOf left p ++ e) = (n1, .ok, k) := hd.ok_stable n _ n1 k hst e
      simp only; rw [hx]; rfl
    | more =>
      have hk : k ≤ leftOf left p.length := by
        have : (d n (winOf left p)).2.2 ≤ _ := hd.consumed_le n (winOf left p)
        rwa [hst, winOf_length] at this
      refine ⟨hk, ?_⟩
      have hl := leftOf_le left p.length
      have hkq : k ≤ leftOf left (p ++ ext).length := by
        rw [← winOf_length, he, List.length_append, winOf_length]; omega
      obtain ⟨hw, hsv'⟩ := win_adv left (p ++ ext) k hkq
      rw [List.drop_append_of_le_length (by omega), he,
        List.drop_append_of_le_length (by rw [winOf_length]; exact hk)] at hw
      rw [callMember_eq, hw]
      refine postMember_shift _ _ _ _ _ _ _ ?_ (hd.resume n (winOf left p) n1 k hst e)
      rw [← hsv', List.length_append, List.length_append, List.length_drop]
      congr 1; omega
  · -- RC_FAIL from the member, or RC_WMORE with the frame exhausted: then the window does not grow
    rcases hc with hc | ⟨hc, hs⟩
    · exact postMember_rc_fail _ _ _ (hd.fail_stable n (winOf left p) _ _ (by rw [← hc]) e)
    · rw [hsv hs, List.append_nil]
      unfold postMember
      rw [hc]; simp only [sizeViolation_mono left p.length (p ++ ext).length hs (by simp)]
      rfl

theorem bump_zero {σ : Type} (o : Out σ) : bump 0 o = o := by
  cases o <;> simp [bump]

/-- what the outcome `b` on `p ++ ext` has to be, given the outcome `a` on `p`: the same, but for the state and
    advance of RC_FAIL; after RC_WMORE, what `resumed` gives on the unconsumed tail and `ext` -/
def OutRel {σ : Type} (a b : Out σ) (resumed : σ → Nat → Out σ) : Prop :=
  match a with
  | .cont s' n => b = .cont s' n
  | .ret s' .ok n => b = .ret s' .ok n
  | .ret _ .fail _ => ∃ s'' n', b = .ret s'' .fail n'
  | .ret s' .more n => OutEq b (bump n (resumed s' n))

theorem OutRel.same {σ : Type} (o : Out σ) (r : σ → Nat → Out σ) (hnm : ∀ s' n, o ≠ .ret s' .more n) :
    OutRel o o r := by
  unfold OutRel
  cases o with
  | cont s' n => rfl
  | ret s' rc n =>
    cases rc with
    | ok => rfl
    | fail => exact ⟨s', n, rfl⟩
    | more => exact absurd rfl (hnm s' n)

section Step
variable {σ : Type} (H : Prop) (it : σ → Bytes → Out σ) (c : Nat) (rank : σ → Nat) (s : σ) (p ext : Bytes)

/-- What one iteration of a machine with a saved context may do: `a` is its outcome from the state `s` on the
    buffer `p`, `b` its outcome from `s` on `p ++ ext`.
    * `bound`: the `ADVANCE` stays within `p` (`ItBound`);
    * `decr`: `continue` lowers the rank of the state, or consumes while the rank rises by less than `c`, so that the
      fuel measure `c * size + rank` falls (the measures of all four machines have this form);
    * `rel`: `a` is a pure wait (`RETURN(RC_WMORE)`, nothing consumed, state untouched), or `b` is what `ItLaws` wants
      of it (`OutRel`, resumed by the iteration from the saved state).
    `H` is what the machine asks of its member decoders and tables (lawful members, `tag2el` within the member table).
    It guards `decr` and `rel` only: the decoders report consumed ≤ size on every descriptor tree, whereas the
    restart laws hold for the trees where `H` does. -/
structure Step (a b : Out σ) : Prop where
  bound : outAdv a ≤ p.length
  decr : H → ∀ s' n, a = .cont s' n → rank s' < rank s ∨ 1 ≤ n ∧ rank s' < rank s + c
  rel : H → a = .ret s .more 0 ∨ OutRel a b (fun s' n => it s' (p.drop n ++ ext))

theorem itBound_of_step (h : ∀ s p ext, Step H it c rank s p ext (it s p) (it s (p ++ ext))) : ItBound it :=
  fun s p => (h s p []).bound

theorem mu_lt {c r r' n : Nat} {p : Bytes} (hn : n ≤ p.length) (h : r' < r ∨ 1 ≤ n ∧ r' < r + c) :
    c * (p.drop n).length + r' < c * p.length + r := by
  rw [List.length_drop]
  have h1 : c * (p.length - n) = c * p.length - c * n := Nat.mul_sub c p.length n
  have h2 : c * n ≤ c * p.length := Nat.mul_le_mul_left c hn
  have h3 : n = 0 ∨ c ≤ c * n := by
    cases n with
    | zero => exact Or.inl rfl
    | succ m => exact Or.inr (Nat.le_mul_of_pos_right c (Nat.succ_pos m))
  omega

theorem itLaws_of_step {μ : σ → Bytes → Nat} (hμ : ∀ s p, μ s p = c * p.length + rank s) (hH : H)
    (h : ∀ s p ext, Step H it c rank s p ext (it s p) (it s (p ++ ext))) : ItLaws it μ := by
  -- a pure wait is resumed by the same call on all the data
  have hr : ∀ s p ext, OutRel (it s p) (it s (p ++ ext)) (fun s' n => it s' (p.drop n ++ ext)) := fun s p ext => by
    rcases (h s p ext).rel hH with hw | hr
    · unfold OutRel
      rw [hw]
      simp only [List.drop_zero, bump_zero]
      exact Or.inl rfl
    · exact hr
  refine ⟨fun s p => (h s p []).bound, fun s p s' n e => ?_, ?_, ?_, ?_, ?_⟩
  · have hb := (h s p []).bound
    rw [e] at hb
    rw [hμ, hμ]
    exact mu_lt hb ((h s p []).decr hH s' n e)
  -- `cont_stable`, `ok_stable`, `fail_stable`, `resume`: each is `OutRel` read at that form of the outcome
  all_goals
    intro s p s' n e ext
    have := hr s p ext
    rw [e] at this
    exact this

variable {H it c rank s p ext}

theorem Step.cont {s1 : σ} {n : Nat} (hn : n ≤ p.length)
    (hd : H → rank s1 < rank s ∨ 1 ≤ n ∧ rank s1 < rank s + c) :
    Step H it c rank s p ext (.cont s1 n) (.cont s1 n) where
  bound := hn
  decr h _ _ e := by cases e; exact hd h
  rel _ := Or.inr rfl

/-- a `RETURN` other than RC_WMORE that does not depend on the buffer -/
theorem Step.done {s1 : σ} {rc : Rc} {n : Nat} (hrc : rc ≠ .more) (hn : n ≤ p.length) :
    Step H it c rank s p ext (.ret s1 rc n) (.ret s1 rc n) where
  bound := hn
  decr _ := nofun
  rel _ := Or.inr (OutRel.same _ _ fun _ _ e => by injection e with _ e2 _; exact hrc e2)

theorem Step.fin {s1 : σ} {rc : Rc} (hrc : rc ≠ .more) : Step H it c rank s p ext (.ret s1 rc 0) (.ret s1 rc 0) :=
  Step.done hrc (Nat.zero_le _)

/-- a pure wait, `RETURN(RC_WMORE)` with nothing consumed and the state untouched, whatever happens on more data -/
theorem Step.wait {b : Out σ} : Step H it c rank s p ext (.ret s .more 0) b where
  bound := Nat.zero_le _
  decr _ := nofun
  rel _ := Or.inl rfl

/-- `RETURN(rc)` with nothing consumed and the state untouched, where anything but RC_WMORE is final -/
theorem Step.ret {rc : Rc} {b : Out σ} (hb : rc ≠ .more → b = .ret s rc 0) : Step H it c rank s p ext (.ret s rc 0) b := by
  by_cases h : rc = .more
  · subst h; exact Step.wait
  · rw [hb h]; exact Step.fin h

/-! The iterations of the machines are compositions of six shapes in which they look at the buffer; each shape has
    one rule. -/

/-- phase 0: `ber_check_tags` with the saved step; unless it answers RC_OK, `RETURN` with the step it reports -/
def onCheck {σ : Type} (tags : List Tag) (step : Nat) (tm lf : Int) (upd : Nat → σ) (k : CT → Out σ) (q : Bytes) :
    Out σ :=
  let ct := checkTags tags (some step) tm lf q
  if ct.rc != .ok then .ret (upd ct.step) ct.rc ct.consumed else k ct

/-- `ber_check_tags` either waits without touching anything or gives a verdict that more input does not change; with
    RC_OK it has consumed the tags, which lie within the buffer -/
theorem Step.check {tags : List Tag} {step : Nat} {tm lf : Int} {upd : Nat → σ} (hupd : upd step = s)
    {k : CT → Out σ}
    (hk : ∀ ct, ct.consumed ≤ p.length → Step H it c rank s p ext (k ct) (k ct)) :
    Step H it c rank s p ext (onCheck tags step tm lf upd k p) (onCheck tags step tm lf upd k (p ++ ext)) := by
  unfold onCheck
  by_cases hm : (checkTags tags (some step) tm lf p).rc = .more
  · obtain ⟨h0, hst⟩ := checkTags_more tags (some step) tm lf p hm
    simp only [hm, h0, hst, Option.getD_some, hupd]
    exact Step.wait
  · simp only [checkTags_ext tags (some step) tm lf p ext hm]
    have hc := checkTags_cons tags (some step) tm lf p
    exact ite_rel (fun _ => Step.done hm hc.1) fun _ => hk _ hc.1

/-- fetch a tag through the `LEFT` window, `RETURN` in state `s` unless there is one -/
def onTag {σ : Type} (s : σ) (left : Int) (k : Tag → Nat → Out σ) (q : Bytes) : Out σ :=
  match winFetchTag left q with
  | .ret rc => .ret s rc 0
  | .ok tag tl => k tag tl

theorem Step.tag {left : Int} {k k' : Tag → Nat → Out σ}
    (hk : ∀ tag tl, 1 ≤ tl → tl ≤ leftOf left p.length → Step H it c rank s p ext (k tag tl) (k' tag tl)) :
    Step H it c rank s p ext (onTag s left k p) (onTag s left k' (p ++ ext)) := by
  unfold onTag
  exact (winFetchTag_spec left p ext).elim (fun rc b _ hb => Step.ret fun hne => by rw [hb hne])
    fun tag tl h => hk tag tl h.1 h.2

/-- the end-of-contents test -/
def onEoc {σ : Type} (s : σ) (left : Int) (yes no : Out σ) (q : Bytes) : Out σ :=
  match eocTest left q with
  | .wait rc => .ret s rc 0
  | .yes => yes
  | .no => no

theorem Step.eoc {left : Int} {yes no yes' no' : Out σ}
    (hy : 2 ≤ p.length → Step H it c rank s p ext yes yes') (hn : Step H it c rank s p ext no no') :
    Step H it c rank s p ext (onEoc s left yes no p) (onEoc s left yes' no' (p ++ ext)) := by
  obtain ⟨hx, h2⟩ := eocTest_spec left p ext
  unfold onEoc
  cases h : eocTest left p with
  | wait rc =>
    refine Step.ret fun hne => ?_
    rw [hx (by rw [h]; exact fun e => hne (Eoc.wait.inj e)), h]
  | yes => rw [hx (by rw [h]; nofun), h]; exact hy (h2 h)
  | no => rw [hx (by rw [h]; nofun), h]; exact hn

/-- skip the TLV whose tag took `tl` octets -/
def onSkip {σ : Type} (s : σ) (left : Int) (tl : Nat) (k : Nat → Out σ) (q : Bytes) : Out σ :=
  match winSkip left q tl with
  | .ret rc => .ret s rc 0
  | .ok _ n => k n

theorem Step.skip {left : Int} {tl : Nat} {k k' : Nat → Out σ}
    (hk : ∀ n, n ≤ leftOf left p.length - tl → Step H it c rank s p ext (k n) (k' n)) :
    Step H it c rank s p ext (onSkip s left tl k p) (onSkip s left tl k' (p ++ ext)) := by
  unfold onSkip
  exact (winSkip_spec left p ext tl).elim (fun rc b _ hb => Step.ret fun hne => by rw [hb hne]) fun _ n h => hk n h

/-- the member call: the new state is a function of the member's state and the new `ctx->left`;
    `nf` is what is reported consumed with RC_FAIL -/
def onMember {σ : Type} (d : Node → Bytes → Node × Rc × Nat) (left : Int) (n : Node) (ok more fail : Node → Int → σ)
    (nf : Nat → Nat) (q : Bytes) : Out σ :=
  let r := callMember d left n q
  match r.2.1 with
  | .ok => .cont (ok r.1 (advLeft left r.2.2)) r.2.2
  | .more => .ret (more r.1 (advLeft left r.2.2)) .more r.2.2
  | .fail => .ret (fail r.1 (advLeft left r.2.2)) .fail (nf r.2.2)

/-- the member call under a lawful member decoder: after the member's RC_WMORE the machine (in the state `more …`)
    is at the same call again, `ctx->left` reduced by what the member consumed -/
theorem Step.member {d : Node → Bytes → Node × Rc × Nat} (hb : DecBound d) (hd : H → LawfulRc ⟨d⟩) {left : Int}
    {n : Node} {ok more fail : Node → Int → σ} {nf : Nat → Nat} (hnf : ∀ k, nf k ≤ k)
    (hμ : H → ∀ n1 k, callMember d left n p = (n1, .ok, k) →
      rank (ok n1 (advLeft left k)) < rank s ∨ 1 ≤ k ∧ rank (ok n1 (advLeft left k)) < rank s + c)
    (hres : H → ∀ n1 k, callMember d left n p = (n1, .more, k) →
      ∃ fail', ∀ q, it (more n1 (advLeft left k)) q = onMember d (advLeft left k) n1 ok more fail' nf q) :
    Step H it c rank s p ext (onMember d left n ok more fail nf p) (onMember d left n ok more fail nf (p ++ ext)) := by
  have hk := callMember_le d hb left n p
  have hx := fun h => callMember_ext d (hd h) left n p ext
  rcases hr : callMember d left n p with ⟨n1, rc, k⟩
  rw [hr] at hk hx
  simp only [onMember, hr]
  cases rc with
  | ok =>
    refine ⟨hk, fun h _ _ e => ?_, fun h => Or.inr ?_⟩
    · injection e with e1 e2; subst e1; subst e2
      exact hμ h _ _ hr
    · simp only [hx h]; rfl
  | fail =>
    refine ⟨Nat.le_trans (hnf _) hk, fun _ => nofun, fun h => Or.inr ?_⟩
    simp only [hx h]
    exact ⟨_, _, rfl⟩
  | more =>
    refine ⟨hk, fun _ => nofun, fun h => Or.inr ?_⟩
    obtain ⟨hkl, h1, h2⟩ := hx h
    obtain ⟨fail', hit⟩ := hres h _ _ hr
    simp only [OutRel, hit, onMember]
    generalize callMember d (advLeft left k) n1 (p.drop k ++ ext) = R2 at h1 h2 ⊢
    generalize callMember d left n (p ++ ext) = R1 at h1 h2 ⊢
    simp only [shiftR] at h1 h2
    cases hR : R2.2.1
    case fail =>
      rw [hR] at h1
      simp only [h1, bump]
      exact Or.inr ⟨_, _, _, _, rfl, rfl⟩
    -- RC_OK, RC_WMORE: the call on all the data is the resumed call, shifted
    all_goals
      have := h2 (by rw [h1, hR]; nofun)
      subst this
      simp only [hR, bump, advLeft_add hkl]
      exact Or.inl rfl

/-- a copying phase: of the `L` octets still to come, take those the buffer holds -/
def onCopy {σ : Type} (L : Nat) (g : Bytes → Out σ) (q : Bytes) : Out σ := g (q.take (min q.length L))

/-- copying: with all `L` octets there the phase is over; with fewer it waits untouched (nothing to copy), or takes
    all of `p` and is at the same phase again with `L - p.length` octets to come, and copying `p` and then `c` is
    copying `p ++ c` -/
theorem Step.copy {L : Nat} {g : Bytes → Out σ} (hfull : L ≤ p.length → Step H it c rank s p ext (g (p.take L)) (g (p.take L)))
    (hpart : p.length < L → g p = .ret s .more 0 ∨ ∃ s1 g1 L1, L1 = L - p.length ∧ g p = .ret s1 .more p.length ∧
      (∀ q, it s1 q = onCopy L1 g1 q) ∧ ∀ c, g (p ++ c) = bump p.length (g1 c)) :
    Step H it c rank s p ext (onCopy L g p) (onCopy L g (p ++ ext)) := by
  have tk : ∀ (q : Bytes) (n : Nat), q.take (min q.length n) = q.take n := fun q n => by
    rw [Nat.min_comm, ← List.take_take, List.take_length]
  unfold onCopy
  rw [tk, tk]
  by_cases hge : L ≤ p.length
  · rw [List.take_append_of_le_length hge]; exact hfull hge
  · rw [List.take_append, List.take_of_length_le (by omega : p.length ≤ L)]
    rcases hpart (by omega) with hw | ⟨s1, g1, L1, hL, hg, hit, hadd⟩
    · rw [hw]; exact Step.wait
    · rw [hg, hadd]
      refine ⟨Nat.le_refl _, fun _ => nofun, fun _ => Or.inr (Or.inl ?_)⟩
      dsimp only
      rw [List.drop_of_length_le (Nat.le_refl _), List.nil_append, hit, onCopy, hL, tk]

end Step

theorem primTail_ext (k : PKind) (st : Option PVal) (cons : Nat) (len : Int) (rest ext : Bytes)
    (h : (primTail k st cons len rest).2.1 ≠ .more) :
    primTail k st cons len (rest ++ ext) = primTail k st cons len rest := by
  unfold primTail at h ⊢
  by_cases hk : (k == PKind.null) = true
  · simp only [hk, if_true]
  · simp only [hk, if_false, Bool.false_eq_true] at h ⊢
    by_cases hl : len > (rest.length : Int)
    · simp [hl] at h
    · have hl' : len.toNat ≤ rest.length := by omega
      rw [if_neg hl, if_neg (by simp only [List.length_append]; omega)]
      simp only [List.take_append_of_le_length hl']

theorem decPrim_norm (tags : List Tag) (k : PKind) (tm : Int) (node : Node) (q : Bytes) :
    decPrim tags k tm (.prim (primSt node)) q = decPrim tags k tm node q := by
  unfold decPrim; rfl

/-- RC_WMORE from a primitive decoder (from `ber_check_tags` without a context, or because the value is not all
    there): nothing consumed, the structure as it was -/
theorem decPrim_more (tags : List Tag) (k : PKind) (tm : Int) (node : Node) (p : Bytes)
    (h : (decPrim tags k tm node p).2.1 = .more) : decPrim tags k tm node p = (.prim (primSt node), .more, 0) := by
  rcases decPrim_shape tags k tm node p with ⟨rc, _, e⟩ | ⟨_, _, e, _⟩ <;> rw [e] at h ⊢
  · rw [show rc = .more from h]
  · cases h

theorem decPrim_ext (tags : List Tag) (k : PKind) (tm : Int) (node : Node) (p ext : Bytes)
    (h : (decPrim tags k tm node p).2.1 ≠ .more) : decPrim tags k tm node (p ++ ext) = decPrim tags k tm node p := by
  have hle := checkTags_le tags none tm 0 p
  have hx := checkTags_ext tags none tm 0 p ext fun hm => h (by rw [decPrim_of_ne (by rw [hm]; nofun), hm])
  unfold decPrim at h ⊢
  simp only [hx]
  generalize checkTags tags none tm 0 p = ct at h hle
  split
  · rfl
  · next hok =>
    rw [if_neg hok] at h
    rw [List.drop_append_of_le_length hle]
    exact primTail_ext _ _ _ _ _ _ h

theorem decPrim_lawful (tags : List Tag) (k : PKind) (tm : Int) : Lawful (⟨decPrim tags k tm⟩ : Dec Node) := by
  -- `simp only` turns `Dec.step ⟨decPrim …⟩` into `decPrim …` first: left to unification, `decPrim` gets unfolded
  refine Asn1c.Proofs.Restart.lawful_of_stateless _ (fun node => .prim (primSt node)) ?_ ?_ ?_ ?_ <;> simp only
  · exact decPrim_le tags k tm
  · exact decPrim_more tags k tm
  · exact decPrim_norm tags k tm
  · exact decPrim_ext tags k tm

end Asn1c.Proofs.BerStream
