import Asn1cModel.Proofs.PerSupport
/-
  The normally small non-negative whole number of per_support.c from 64 on (X.691 §10.6.2: marker bit,
  length octet, 1..3 octets): what the writer emits, what the standard prescribes, what the reader returns.
-/
namespace Asn1c.Proofs.PerSmall
open Asn1c Asn1c.Impl.BitData Asn1c.Impl.PerSupport
open Asn1c.Proofs.PerSupport

theorem putNsnnwn_large (n : Nat) (h64 : 64 ≤ n) (h : n < 2 ^ 24) :
    ∃ k, (1 ≤ k ∧ k ≤ 3) ∧ 256 ^ (k - 1) ≤ n ∧ n < 256 ^ k ∧
      putNsnnwn n = some (true :: (natBits 8 k ++ natBits (8 * k) n)) := by
  unfold putNsnnwn
  rw [if_neg (by omega)]
  simp only [Int.toNat_natCast, show putFewBits 1 1 = some [true] from rfl]
  by_cases c1 : n < 256
  · refine ⟨1, by omega, by omega, by omega, ?_⟩
    rw [if_pos (by omega), putFewBits_eq _ _ (by omega), putFewBits_eq _ _ (by omega)]; rfl
  by_cases c2 : n < 65536
  · refine ⟨2, by omega, by omega, by omega, ?_⟩
    rw [if_neg (by omega), if_pos (by omega), putFewBits_eq _ _ (by omega), putFewBits_eq _ _ (by omega)]; rfl
  · refine ⟨3, by omega, by omega, by omega, ?_⟩
    rw [if_neg (by omega), if_neg (by omega), if_pos (by omega), putFewBits_eq _ _ (by omega),
      putFewBits_eq _ _ (by omega)]; rfl

theorem normallySmall_large (n k : Nat) (h64 : 64 ≤ n) (hk : k < 128) (hlo : 256 ^ (k - 1) ≤ n) (hhi : n < 256 ^ k) :
    Spec.Per.normallySmall n = true :: (natBits 8 k ++ natBits (8 * k) n) := by
  cases k with
  | zero => simp at hhi; omega
  | succ k =>
    unfold Spec.Per.normallySmall Spec.Per.semiConstrainedWholeNumber Spec.Per.nnOctets
    simp only [Int.sub_zero, Int.toNat_natCast]
    rw [if_neg (by omega), if_neg (by omega), Real.toBE_eq_toBEn k n hlo hhi,
      lengthPrefixed_octets _ _ (by rw [Integer.toBEn_length]; omega), Integer.toBEn_length, bytesToBits_toBEn]

theorem getNsnnwn_large (len v : Nat) (rest : Bits) (hl : 1 ≤ len ∧ len ≤ 3) :
    getNsnnwn (true :: (natBits 8 len ++ natBits (8 * len) v) ++ rest) = some (v % 2 ^ (8 * len), rest) := by
  -- the reader takes the marker with the six zero bits of the length octet, then its two low bits
  have e : true :: natBits 8 len = natBits 7 64 ++ natBits 2 len := by
    rw [← natBits_succ_add (k := 8) (by omega), natBits_split 7 2, show (2 ^ 8 + len) / 2 ^ 2 = 64 by omega]
    exact congrArg _ (natBits_congr 2 _ _ (by omega))
  rw [List.cons_append, List.append_assoc, ← List.cons_append, e, List.append_assoc]
  unfold getNsnnwn
  rw [getFewBits_natBits 7 _ _ (by omega), show (64 : Nat) % 2 ^ 7 = 64 from rfl]
  simp only
  rw [if_pos trivial, getFewBits_natBits 2 _ _ (by omega), Nat.mod_eq_of_lt (show len < 2 ^ 2 by omega)]
  simp only
  rw [show 64 % 64 * 4 + len = len by omega, if_neg (by omega), if_neg (by omega), if_neg (by omega),
    getFewBits_natBits _ _ _ (by omega)]

end Asn1c.Proofs.PerSmall
