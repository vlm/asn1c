import Asn1cModel.L2.Tlv
import Asn1cModel.Proofs.BerTlv
import Asn1cModel.Proofs.Bits
import Mathlib.Algebra.Group.Nat.Defs
/-
  L2 TLV layer: `parseTlv` inverts `Tlv.enc` on well-formed trees (any length form, indefinite
  included), prefix-extension stability of the parser and the "proper prefix ⇒ more" theorem; at the
  end DER trees (`IsDer`: all lengths definite and minimal), which are well-formed when their
  encoding is not longer than RSSIZE_MAX.  Helper lemmas for C01 / C03 / C05.
-/
namespace Asn1c.Proofs.L2Tlv
open Asn1c Asn1c.Impl.BerTlv Asn1c.L2 Asn1c.Proofs.BerTlv

/-- a tag that fits `ber_tlv_tag_t` -/
def TagOk (t : Tag) : Prop := t.cls < 4 ∧ t.num < 2 ^ 30

instance (t : Tag) : Decidable (TagOk t) := by unfold TagOk; infer_instance

theorem tagOctets_eq (t : Tag) (c : Bool) :
    ∃ b bs, tagSerialize t = b :: bs ∧ b % 64 < 32 ∧ tagOctets t c = (if c then b + 32 else b) :: bs := by
  obtain ⟨b, bs, hs, hb⟩ := tagSerialize_shape t
  exact ⟨b, bs, hs, hb, by simp [tagOctets, hs]⟩

theorem tagOctets_ne_nil (t : Tag) (c : Bool) : tagOctets t c ≠ [] := by
  obtain ⟨b, bs, _, _, h⟩ := tagOctets_eq t c
  rw [h]; exact List.cons_ne_nil _ _

/-- header lemma, identifier part: `ber_fetch_tag` recovers the tag and `BER_TLV_CONSTRUCTED`
    recovers the P/C bit from the identifier octets written by `der_write_TL` -/
theorem fetchTag_tagOctets (t : Tag) (c : Bool) (r : Bytes) (h : TagOk t) :
    fetchTag (tagOctets t c ++ r) = .ok t (tagOctets t c).length ∧
    isConstructed ((tagOctets t c ++ r).headD 0) = c := by
  obtain ⟨b, bs, hs, hb, ht⟩ := tagOctets_eq t c
  have hft := fetchTag_tagSerialize t r h.2
  rw [hs] at hft
  rw [ht]
  cases c with
  | false => exact ⟨hft, by simp [isConstructed]; omega⟩
  | true => exact ⟨(fetchTag_add32 b _ hb).trans hft, by simp [isConstructed]; omega⟩

/-- the length octets of form `k`: the short form (`k = 0`, `n ≤ 127`), or a long form whose digits have the value
    `n` and are `k` more than the fewest (`k` in all where the short form would do) -/
theorem lenForm_shape (n k : Nat) (hn : n < 2 ^ 64) :
    (n ≤ 127 ∧ k = 0 ∧ lenForm n k = [n]) ∨
    ∃ ds, lenForm n k = (128 + ds.length) :: ds ∧ ofBE 0 ds = n ∧ 1 ≤ ds.length ∧
      ds.length = if n ≤ 127 then k else k + (toBE n).length := by
  unfold lenForm
  by_cases h127 : n ≤ 127
  · by_cases hk : k = 0
    · exact .inl ⟨h127, hk, by rw [if_pos hk, lenSerialize, if_pos h127]⟩
    · have e : (if n = 0 then [0] else toBE n) = [n] := by
        split
        · next h => rw [h]
        · next h => exact Real.toBE_small n h (by omega)
      refine .inr ⟨_, by rw [if_neg hk], ?_⟩
      simp only [Real.ofBE_leading_zeros, e, if_pos h127, List.length_append, List.length_replicate,
        List.length_singleton]
      exact ⟨by simp [ofBE], by omega, by omega⟩
  · have hl := List.length_pos_iff.2 (Real.toBE_ne_nil n (by omega))
    refine .inr ⟨List.replicate k 0 ++ toBE n, ?_, ?_, ?_, ?_⟩
    · by_cases hk : k = 0
      · rw [if_pos hk, hk, lenSerialize, if_neg h127, toBEn_lenOctets n hn (by omega), List.replicate_zero,
          List.nil_append, toBE_length_lenOctets n hn (by omega)]
      · rw [if_neg hk, if_neg h127, if_neg (by omega)]
    · rw [Real.ofBE_leading_zeros, Real.ofBE_toBE]
    · rw [List.length_append]; omega
    · rw [if_neg h127, List.length_append, List.length_replicate]

/-- the length octets of form `k` are acceptable to `ber_fetch_length` (at most 126 digits) -/
def LenFormOk (n k : Nat) : Prop := (lenForm n k).length ≤ 127

instance (n k : Nat) : Decidable (LenFormOk n k) := by unfold LenFormOk; infer_instance

theorem lenFormOk_zero (n : Nat) : LenFormOk n 0 := by
  unfold LenFormOk lenForm
  rw [if_pos rfl, lenSerialize_length]
  exact ite_le (by decide) (by have := lenOctets_le n; omega)

/-- header lemma, length part: `ber_fetch_length` recovers the length and `formOf` the form -/
theorem fetchLength_lenForm (n k : Nat) (c : Bool) (r : Bytes) (hn : n ≤ 2 ^ 62 - 1)
    (hk : LenFormOk n k) :
    fetchLength c (lenForm n k ++ r) = .ok n (lenForm n k).length ∧
    formOf n (lenForm n k).length = k := by
  unfold LenFormOk at hk
  obtain ⟨h127, rfl, e⟩ | ⟨ds, e, hv, h1, hl⟩ := lenForm_shape n k (by omega)
  · rw [e]
    exact ⟨by rw [List.singleton_append, fetchLength, if_pos (by omega)]; rfl, rfl⟩
  · rw [e, List.length_cons] at hk ⊢
    refine ⟨by rw [fetchLength_digits c ds r h1 (by omega) (by omega), hv], ?_⟩
    unfold formOf
    rw [if_neg (by omega)]
    split at hl <;> rename_i h127
    · rw [if_pos h127]; omega
    · rw [if_neg h127]; omega

theorem drop_two (T L R : Bytes) : (T ++ (L ++ R)).drop (T.length + L.length) = R := by
  rw [← List.append_assoc, ← List.length_append, List.drop_left]

theorem parseTlv_header (f : Nat) (t : Tag) (c : Bool) (n k : Nat) (body : Bytes)
    (ht : TagOk t) (hn : n ≤ 2 ^ 62 - 1) (hk : LenFormOk n k) :
    parseTlv (f + 1) (tagOctets t c ++ (lenForm n k ++ body)) =
      if body.length < n then .more
      else if c then
        match parseAll f (body.take n) with
        | some cs => .ok (.cons t (some k) cs) (body.drop n)
        | none => .fail
      else .ok (.prim t k (body.take n)) (body.drop n) := by
  obtain ⟨h1, h2⟩ := fetchTag_tagOctets t c (lenForm n k ++ body) ht
  obtain ⟨h3, h4⟩ := fetchLength_lenForm n k c body hn hk
  rw [parseTlv]
  simp only [h1, h2, List.drop_left, h3, drop_two]
  have : ¬ ((n : Int) < 0) := by omega
  simp only [this, if_false, Int.toNat_natCast, h4]
  rfl

theorem parseTlv_header_indef (f : Nat) (t : Tag) (body : Bytes) (ht : TagOk t) :
    parseTlv (f + 1) (tagOctets t true ++ (128 :: body)) =
      match parseUntilEoc f body with
      | .ok cs rest => .ok (.cons t none cs) rest
      | .more => .more
      | .fail => .fail := by
  obtain ⟨h1, h2⟩ := fetchTag_tagOctets t true (128 :: body) ht
  have h3 : fetchLength true (128 :: body) = .ok (-1) 1 := by
    simp [fetchLength]
  have e : (tagOctets t true ++ 128 :: body).drop ((tagOctets t true).length + 1) = body :=
    drop_two (tagOctets t true) [128] body
  rw [parseTlv]
  simp only [h1, h2, List.drop_left, h3, e]
  rfl

/-- the end-of-contents TLV `00 00` -/
def isEoc : Tlv → Bool
  | .prim t k c => t.cls == 0 && t.num == 0 && k == 0 && c.isEmpty
  | .cons _ _ _ => false

mutual
/-- executable well-formedness of a TLV tree (see `Tlv.Wf`) -/
def wfB : Tlv → Bool
  | .prim t k c => decide (TagOk t) && decide (c.length ≤ 2 ^ 62 - 1) && decide (LenFormOk c.length k)
  | .cons t (some k) cs =>
    decide (TagOk t) && decide ((Tlv.encList cs).length ≤ 2 ^ 62 - 1) &&
      decide (LenFormOk (Tlv.encList cs).length k) && wfListB cs
  | .cons t none cs => decide (TagOk t) && wfListB cs && cs.all (fun c => !isEoc c)
def wfListB : List Tlv → Bool
  | [] => true
  | x :: xs => wfB x && wfListB xs
end

/-- **well-formed TLV tree**: tags fit `ber_tlv_tag_t`; every definite content length is at most
    RSSIZE_MAX = 2^62-1 and is written with at most 126 length octets; an indefinite node has no
    child that is the end-of-contents TLV `00 00`. -/
def Wf (x : Tlv) : Prop := wfB x = true
def WfList (xs : List Tlv) : Prop := wfListB xs = true

instance (x : Tlv) : Decidable (Wf x) := by unfold Wf; infer_instance
instance (xs : List Tlv) : Decidable (WfList xs) := by unfold WfList; infer_instance

/-- `x.Wf` for a TLV tree `x`, as the property files write it -/
abbrev _root_.Asn1c.L2.Tlv.Wf (x : Tlv) : Prop := Asn1c.Proofs.L2Tlv.Wf x

theorem wf_prim (t : Tag) (k : Nat) (c : Bytes) :
    Wf (.prim t k c) ↔ TagOk t ∧ c.length ≤ 2 ^ 62 - 1 ∧ LenFormOk c.length k := by
  simp [Wf, wfB, and_assoc]

theorem wf_cons_def (t : Tag) (k : Nat) (cs : List Tlv) :
    Wf (.cons t (some k) cs) ↔ TagOk t ∧ (Tlv.encList cs).length ≤ 2 ^ 62 - 1 ∧
      LenFormOk (Tlv.encList cs).length k ∧ WfList cs := by
  simp [Wf, WfList, wfB, and_assoc]

theorem wf_cons_indef (t : Tag) (cs : List Tlv) :
    Wf (.cons t none cs) ↔ TagOk t ∧ WfList cs ∧ ∀ c ∈ cs, isEoc c = false := by
  simp [Wf, WfList, wfB, and_assoc]

theorem wfList_nil : WfList [] := rfl
theorem wfList_cons (x : Tlv) (xs : List Tlv) : WfList (x :: xs) ↔ Wf x ∧ WfList xs := by
  simp [Wf, WfList, wfListB]

theorem wfList_iff (xs : List Tlv) : WfList xs ↔ ∀ x ∈ xs, Wf x := by
  induction xs with
  | nil => simp [wfList_nil]
  | cons x xs ih => simp [wfList_cons, ih]

theorem enc_prim (t : Tag) (k : Nat) (c : Bytes) :
    (Tlv.prim t k c).enc = tagOctets t false ++ (lenForm c.length k ++ c) := by
  simp [Tlv.enc]

theorem enc_cons_def (t : Tag) (k : Nat) (cs : List Tlv) :
    (Tlv.cons t (some k) cs).enc =
      tagOctets t true ++ (lenForm (Tlv.encList cs).length k ++ Tlv.encList cs) := by
  simp [Tlv.enc]

theorem enc_cons_indef (t : Tag) (cs : List Tlv) :
    (Tlv.cons t none cs).enc = tagOctets t true ++ (128 :: (Tlv.encList cs ++ [0, 0])) := by
  simp [Tlv.enc]

theorem encList_nil : Tlv.encList [] = [] := by simp [Tlv.encList]
theorem encList_cons (x : Tlv) (xs : List Tlv) : Tlv.encList (x :: xs) = x.enc ++ Tlv.encList xs := by
  simp [Tlv.encList]

theorem size_pos (x : Tlv) : 1 ≤ x.size := by
  cases x <;> simp [Tlv.size]
theorem sizeList_pos (xs : List Tlv) : 1 ≤ Tlv.sizeList xs := by
  cases xs with
  | nil => simp [Tlv.sizeList]
  | cons x xs => have := size_pos x; simp [Tlv.sizeList]; omega

theorem parseAll_nil (f : Nat) : parseAll (f + 1) [] = some [] := by simp [parseAll]
theorem parseAll_cons (f : Nat) (b : Nat) (bs : Bytes) :
    parseAll (f + 1) (b :: bs) =
      match parseTlv f (b :: bs) with
      | .ok t rest => (parseAll f rest).map (t :: ·)
      | _ => none := by
  rw [parseAll]; rfl

theorem parseUntilEoc_eoc (f : Nat) (rest : Bytes) : parseUntilEoc (f + 1) (0 :: 0 :: rest) = .ok [] rest := by
  simp [parseUntilEoc]

/-- what `parseUntilEoc` does on input that does not start with the end-of-contents octets: one TLV, then
    on with the rest -/
def untilStep (f : Nat) (p : Bytes) : PRes (List Tlv) :=
  match parseTlv f p with
  | .ok t rest =>
    match parseUntilEoc f rest with
    | .ok ts rest' => .ok (t :: ts) rest'
    | .more => .more
    | .fail => .fail
  | .more => .more
  | .fail => .fail

/-- `parseUntilEoc` decides on the first two octets: it goes on to parse a TLV unless the input begins with `00 00` or
    may still come to (is a prefix of `00 00`) -/
theorem parseUntilEoc_step (f : Nat) (p : Bytes) (h1 : ¬ p <+: [0, 0]) (h2 : ¬ [0, 0] <+: p) :
    parseUntilEoc (f + 1) p = untilStep f p := by
  cases p with
  | nil => exact (h1 List.nil_prefix).elim
  | cons b bs =>
    rw [parseUntilEoc]
    · rfl
    · intro e1 e2; subst e1 e2; exact h1 (by decide)
    · intro r e1 e2; subst e1 e2; exact h2 ⟨r, rfl⟩

/-- what `parseTlv` accepts has at least two octets, and starts with `00 00` only if it is the end-of-contents TLV:
    where `parseTlv` accepts, `parseAll` and `parseUntilEoc` go on to that TLV -/
theorem parseTlv_ok_head2 {f : Nat} {p : Bytes} {x : Tlv} {r : Bytes} (h : parseTlv f p = .ok x r) :
    ∃ b0 b1 tl, p = b0 :: b1 :: tl ∧ ((b0 = 0 ∧ b1 = 0) → isEoc x = true) := by
  cases f with
  | zero => simp [parseTlv] at h
  | succ f =>
    match p with
    | [] => simp [parseTlv, fetchTag] at h
    | [b] =>
      by_cases hb : b % 32 = 31 <;> simp [parseTlv, fetchTag, hb, fetchTagLoop, fetchLength] at h
    | b0 :: b1 :: tl =>
      refine ⟨b0, b1, tl, rfl, ?_⟩
      rintro ⟨rfl, rfl⟩
      have e : parseTlv (f + 1) (0 :: 0 :: tl) = .ok (.prim ⟨0, 0⟩ 0 []) tl := by
        simp [parseTlv, fetchTag, fetchLength, isConstructed, formOf]
      rw [e] at h
      cases h
      rfl

theorem parseAll_of_ok {f : Nat} {p : Bytes} {x : Tlv} {r : Bytes} (h : parseTlv f p = .ok x r) :
    parseAll (f + 1) p = (parseAll f r).map (x :: ·) := by
  obtain ⟨b0, b1, tl, rfl, _⟩ := parseTlv_ok_head2 h
  rw [parseAll_cons, h]

theorem parseUntilEoc_of_ok {f : Nat} {p : Bytes} {x : Tlv} {r : Bytes} (h : parseTlv f p = .ok x r)
    (hne : isEoc x = false) : parseUntilEoc (f + 1) p = untilStep f p := by
  obtain ⟨b0, b1, tl, rfl, h00⟩ := parseTlv_ok_head2 h
  have : ¬ (b0 = 0 ∧ b1 = 0) := fun h0 => by rw [h00 h0] at hne; cases hne
  refine parseUntilEoc_step f _ ?_ ?_
  · simp [List.cons_prefix_cons]; omega
  · simp [List.cons_prefix_cons]; omega

theorem parse_enc_all (fuel : Nat) :
    (∀ x, Wf x → x.size ≤ fuel → ∀ rest, parseTlv fuel (x.enc ++ rest) = .ok x rest) ∧
    (∀ cs, WfList cs → Tlv.sizeList cs ≤ fuel → parseAll fuel (Tlv.encList cs) = some cs) ∧
    (∀ cs, WfList cs → (∀ c ∈ cs, isEoc c = false) → Tlv.sizeList cs ≤ fuel →
        ∀ rest, parseUntilEoc fuel (Tlv.encList cs ++ (0 :: 0 :: rest)) = .ok cs rest) := by
  induction fuel with
  | zero =>
    refine ⟨fun x _ h => ?_, fun cs _ h => ?_, fun cs _ _ h => ?_⟩
    · have := size_pos x; omega
    · have := sizeList_pos cs; omega
    · have := sizeList_pos cs; omega
  | succ f ih =>
    obtain ⟨ih1, ih2, ih3⟩ := ih
    refine ⟨?_, ?_, ?_⟩
    · intro x hx hs rest
      cases x with
      | prim t k c =>
        obtain ⟨ht, hn, hk⟩ := (wf_prim t k c).mp hx
        rw [enc_prim, List.append_assoc, List.append_assoc, parseTlv_header f t false _ k _ ht hn hk]
        simp
      | cons t form cs =>
        cases form with
        | some k =>
          obtain ⟨ht, hn, hk, hcs⟩ := (wf_cons_def t k cs).mp hx
          rw [enc_cons_def, List.append_assoc, List.append_assoc, parseTlv_header f t true _ k _ ht hn hk]
          have hsz : Tlv.sizeList cs ≤ f := by simp [Tlv.size] at hs; omega
          simp [ih2 cs hcs hsz]
        | none =>
          obtain ⟨ht, hcs, he⟩ := (wf_cons_indef t cs).mp hx
          rw [enc_cons_indef, List.append_assoc, List.cons_append, parseTlv_header_indef f t _ ht]
          have hsz : Tlv.sizeList cs ≤ f := by simp [Tlv.size] at hs; omega
          have := ih3 cs hcs he hsz rest
          simp only [List.append_assoc, List.cons_append, List.nil_append]
          rw [this]
    · intro cs hcs hs
      cases cs with
      | nil => rw [encList_nil, parseAll_nil]
      | cons x xs =>
        obtain ⟨hx, hxs⟩ := (wfList_cons x xs).mp hcs
        have h1 := size_pos x
        have h2 := sizeList_pos xs
        simp only [Tlv.sizeList] at hs
        rw [encList_cons, parseAll_of_ok (ih1 x hx (by omega) _), ih2 xs hxs (by omega)]
        rfl
    · intro cs hcs hne hs rest
      cases cs with
      | nil =>
        rw [encList_nil, List.nil_append, parseUntilEoc_eoc]
      | cons x xs =>
        obtain ⟨hx, hxs⟩ := (wfList_cons x xs).mp hcs
        have h1 := size_pos x
        have h2 := sizeList_pos xs
        simp only [Tlv.sizeList] at hs
        rw [encList_cons, List.append_assoc, parseUntilEoc_of_ok (ih1 x hx (by omega) _) (hne x (by simp)), untilStep,
          ih1 x hx (by omega)]
        dsimp only
        rw [ih3 xs hxs (fun c hc => hne c (by simp [hc])) (by omega) rest]

/-- **`parseTlv` inverts `Tlv.enc`** on every well-formed tree: any length form (non-minimal
    definite, indefinite), any nesting, whatever follows the encoding. -/
theorem parseTlv_enc_any_form (x : Tlv) (hx : Wf x) (fuel : Nat) (hf : x.size ≤ fuel) (rest : Bytes) :
    parseTlv fuel (x.enc ++ rest) = .ok x rest :=
  (parse_enc_all fuel).1 x hx hf rest

theorem parseAll_encList (cs : List Tlv) (hcs : WfList cs) (fuel : Nat) (hf : Tlv.sizeList cs ≤ fuel) :
    parseAll fuel (Tlv.encList cs) = some cs :=
  (parse_enc_all fuel).2.1 cs hcs hf

theorem parseUntilEoc_encList (cs : List Tlv) (hcs : WfList cs) (hne : ∀ c ∈ cs, isEoc c = false)
    (fuel : Nat) (hf : Tlv.sizeList cs ≤ fuel) (rest : Bytes) :
    parseUntilEoc fuel (Tlv.encList cs ++ (0 :: 0 :: rest)) = .ok cs rest :=
  (parse_enc_all fuel).2.2 cs hcs hne hf rest

/-- `b` is what the parser's result `a` becomes when `q` is appended to the input: what was accepted stays, with `q`
    appended to the unconsumed rest, a rejection is final, `more` may turn into anything (`Fetch.ExtP` for parsers) -/
def PRes.Ext {α : Type} (q : Bytes) : PRes α → PRes α → Prop
  | .ok v r, b => b = .ok v (r ++ q)
  | .fail, b => b = .fail
  | .more, _ => True

theorem PRes.Ext.of_ok {α : Type} {q : Bytes} {a b : PRes α} {v : α} {r : Bytes} (h : PRes.Ext q a b)
    (e : a = .ok v r) : b = .ok v (r ++ q) := by subst e; exact h
theorem PRes.Ext.of_fail {α : Type} {q : Bytes} {a b : PRes α} (h : PRes.Ext q a b) (e : a = .fail) :
    b = .fail := by subst e; exact h

/-- case analysis on a result and what it becomes (`elab_as_elim`, like `Fetch.ExtP.elim`) -/
@[elab_as_elim] theorem PRes.Ext.elim {α : Type} {q : Bytes} {a b : PRes α} {motive : PRes α → PRes α → Prop}
    (h : PRes.Ext q a b) (more : ∀ b, motive .more b) (fail : motive .fail .fail)
    (ok : ∀ v r, motive (.ok v r) (.ok v (r ++ q))) : motive a b := by
  cases a with
  | more => exact more b
  | fail => exact h.of_fail rfl ▸ fail
  | ok v r => exact h.of_ok rfl ▸ ok v r

theorem parse_ext (fuel : Nat) :
    (∀ p q, PRes.Ext q (parseTlv fuel p) (parseTlv fuel (p ++ q))) ∧
    (∀ p q, PRes.Ext q (parseUntilEoc fuel p) (parseUntilEoc fuel (p ++ q))) := by
  induction fuel with
  | zero => constructor <;> intro p q <;> simp [parseTlv, parseUntilEoc, PRes.Ext]
  | succ f ih =>
    obtain ⟨ih1, ih2⟩ := ih
    have step : ∀ p q : Bytes, PRes.Ext q (untilStep f p) (untilStep f (p ++ q)) := by
      intro p q
      unfold untilStep
      refine (ih1 p q).elim (fun _ => trivial) rfl fun t rest => ?_
      dsimp only
      exact (ih2 rest q).elim (fun _ => trivial) rfl fun ts r' => rfl
    constructor
    · intro p q
      rw [parseTlv, parseTlv]
      refine (fetchTag_ext p q).elim (fun _ => trivial) rfl fun tag tl ⟨tl1, tl2⟩ => ?_
      simp only [headD_append p q 0 (by omega), List.drop_append_of_le_length tl2]
      refine (fetchLength_ext _ (p.drop tl) q).elim (fun _ => trivial) rfl fun len ll ⟨_, hll, _⟩ => ?_
      rw [List.length_drop] at hll
      have hdrop2 : (p ++ q).drop (tl + ll) = p.drop (tl + ll) ++ q :=
        List.drop_append_of_le_length (by omega)
      simp only [hdrop2]
      generalize p.drop (tl + ll) = body
      by_cases hneg : len < 0
      · simp only [hneg, if_true]
        exact (ih2 body q).elim (fun _ => trivial) rfl fun cs r' => rfl
      · simp only [hneg, if_false]
        by_cases hshort : body.length < len.toNat
        · simp only [hshort, if_true]; trivial
        · have hlong : ¬ (body ++ q).length < len.toNat := by rw [List.length_append]; omega
          simp only [hshort, hlong, if_false, List.take_append_of_le_length (Nat.le_of_not_lt hshort),
            List.drop_append_of_le_length (Nat.le_of_not_lt hshort)]
          split
          · split <;> simp [PRes.Ext]
          · simp [PRes.Ext]
    · intro p q
      by_cases h2 : [0, 0] <+: p
      · obtain ⟨r, rfl⟩ := h2
        simp [parseUntilEoc, PRes.Ext]
      by_cases h1 : p <+: [0, 0]
      · simp only [List.prefix_cons_iff, List.prefix_nil] at h1
        rcases h1 with rfl | ⟨_, rfl, rfl | ⟨_, rfl, rfl⟩⟩
        · trivial
        · trivial
        · exact (h2 (List.prefix_refl _)).elim
      · rw [parseUntilEoc_step f p h1 h2, parseUntilEoc_step f (p ++ q) (fun h => h1 ((List.prefix_append p q).trans h))
          fun h => (List.prefix_or_prefix_of_prefix (List.prefix_append p q) h).elim h1 h2]
        exact step p q

/-- **prefix-extension stability of `parseTlv`**: a TLV accepted on a prefix is accepted
    unchanged on every extension, with the extension appended to the unconsumed rest; a
    rejection is final.  (Only `more` can change.) -/
theorem parseTlv_append (fuel : Nat) (p q : Bytes) :
    (∀ x r, parseTlv fuel p = .ok x r → parseTlv fuel (p ++ q) = .ok x (r ++ q)) ∧
    (parseTlv fuel p = .fail → parseTlv fuel (p ++ q) = .fail) :=
  ⟨fun _ _ h => ((parse_ext fuel).1 p q).of_ok h, fun h => ((parse_ext fuel).1 p q).of_fail h⟩

/-- **a proper prefix of a valid encoding is answered with `more`** (RC_WMORE), never with an
    error and never with a value: the parser asks for more data until the TLV is complete. -/
theorem parseTlv_prefix_more (x : Tlv) (hx : Wf x) (p : Bytes) (hp : p <+: x.enc) (hne : p ≠ x.enc)
    (fuel : Nat) (hf : x.size ≤ fuel) : parseTlv fuel p = .more := by
  obtain ⟨q, hq⟩ := hp
  have h1 := parseTlv_enc_any_form x hx fuel hf []
  rw [List.append_nil, ← hq] at h1
  have he := (parse_ext fuel).1 p q
  cases hr : parseTlv fuel p with
  | more => rfl
  | fail => rw [he.of_fail hr] at h1; cases h1
  | ok y r =>
    rw [he.of_ok hr] at h1
    injection h1 with _ e
    rw [(List.append_eq_nil_iff.1 e).2, List.append_nil] at hq
    exact (hne hq).elim

mutual
/-- all tags fit, all lengths definite and minimal (the trees produced by `toTlv`) -/
def isDerB : Tlv → Bool
  | .prim t k _ => decide (TagOk t) && k == 0
  | .cons t (some k) cs => decide (TagOk t) && k == 0 && isDerListB cs
  | .cons _ none _ => false
def isDerListB : List Tlv → Bool
  | [] => true
  | x :: xs => isDerB x && isDerListB xs
end

def IsDer (x : Tlv) : Prop := isDerB x = true
def IsDerList (xs : List Tlv) : Prop := isDerListB xs = true

theorem isDer_prim (t : Tag) (k : Nat) (c : Bytes) : IsDer (.prim t k c) ↔ TagOk t ∧ k = 0 := by
  simp [IsDer, isDerB]
theorem isDer_cons (t : Tag) (k : Nat) (cs : List Tlv) :
    IsDer (.cons t (some k) cs) ↔ TagOk t ∧ k = 0 ∧ IsDerList cs := by
  simp [IsDer, IsDerList, isDerB, and_assoc]
theorem isDer_cons_none (t : Tag) (cs : List Tlv) : ¬ IsDer (.cons t none cs) := by
  simp [IsDer, isDerB]
theorem isDerList_nil : IsDerList [] := rfl
theorem isDerList_cons (x : Tlv) (xs : List Tlv) : IsDerList (x :: xs) ↔ IsDer x ∧ IsDerList xs := by
  simp [IsDer, IsDerList, isDerListB]
theorem isDerList_iff (xs : List Tlv) : IsDerList xs ↔ ∀ x ∈ xs, IsDer x := by
  induction xs with
  | nil => simp [isDerList_nil]
  | cons x xs ih => simp [isDerList_cons, ih]

/-- a DER tree is well-formed as soon as its encoding is not longer than `2^62-1` = RSSIZE_MAX, the largest
    length `ber_fetch_length` accepts (tags and minimal length forms are fine by `IsDer`) -/
theorem isDer_wf (x : Tlv) (hd : IsDer x) (hl : x.enc.length ≤ 2 ^ 62 - 1) : Wf x := by
  refine Tlv.rec (motive_1 := fun x => IsDer x → x.enc.length ≤ 2 ^ 62 - 1 → Wf x)
    (motive_2 := fun cs => IsDerList cs → (Tlv.encList cs).length ≤ 2 ^ 62 - 1 → WfList cs) ?_ ?_ ?_ ?_ x hd hl
  · intro t k c hd hl
    obtain ⟨ht, rfl⟩ := (isDer_prim t k c).mp hd
    rw [enc_prim] at hl
    simp only [List.length_append] at hl
    exact (wf_prim t 0 c).mpr ⟨ht, by omega, lenFormOk_zero _⟩
  · intro t form cs ih hd hl
    cases form with
    | none => exact (isDer_cons_none t cs hd).elim
    | some k =>
      obtain ⟨ht, rfl, hcs⟩ := (isDer_cons t k cs).mp hd
      rw [enc_cons_def] at hl
      simp only [List.length_append] at hl
      exact (wf_cons_def t 0 cs).mpr ⟨ht, by omega, lenFormOk_zero _, ih hcs (by omega)⟩
  · exact fun _ _ => wfList_nil
  · intro x xs ih1 ih2 hd hl
    obtain ⟨hx, hxs⟩ := (isDerList_cons x xs).mp hd
    rw [encList_cons, List.length_append] at hl
    exact (wfList_cons x xs).mpr ⟨ih1 hx (by omega), ih2 hxs (by omega)⟩

end Asn1c.Proofs.L2Tlv
