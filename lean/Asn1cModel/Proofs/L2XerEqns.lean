import Asn1cModel.L2.Xer
/-
  The NULL clause of the two big recursive functions of the reference XER codec (`L2/Xer.lean`), `encTy` and `decTy`.
  They stand upstream of Proofs/L2Xer because Lean derives a definition's equation lemmas when they are first asked
  for, and inside the module that asks first every proof pays for that again; asked here once, Proofs/L2Xer finds
  them ready.  Only these two: the other functions of their mutual blocks (`encMembers`, `decSeqBody`, ...) are small,
  and deriving their equations where they are unfolded takes no more than stating them here would.  (The functions of
  the tokenizer and of the body texts are first unfolded in Proofs/L2XerTok and Proofs/L2XerBody, which stand upstream
  of Proofs/L2Xer already.)
-/
namespace Asn1c.Proofs.L2Xer
open Asn1c Asn1c.L2 Asn1c.L2.Xer

theorem encTy_null (c : Bool) (il : Nat) : encTy c .null il .null = some [] := by rw [encTy]

theorem decTy_null (f : Nat) (name bs : Bytes) : decTy (f + 1) .null name bs = decPrim nullBody name bs := by
  rw [decTy]

end Asn1c.Proofs.L2Xer
