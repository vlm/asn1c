import Asn1cModel.Impl.Unber
import Asn1cModel.Proofs.BerFetch
/-
  The loop of `process_deeper`, described once for what is proved about it on well-formed input (Proofs/Unber.lean)
  and on arbitrary bytes (Proofs/UnberSafe.lean, Proofs/UnberDepth.lean).  One turn (`pd_succ`): the tests at the loop
  head, one octet into `tagbuf`, and what the TL decoders make of `tagbuf` (`readTL`): more, a diagnostic, or a complete
  TL.  Behind a complete TL (`afterTL`): the tests on the limit, then the contents — the child activation of a
  constructed TLV, `print_V` of a primitive one — and behind them one common tail, `afterBody`; end-of-contents octets
  end the activation instead (`afterTL_eoc`).  In front of these the limit arithmetic `limSub`.
-/
namespace Asn1c.Proofs.UnberPass
open Asn1c Asn1c.Impl.UnberTlv Asn1c.Impl.Unber Asn1c.Proofs.UnberTlv

/-- `limit -= x` when a limit is set (`-1`: none) -/
def limSub (limit : Int) (x : Nat) : Int := if limit = -1 then -1 else limit - x

theorem limSub_spec (limit : Int) (a : Nat) :
    limit = -1 ∧ limSub limit a = -1 ∨ limit ≠ -1 ∧ limSub limit a = limit - a := by
  unfold limSub; split <;> omega

/- When the amount fits under the limit (or none is set), `limSub` is plain subtraction and the
   results stay distinguishable from "no limit". -/

theorem limSub_eq_neg_one {limit : Int} {a : Nat} (h : limit = -1 ∨ (a : Int) ≤ limit) :
    limSub limit a = -1 ↔ limit = -1 := by
  have := limSub_spec limit a; omega

theorem limSub_neg {limit : Int} {a : Nat} (h : limit = -1 ∨ (a : Int) ≤ limit) :
    limSub limit a < 0 ↔ limit = -1 := by
  have := limSub_spec limit a; omega

theorem limSub_fits {limit : Int} {a b : Nat} (h : limit = -1 ∨ ((a + b : Nat) : Int) ≤ limit) :
    limSub limit a = -1 ∨ (b : Int) ≤ limSub limit a := by
  have := limSub_spec limit a; omega

theorem limSub_limSub {limit : Int} {a b : Nat} (h : limit = -1 ∨ ((a + b : Nat) : Int) ≤ limit) :
    limSub (limSub limit a) b = limSub limit (a + b) := by
  have := limSub_spec limit a
  have := limSub_spec (limSub limit a) b
  have := limSub_spec limit (a + b)
  omega

theorem limSub_zero (limit : Int) : limSub limit 0 = limit := by
  have := limSub_spec limit 0; omega

theorem limSub_self (v : Nat) : limSub (v : Int) v = 0 := by
  have := limSub_spec v v; omega

/-- what the TL decoders make of the octets collected in `tagbuf` -/
inductive TL where
  /-- one of them wants more octets: the loop reads the next one -/
  | more
  /-- the diagnostic `e` -/
  | bad (e : Err)
  /-- `tagbuf` holds exactly one identifier and one length field; `isEoc`: end-of-contents octets that were expected -/
  | ok (tag : Nat) (len : Int) (constr isEoc : Bool)

/-- One turn of the loop of `process_deeper` between the store `tagbuf[tblen++] = ch` and the code behind a complete TL:
    `ber_fetch_tag` on `tagbuf`, `ber_fetch_length` behind the identifier, `(t_len + l_len) == tblen`, the test for
    end-of-contents octets.  Written with the decoders of `Impl.BerTlv`, which see the list of octets stored and so
    cannot read outside it (`pd_succ`). -/
def readTL (eoc : Bool) (buf : Bytes) : TL :=
  match Impl.BerTlv.fetchTag buf with
  | .fail => .bad .badTag
  | .more => .more
  | .ok t tLen =>
    match Impl.BerTlv.fetchLength (buf.headD 0 / 32 % 2 == 1) (buf.drop tLen) with
    | .fail => .bad .badLen
    | .more => .more
    | .ok len lLen =>
      if tLen + lLen ≠ buf.length then .bad .tlMismatch
      else .ok (tagWord t) len (buf.headD 0 / 32 % 2 == 1) (eoc && buf.headD 0 == 0 && buf.getD 1 0 == 0)

/-- One turn of the loop of `process_deeper`, for any `tagbuf`.  No `oob` outcome of `pd` is left on the right: the store
    stands behind the test `tblen ≥ 32`; the decoders, handed `tagbuf` and the number of octets in it, are those of
    `Impl.BerTlv` (`fetchTag_eq`, `fetchLength_eq`), and the two fields they accept lie inside `tagbuf` (`fetchTag_ext`,
    `fetchLength_ext`), so `tagbuf[0]` and `tagbuf[1]` are there. -/
theorem pd_succ (fuel level : Nat) (eoc : Bool) (tagbuf : Bytes) (limit : Int) (esize : Nat) (pdc : Pdc) (inp : Bytes)
    (off : Nat) :
    pd (fuel + 1) level eoc tagbuf limit esize pdc inp off
      = if limit = 0 then .done .finished 0 inp off []
        else if limit ≥ 0 ∧ (tagbuf.length : Int) ≥ limit then .failed .tooLongLimit []
        else if tagbuf.length ≥ 32 then .failed .tooLongBuf []
        else match inp with
          | [] => if limit > 0 ∨ eoc = true then .failed .eofTL [] else .done .eof 0 [] off []
          | ch :: inp1 =>
            match readTL eoc (tagbuf ++ [ch]) with
            | .more => pd fuel level eoc (tagbuf ++ [ch]) limit esize pdc inp1 (off + 1)
            | .bad e => .failed e []
            | .ok tag len constr isEoc =>
              afterTL (pd fuel) level eoc (tagbuf ++ [ch]) limit esize pdc inp1 (off + 1) tag len constr isEoc := by
  cases inp with
  | nil => rw [pd]
  | cons ch inp1 =>
    rw [pd]
    refine ite_congr rfl (fun _ => rfl) fun _ => ite_congr rfl (fun _ => rfl) fun _ =>
      ite_congr rfl (fun _ => rfl) fun c2 => ?_
    dsimp only
    rw [if_neg c2, readTL]
    have hlen : (tagbuf ++ [ch]).length = tagbuf.length + 1 := List.length_append
    rw [← hlen]
    generalize tagbuf ++ [ch] = buf
    rw [fetchTag_eq buf]
    have hT := BerTlv.fetchTag_ext buf []
    cases hft : Impl.BerTlv.fetchTag buf with
    | fail => rfl
    | more => rfl
    | ok t tLen =>
      obtain ⟨hu1, hu2⟩ := hT.out hft
      cases buf with
      | nil => exact absurd hu2 (by simp; omega)
      | cons b0 tl =>
        dsimp only [ofBer, List.getElem?_cons_zero, List.headD_cons]
        have hdl : (List.drop tLen (b0 :: tl)).length = (b0 :: tl).length - tLen := List.length_drop
        rw [← hdl, fetchLength_eq]
        have hL := BerTlv.fetchLength_ext (b0 / 32 % 2 == 1) (List.drop tLen (b0 :: tl)) []
        cases hfl : Impl.BerTlv.fetchLength (b0 / 32 % 2 == 1) (List.drop tLen (b0 :: tl)) with
        | fail => rfl
        | more => rfl
        | ok len lLen =>
          have hv1 := (hL.out hfl).1
          dsimp only [ofBer, id]
          by_cases hsum : tLen + lLen ≠ (b0 :: tl).length
          · rw [if_pos hsum, if_pos hsum]
          rw [if_neg hsum, if_neg hsum]
          cases tl with
          | nil => simp at hsum hu2; omega
          | cons b1 tl =>
            by_cases hb : eoc = true ∧ b0 = 0
            · obtain ⟨rfl, rfl⟩ := hb; rfl
            · rw [if_neg hb]
              congr 1; symm
              cases eoc
              · rfl
              · rw [show (b0 == 0) = false from beq_false_of_ne fun h => hb ⟨rfl, h⟩]; rfl

theorem readTL_len {eoc : Bool} {buf : Bytes} {tag : Nat} {len : Int} {constr isEoc : Bool}
    (h : readTL eoc buf = .ok tag len constr isEoc) : -1 ≤ len ∧ (constr = false → 0 ≤ len) := by
  unfold readTL at h
  split at h
  · cases h
  · cases h
  split at h
  · cases h
  · cases h
  rename_i hfl
  split at h
  · cases h
  · cases h
    exact ((BerTlv.fetchLength_ext _ _ []).out hfl).2.2

/-- while `tagbuf` holds a proper prefix of a complete TL the decoders want more: what either of them accepts lies
    inside the octets it was shown and stands when more are shown -/
theorem readTL_prefix {eoc eoc' : Bool} {p s : Bytes} {tag : Nat} {len : Int} {constr isEoc : Bool}
    (hx : readTL eoc (p ++ s) = .ok tag len constr isEoc) (hs : s ≠ []) : readTL eoc' p = .more := by
  unfold readTL at hx ⊢
  revert hx
  refine (BerTlv.fetchTag_ext p s).elim (fun _ _ => rfl) nofun fun t u ⟨hu1, hu2⟩ => ?_
  cases p with
  | nil => exact absurd hu2 (by simp; omega)
  | cons b0 tl =>
    dsimp only [List.cons_append, List.headD_cons]
    rw [show List.drop u (b0 :: (tl ++ s)) = List.drop u (b0 :: tl) ++ s from List.drop_append_of_le_length hu2]
    refine (BerTlv.fetchLength_ext (b0 / 32 % 2 == 1) (List.drop u (b0 :: tl)) s).elim (fun _ _ => rfl) nofun
      fun l v ⟨_, hv, _⟩ => ?_
    -- both fields lie inside `p`, so behind them `s` is left over
    have := List.length_pos_iff.2 hs
    rw [List.length_drop, List.length_cons] at hv
    dsimp only
    rw [if_pos (by rw [List.length_cons, List.length_append]; omega)]
    nofun

/-- What `process_deeper` does once the contents of a TLV have been dealt with, with outcome `r`: for a constructed
    TLV the child activation, for a primitive one `print_V`, which takes `len` octets and leaves `pdc` as it was.
    The frame size reported is checked against the limit `limit1` left behind the TL `hdr`, a definite-length TLV gets
    its closing tag, then return or loop on.  `o1`: what this pass has printed so far. -/
def afterBody (rec : Loop) (level : Nat) (eoc : Bool) (hdr : Bytes) (limit1 : Int) (esize tag : Nat)
    (len : Int) (constr : Bool) (o1 : List Out) : R → R
  | .done cpdc dec inp2 off2 o2 =>
    let o12 := o1 ++ o2
    let o123 := o12 ++ [.cls level constr off2 hdr.length tag len (hdr.length + dec)]
    let next := rec level eoc [] (limSub limit1 dec) (esize + hdr.length + dec) cpdc inp2 off2
    if limit1 ≠ -1 ∧ limit1 < dec then .assertion o12
    else if len = -1 then
      if cpdc = .finished ∧ limSub limit1 dec < 0 ∧ eoc = false then .done cpdc (hdr.length + dec) inp2 off2 o12
      else (next.addFrame (hdr.length + dec)).pre o12
    else
      if level = 0 ∧ limSub limit1 dec = -1 ∧ eoc = false then .done cpdc (hdr.length + dec) inp2 off2 o123
      else (next.addFrame (hdr.length + dec)).pre o123
  | r => r.pre o1

/-- `afterTL` on a constructed TLV, cut at the call of the child activation -/
theorem afterTL_constr (rec : Loop) (level : Nat) (eoc : Bool) (hdr : Bytes) (limit : Int) (esize : Nat)
    (pdc : Pdc) (inp : Bytes) (off tag : Nat) (len : Int) :
    afterTL rec level eoc hdr limit esize pdc inp off tag len true false
      = if limit ≠ -1 ∧ limSub limit hdr.length < 0 then
          .assertion [.opn level true (off - hdr.length) hdr.length tag len]
        else if limit ≠ -1 ∧ len > limSub limit hdr.length then
          .failed .lenExceeds [.opn level true (off - hdr.length) hdr.length tag len]
        else if len ≠ -1 ∧ limSub limit hdr.length ≠ -1 ∧ limSub limit hdr.length < len then
          .assertion [.opn level true (off - hdr.length) hdr.length tag len, .gt]
        else if level + 1 > maxLevel then
          .failed .tooDeep [.opn level true (off - hdr.length) hdr.length tag len, .gt]
        else afterBody rec level eoc hdr (limSub limit hdr.length) esize tag len true
          [.opn level true (off - hdr.length) hdr.length tag len, .gt]
          (rec (level + 1) (len == -1) [] (if len = -1 then limSub limit hdr.length else len) hdr.length
            .finished inp off) := by
  unfold afterTL afterBody limSub
  dsimp only []
  generalize rec (level + 1) (len == -1) [] _ hdr.length .finished inp off = r
  cases r <;> rfl

/-- `afterTL` on a primitive TLV: `print_V` plays the part of the child activation -/
theorem afterTL_primitive (rec : Loop) (level : Nat) (eoc : Bool) (hdr : Bytes) (limit : Int) (esize : Nat)
    (pdc : Pdc) (inp : Bytes) (off tag : Nat) (len : Int) :
    afterTL rec level eoc hdr limit esize pdc inp off tag len false false
      = if limit ≠ -1 ∧ limSub limit hdr.length < 0 then
          .assertion [.opn level false (off - hdr.length) hdr.length tag len]
        else if limit ≠ -1 ∧ len > limSub limit hdr.length then
          .failed .lenExceeds [.opn level false (off - hdr.length) hdr.length tag len]
        else if len < 0 then
          .assertion [.opn level false (off - hdr.length) hdr.length tag len]
        else if (inp.take len.toNat).length < len.toNat then
          .failed .eofV [.opn level false (off - hdr.length) hdr.length tag len, .val (inp.take len.toNat)]
        else afterBody rec level eoc hdr (limSub limit hdr.length) esize tag len false
          [.opn level false (off - hdr.length) hdr.length tag len, .val (inp.take len.toNat)]
          (.done pdc len.toNat (inp.drop len.toNat) (off + len.toNat) []) := by
  unfold afterTL afterBody limSub
  dsimp only []
  by_cases h0 : len < 0
  · rw [if_pos h0, if_pos h0]; rfl
  · -- the model subtracts `len`, the tail the frame size `len.toNat`
    rw [if_neg h0, if_neg h0, Int.toNat_of_nonneg (by omega)]
    simp only [if_neg (by omega : ¬ len = -1)]
    rfl

/-- `afterTL` on the end-of-contents octets an indefinite-length container was waiting for: the closing element of
    the container, one level up, and the activation ends -/
theorem afterTL_eoc (rec : Loop) (level : Nat) (eoc : Bool) (hdr : Bytes) (limit : Int) (esize : Nat)
    (pdc : Pdc) (inp : Bytes) (off tag : Nat) (len : Int) (constr : Bool) :
    afterTL rec level eoc hdr limit esize pdc inp off tag len constr true
      = if limit ≠ -1 ∧ limSub limit hdr.length < 0 then .assertion []
        else if limit ≠ -1 ∧ len > limSub limit hdr.length then .failed .lenExceeds []
        else .done .finished hdr.length inp off [.cls (level - 1) true (off - 2) 2 0 (-1) (esize + hdr.length)] :=
  rfl

end Asn1c.Proofs.UnberPass
