import Asn1cModel.Impl.Unber
import Asn1cModel.Spec.TlvForest
import Asn1cModel.Proofs.UnberTlv
import Asn1cModel.Proofs.UnberPass
/-
  `process_deeper` (Impl.Unber.pd) run on the encoding of a well-formed TLV forest: within the nesting limit it prints
  exactly `Spec.TlvForest.expected`, beyond it it stops with the nesting diagnostic.  One statement per TLV (`nodeT`),
  per list of members (`list_run`) and for the top-level loop (`stream_run`) says both.
  (Arbitrary input: Proofs/UnberSafe.lean, Proofs/UnberDepth.lean.)
-/
namespace Asn1c.Proofs.Unber
open Asn1c Asn1c.Impl.UnberTlv Asn1c.Impl.Unber Asn1c.Spec.TlvForest Asn1c.Proofs.UnberTlv Asn1c.Proofs.UnberPass

/-- what the TL decoders make of an identifier followed by a complete length field -/
theorem readTL_ident (c n : Nat) (k : Bool) (lenb : Bytes) (len : Int) (eoc : Bool)
    (hc : tagOk c n = true) (hn : n < 2 ^ 30) (H1 : Impl.BerTlv.fetchLength k lenb = .ok len lenb.length) :
    readTL eoc (identOctets c k n ++ lenb) = .ok (tagOf c n) len k false := by
  obtain ⟨itl, hitl⟩ := identOctets_head c n
  have hd : (identOctets c k n ++ lenb).headD 0 = identHead c k n := by rw [hitl]; rfl
  rw [readTL, fetchTag_ident_list c k n lenb hn]
  dsimp only
  rw [hd, identHead_constr, List.drop_left, H1]
  dsimp only
  rw [if_neg (by simp), (beq_false_of_ne (identHead_ne_zero c k n hc) : (identHead c k n == 0) = false),
    Bool.and_false, Bool.false_and]
  simp only [tagWord, tagOf]
  congr 1; omega

/-- what the TL decoders make of the header of a well-formed TLV within the tools' limits, which fits `tagbuf[32]` -/
theorem readTL_hdr (t : Tlv) (hwf : t.wf = true) (hdom : t.inDomain = true) (eoc : Bool) :
    readTL eoc t.hdr = .ok t.tag t.len t.constr false ∧ t.headerLen ≤ 32 := by
  cases t with
  | prim c n lf content =>
    simp only [Tlv.wf, Tlv.inDomain, Bool.and_eq_true, decide_eq_true_eq] at hwf hdom
    have := fetchLength_lenOctets_list lf _ false [] hwf.1.2 hdom.2
    rw [List.append_nil] at this
    exact ⟨readTL_ident c n false _ _ eoc hwf.1.1 hdom.1.1 this, hdom.1.2⟩
  | cons c n lf ch =>
    simp only [Tlv.wf, Tlv.inDomain, Bool.and_eq_true, decide_eq_true_eq] at hwf hdom
    have := fetchLength_lenOctets_list lf _ true [] hwf.1.2 hdom.1.2
    rw [List.append_nil] at this
    exact ⟨readTL_ident c n true _ _ eoc hwf.1.1 hdom.1.1.1 this, hdom.1.1.2⟩
  | indef c n ch =>
    simp only [Tlv.wf, Tlv.inDomain, Bool.and_eq_true, decide_eq_true_eq] at hwf hdom
    have := identOctets_length_le c true n hdom.1
    exact ⟨readTL_ident c n true [128] (-1) eoc hwf.1 hdom.1 rfl, by simp only [Tlv.headerLen]; omega⟩

/-- Reading a complete TL `hdr` octet by octet into `tagbuf`: while `tagbuf` holds a proper prefix the TL decoders
    ask for more (`readTL_prefix`), behind the last octet `afterTL` runs. -/
theorem pd_TL (hdr : Bytes) (tag : Nat) (len : Int) (constr eoc isEoc : Bool)
    (hok : readTL eoc hdr = .ok tag len constr isEoc) (h32 : hdr.length ≤ 32) :
    ∀ (suf pre : Bytes), pre ++ suf = hdr → suf ≠ [] →
    ∀ (f' level : Nat) (limit : Int) (esize : Nat) (pdc : Pdc) (rest : Bytes) (off : Nat),
      (limit = -1 ∨ (hdr.length : Int) ≤ limit) →
      pd (suf.length + f') level eoc pre limit esize pdc (suf ++ rest) off
        = afterTL (pd f') level eoc hdr limit esize pdc rest (off + suf.length) tag len constr isEoc := by
  intro suf
  induction suf with
  | nil => intro pre _ h; exact absurd rfl h
  | cons ch suf ih =>
    intro pre hps _ f' level limit esize pdc rest off hlim
    have htot : pre.length + (suf.length + 1) = hdr.length := by rw [← hps]; simp
    have hps' : (pre ++ [ch]) ++ suf = hdr := by rw [List.append_assoc]; exact hps
    rw [show (ch :: suf).length + f' = (suf.length + f') + 1 by simp; omega, List.cons_append, pd_succ,
      if_neg (by omega), if_neg (by omega), if_neg (by omega)]
    dsimp only
    by_cases hsuf : suf = []
    · subst hsuf
      rw [List.append_nil] at hps'
      rw [hps', hok]
      simp only [List.length_nil, Nat.zero_add, List.nil_append, List.length_cons]
    · rw [readTL_prefix (hps' ▸ hok) hsuf]
      have := ih (pre ++ [ch]) hps' hsuf f' level limit esize pdc rest (off + 1) hlim
      rwa [show off + 1 + suf.length = off + (ch :: suf).length by simp; omega] at this

/-- The loop entered in front of the encoding of a well-formed TLV reads its identifier and length octets and runs
    `afterTL` behind them, with what the TL decoders report for it. -/
theorem pd_hdr (t : Tlv) (hwf : t.wf = true) (hdom : t.inDomain = true)
    (fuel level : Nat) (eoc : Bool) (limit : Int) (esize : Nat) (pdc : Pdc) (rest : Bytes) (off : Nat)
    (hlim : limit = -1 ∨ (t.headerLen : Int) ≤ limit) (hfuel : t.headerLen ≤ fuel) :
    pd fuel level eoc [] limit esize pdc (t.hdr ++ rest) off
      = afterTL (pd (fuel - t.headerLen)) level eoc t.hdr limit esize pdc rest (off + t.headerLen)
          t.tag t.len t.constr false := by
  obtain ⟨hok, h32⟩ := readTL_hdr t hwf hdom eoc
  rw [← t.hdr_length] at hlim hfuel h32 ⊢
  have H := pd_TL t.hdr _ _ _ eoc _ hok h32 t.hdr [] rfl (fun h => by rw [h] at hok; cases hok)
    (fuel - t.hdr.length) level limit esize pdc rest off hlim
  rwa [Nat.add_sub_cancel' hfuel] at H

/-- a constructed TLV of definite length `v` that fits the limit: nesting test, child activation -/
theorem afterTL_definite (rec : Loop) (level : Nat) (eoc : Bool) (hdr : Bytes) (limit : Int) (esize : Nat)
    (pdc : Pdc) (inp : Bytes) (off tag v : Nat)
    (hlim : limit = -1 ∨ ((hdr.length + v : Nat) : Int) ≤ limit) :
    afterTL rec level eoc hdr limit esize pdc inp off tag (v : Int) true false
      = if level + 1 > maxLevel then
          .failed .tooDeep [.opn level true (off - hdr.length) hdr.length tag v, .gt]
        else afterBody rec level eoc hdr (limSub limit hdr.length) esize tag v true
          [.opn level true (off - hdr.length) hdr.length tag v, .gt]
          (rec (level + 1) false [] v hdr.length .finished inp off) := by
  have hv : ¬ ((v : Int) = -1) := by omega
  have h1 : limSub limit hdr.length = -1 ∨ (v : Int) ≤ limSub limit hdr.length := limSub_fits hlim
  have h2 : limSub limit hdr.length < 0 ↔ limit = -1 := limSub_neg (by omega)
  rw [afterTL_constr, if_neg (by omega), if_neg (by omega), if_neg (by omega), if_neg hv,
    (beq_eq_false_iff_ne.2 hv : ((v : Int) == -1) = false)]

/-- a constructed TLV of indefinite length: nesting test, child activation under what is left of the limit -/
theorem afterTL_indefinite (rec : Loop) (level : Nat) (eoc : Bool) (hdr : Bytes) (limit : Int) (esize : Nat)
    (pdc : Pdc) (inp : Bytes) (off tag : Nat) (hlim : limit = -1 ∨ ((hdr.length : Nat) : Int) ≤ limit) :
    afterTL rec level eoc hdr limit esize pdc inp off tag (-1) true false
      = if level + 1 > maxLevel then
          .failed .tooDeep [.opn level true (off - hdr.length) hdr.length tag (-1), .gt]
        else afterBody rec level eoc hdr (limSub limit hdr.length) esize tag (-1) true
          [.opn level true (off - hdr.length) hdr.length tag (-1), .gt]
          (rec (level + 1) true [] (limSub limit hdr.length) hdr.length .finished inp off) := by
  have h1 : limSub limit hdr.length = -1 ↔ limit = -1 := limSub_eq_neg_one hlim
  have h2 : limSub limit hdr.length < 0 ↔ limit = -1 := limSub_neg hlim
  rw [afterTL_constr, if_neg (by omega), if_neg (by omega), if_neg (fun h => h.1 rfl), if_pos rfl]
  rfl

/-- the end-of-contents octets inside an indefinite-length container -/
theorem pd_eoc (f' level : Nat) (limit : Int) (esize : Nat) (pdc : Pdc) (rest : Bytes) (off : Nat)
    (hlim : limit = -1 ∨ 2 ≤ limit) :
    pd (f' + 2) level true [] limit esize pdc (0 :: 0 :: rest) off
      = .done .finished 2 rest (off + 2) [.cls (level - 1) true off 2 0 (-1) (esize + 2)] := by
  have h2 := limSub_spec limit 2
  rw [Nat.add_comm]
  refine (pd_TL [0, 0] 0 0 false true true rfl (by decide) [0, 0] [] rfl (List.cons_ne_nil _ _) f' level limit esize
    pdc rest off hlim).trans ?_
  rw [afterTL_eoc, if_neg (by simp; omega), if_neg (by simp; omega)]
  rfl

/-- a limit that is used up ends the activation -/
theorem pd_limit_zero (f level : Nat) (eoc : Bool) (esize : Nat) (pdc : Pdc) (inp : Bytes) (off : Nat) (hf : 0 < f) :
    pd f level eoc [] 0 esize pdc inp off = .done .finished 0 inp off [] := by
  obtain ⟨g, rfl⟩ : ∃ g, f = g + 1 := ⟨f - 1, by omega⟩
  rw [pd_succ, if_pos rfl]

theorem headerLen_le_encode (t : Tlv) : t.headerLen ≤ t.encode.length := by
  cases t <;> simp [Tlv.headerLen, Tlv.encode]

/-- only the top-level activation runs without a limit and without expecting end-of-contents octets -/
theorem top_cond {level : Nat} {limit : Int} {eoc : Bool} (hctx : limit = -1 ∧ eoc = false → level = 0) :
    (level = 0 ∧ limit = -1 ∧ eoc = false) ↔ (limit = -1 ∧ eoc = false) :=
  ⟨fun h => h.2, fun h => ⟨hctx h, h⟩⟩

mutual
/-- What one pass through the loop body of `process_deeper` does with the encoding of `t`, entered at any level.
    Within the nesting limit: at top level (`limit = -1`, `expect_eoc = 0`) it returns, otherwise it loops on, having
    printed what is expected for `t`.  When `t` reaches beyond `maxLevel`: the nesting diagnostic.  (The local `pdc`
    is `PD_FINISHED` in front of every TLV of a well-formed encoding: an activation starts with it, a primitive TLV
    leaves it alone, a container sets it to what its child returned.) -/
theorem nodeT : ∀ (t : Tlv),
    t.wf = true → t.inDomain = true →
    ∀ (fuel level : Nat) (eoc : Bool) (limit : Int) (esize : Nat) (rest : Bytes) (off : Nat),
      (limit = -1 ∧ eoc = false → level = 0) → level ≤ maxLevel →
      (limit = -1 ∨ (t.encode.length : Int) ≤ limit) → t.encode.length + 1 ≤ fuel →
      (level + t.depth ≤ maxLevel →
        pd fuel level eoc [] limit esize .finished (t.encode ++ rest) off
          = if limit = -1 ∧ eoc = false then
              .done .finished t.encode.length rest (off + t.encode.length) (t.expected level off)
            else
              ((pd (fuel - t.headerLen) level eoc [] (limSub limit t.encode.length) (esize + t.encode.length)
                  .finished rest (off + t.encode.length)).addFrame t.encode.length).pre (t.expected level off)) ∧
      (maxLevel < level + t.depth →
        ∃ out, pd fuel level eoc [] limit esize .finished (t.encode ++ rest) off = .failed .tooDeep out)
  | .prim c n lf content => by
    intro hwf hdom fuel level eoc limit esize rest off hctx hle hlim hfuel
    have hp := pd_hdr _ hwf hdom fuel level eoc limit esize .finished (content ++ rest) off
    refine ⟨fun _ => ?_, fun hd => absurd hd (by simp only [Tlv.depth]; omega)⟩
    simp only [Tlv.expected]
    rw [Tlv.encode_eq, List.length_append] at hlim hfuel
    rw [Tlv.encode_eq, List.length_append, List.append_assoc]
    rw [← Tlv.hdr_length] at hp ⊢
    simp only [Tlv.body, Tlv.tag, Tlv.len, Tlv.constr] at hp hlim hfuel ⊢
    generalize (Tlv.prim c n lf content).hdr = hdr at *
    have h1 : limSub limit hdr.length = -1 ∨ (content.length : Int) ≤ limSub limit hdr.length := limSub_fits hlim
    have h2 : limSub limit hdr.length < 0 ↔ limit = -1 := limSub_neg (by omega)
    -- the contents are all there and fit the limit: `print_V` takes them, then the common tail
    rw [hp (by omega) (by omega), afterTL_primitive, if_neg (by omega), if_neg (by omega), if_neg (by omega),
      Int.toNat_natCast, List.take_left, if_neg (Nat.lt_irrefl _), List.drop_left, afterBody, if_neg (by omega),
      if_neg (by omega), show off + hdr.length - hdr.length = off by omega]
    simp only [limSub_limSub hlim, limSub_eq_neg_one hlim, top_cond hctx, Nat.add_assoc, List.cons_append,
      List.nil_append, List.append_nil]
  | .cons c n lf ch => by
    -- the members of a definite-length container run under `limit` = their total size, which ends the child
    -- activation behind them
    intro hwf hdom fuel level eoc limit esize rest off hctx hle hlim hfuel
    have hp := pd_hdr _ hwf hdom fuel level eoc limit esize .finished (encodeList ch ++ rest) off
    have hwfc := Tlv.wf_children hwf
    have hdomc := Tlv.inDomain_children hdom
    simp only [Tlv.depth, Tlv.expected]
    rw [Tlv.encode_eq, List.length_append] at hlim hfuel
    rw [Tlv.encode_eq, List.length_append, List.append_assoc]
    rw [← Tlv.hdr_length] at hp ⊢
    simp only [Tlv.body, Tlv.tag, Tlv.len, Tlv.constr, Tlv.children] at hp hwfc hdomc hlim hfuel ⊢
    generalize (Tlv.cons c n lf ch).hdr = hdr at *
    have h1 : limSub limit hdr.length = -1 ∨ ((encodeList ch).length : Int) ≤ limSub limit hdr.length :=
      limSub_fits hlim
    rw [hp (by omega) (by omega), afterTL_definite _ _ _ _ _ _ _ _ _ _ _ hlim]
    by_cases hlev : level + 1 > maxLevel
    · rw [if_pos hlev]; exact ⟨fun h => by omega, fun _ => ⟨_, rfl⟩⟩
    rw [if_neg hlev]
    obtain ⟨hcok, hcdeep⟩ := list_run (level + 1) rest ch hwfc hdomc (by omega) (fuel - hdr.length) false
      (encodeList ch).length hdr.length (off + hdr.length) (by omega) (.inr (Int.le_refl _)) (by omega)
    refine ⟨fun hd => ?_, fun hd => ?_⟩
    · rw [hcok (by omega) .finished 0 rest _ [] fun f' hf' => by
        rw [limSub_self]; exact pd_limit_zero _ _ _ _ _ _ _ (by omega)]
      rw [afterBody, if_neg (by omega), if_neg (by omega), show off + hdr.length - hdr.length = off by omega]
      simp only [limSub_limSub hlim, limSub_eq_neg_one hlim, top_cond hctx, Nat.add_assoc, List.cons_append,
        List.nil_append, List.append_nil, Nat.add_zero]
    · obtain ⟨o2, ho2⟩ := hcdeep (by omega)
      rw [ho2]; exact ⟨_, rfl⟩
  | .indef c n ch => by
    -- the members of an indefinite-length container are followed by the end-of-contents octets, which end the child
    -- activation
    intro hwf hdom fuel level eoc limit esize rest off hctx hle hlim hfuel
    have hp := pd_hdr _ hwf hdom fuel level eoc limit esize .finished (encodeList ch ++ 0 :: 0 :: rest) off
    have hwfc := Tlv.wf_children hwf
    have hdomc := Tlv.inDomain_children hdom
    simp only [Tlv.depth, Tlv.expected]
    rw [Tlv.encode_eq, List.length_append] at hlim hfuel
    rw [Tlv.encode_eq, List.length_append, List.append_assoc]
    rw [← Tlv.hdr_length] at hp ⊢
    simp only [Tlv.body, Tlv.tag, Tlv.len, Tlv.constr, Tlv.children, List.length_append, List.length_cons,
      List.length_nil, List.append_assoc, List.cons_append, List.nil_append] at hp hwfc hdomc hlim hfuel ⊢
    generalize (Tlv.indef c n ch).hdr = hdr at *
    have h1 : limSub limit hdr.length = -1 ∨ (((encodeList ch).length + 2 : Nat) : Int) ≤ limSub limit hdr.length :=
      limSub_fits hlim
    rw [hp (by omega) (by omega), afterTL_indefinite _ _ _ _ _ _ _ _ _ _ (by omega)]
    by_cases hlev : level + 1 > maxLevel
    · rw [if_pos hlev]; exact ⟨fun h => by omega, fun _ => ⟨_, rfl⟩⟩
    rw [if_neg hlev]
    obtain ⟨hcok, hcdeep⟩ := list_run (level + 1) (0 :: 0 :: rest) ch hwfc hdomc (by omega) (fuel - hdr.length) true
      (limSub limit hdr.length) hdr.length (off + hdr.length) (by simp)
      (limSub_fits (b := (encodeList ch).length) (by push_cast at hlim ⊢; omega)) (by omega)
    refine ⟨fun hd => ?_, fun hd => ?_⟩
    · rw [hcok (by omega) .finished 2 rest _ _ fun f' hf' => by
        obtain ⟨g, rfl⟩ : ∃ g, f' = g + 2 := ⟨f' - 2, by omega⟩
        exact pd_eoc g _ _ _ _ rest _ (by have := limSub_fits h1; omega)]
      rw [afterBody, if_neg (by omega), if_pos rfl, show off + hdr.length - hdr.length = off by omega,
        show level + 1 - 1 = level by omega]
      simp only [limSub_limSub hlim, limSub_neg hlim, true_and, Nat.add_assoc, List.cons_append, List.nil_append]
    · obtain ⟨o2, ho2⟩ := hcdeep (by omega)
      rw [ho2]; exact ⟨_, rfl⟩
/-- The loop inside a container (so not at top level) in front of the members `ts` and whatever follows them.
    Within the nesting limit it prints what is expected for `ts` and goes on with `tail`; how that ends (`hk`: the
    limit is used up, or the end-of-contents octets follow) is the caller's, so that the fuel left over does not
    appear.  When a member reaches beyond `maxLevel`: the nesting diagnostic. -/
theorem list_run (level : Nat) (tail : Bytes) : ∀ (ts : List Tlv), wfList ts = true → inDomainList ts = true → level ≤ maxLevel →
    ∀ (fuel : Nat) (eoc : Bool) (limit : Int) (esize : Nat) (off : Nat),
    ¬ (limit = -1 ∧ eoc = false) → (limit = -1 ∨ ((encodeList ts).length : Int) ≤ limit) →
    (encodeList ts).length + 1 ≤ fuel →
    (level + depthList ts ≤ maxLevel → ∀ (q : Pdc) (k : Nat) (inp' : Bytes) (off' : Nat) (out : List Out),
      (∀ f', fuel ≤ f' + (encodeList ts).length →
        pd f' level eoc [] (limSub limit (encodeList ts).length) (esize + (encodeList ts).length) .finished tail
          (off + (encodeList ts).length) = .done q k inp' off' out) →
      pd fuel level eoc [] limit esize .finished (encodeList ts ++ tail) off
        = .done q ((encodeList ts).length + k) inp' off' (expectedList level off ts ++ out)) ∧
    (maxLevel < level + depthList ts →
      ∃ out, pd fuel level eoc [] limit esize .finished (encodeList ts ++ tail) off = .failed .tooDeep out)
  | [] => by
    intro _ _ hle fuel eoc limit esize off _ _ _
    refine ⟨fun _ q k inp' off' out hk => ?_, fun hd => absurd hd (by simp only [depthList]; omega)⟩
    have := hk fuel (Nat.le_add_right _ _)
    simpa [encodeList, expectedList, limSub_zero] using this
  | t :: ts => by
    intro hwf hdom hle fuel eoc limit esize off hnt hlim hf
    rw [wfList_cons] at hwf
    rw [inDomainList_cons] at hdom
    rw [depthList_cons]
    simp only [encodeList, List.length_append, expectedList] at hf hlim ⊢
    have hhl := headerLen_le_encode t
    push_cast at hlim
    rw [List.append_assoc]
    obtain ⟨hok, hdeep⟩ := nodeT t hwf.1 hdom.1 fuel level eoc limit esize
      (encodeList ts ++ tail) off (fun h => absurd h hnt) hle (by omega) (by omega)
    by_cases htd : maxLevel < level + t.depth
    · exact ⟨fun h => by omega, fun _ => hdeep htd⟩
    rw [hok (by omega), if_neg hnt]
    obtain ⟨ihok, ihdeep⟩ := list_run level tail ts hwf.2 hdom.2 hle
      (fuel - t.headerLen) eoc (limSub limit t.encode.length) (esize + t.encode.length)
      (off + t.encode.length) (fun h => hnt ⟨(limSub_eq_neg_one (by omega)).1 h.1, h.2⟩)
      (limSub_fits (by push_cast; omega)) (by omega)
    refine ⟨fun hd q k inp' off' out hk => ?_, fun hd => ?_⟩
    · rw [ihok (by omega) q k inp' off' out fun f' hf' => by
        have := hk f' (by omega)
        rwa [← limSub_limSub (by push_cast; omega), ← Nat.add_assoc, ← Nat.add_assoc] at this]
      simp only [R.addFrame, R.pre, List.append_assoc, Nat.add_assoc]
    · obtain ⟨out, ho⟩ := ihdeep (by omega)
      rw [ho]; exact ⟨_, rfl⟩
end

theorem encode_length_pos (t : Tlv) : 0 < t.encode.length := by
  have h := headerLen_le_encode t
  have : 0 < t.headerLen := by
    cases t with
    | prim c n lf content => have := identOctets_length_pos c false n; simp only [Tlv.headerLen]; omega
    | cons c n lf ch => have := identOctets_length_pos c true n; simp only [Tlv.headerLen]; omega
    | indef c n ch => simp only [Tlv.headerLen]; omega
  omega

theorem encodeList_length_ge (ts : List Tlv) : ts.length ≤ (encodeList ts).length := by
  induction ts with
  | nil => exact Nat.le_refl _
  | cons t ts ih =>
    have := encode_length_pos t
    rw [encodeList, List.length_append, List.length_cons]; omega

/-- the top-level loop of `unber_stream`: one `process_deeper` activation (level 0, no limit) per TLV of the forest,
    each returning after its TLV (`nodeT`, top-level case), until one of them nests too deeply; the fuel of `stream`
    counts these activations (`encodeList_length_ge`: the octets of the input are enough) -/
theorem stream_run : ∀ (ts : List Tlv), wfList ts = true → inDomainList ts = true →
    ∀ (fuel off : Nat), ts.length + 1 ≤ fuel →
    (depthList ts ≤ maxLevel → stream fuel (encodeList ts) off = (.ok, expectedList 0 off ts)) ∧
    (maxLevel < depthList ts → (stream fuel (encodeList ts) off).1 = .failed .tooDeep) := by
  intro ts
  induction ts with
  | nil =>
    intro _ _ fuel off hf
    obtain ⟨f, rfl⟩ : ∃ f, fuel = f + 1 := ⟨fuel - 1, by omega⟩
    exact ⟨fun _ => by simp [stream, encodeList, expectedList, pd], fun hd => absurd hd (by simp [depthList])⟩
  | cons t ts ih =>
    intro hwf hdom fuel off hf
    obtain ⟨f, rfl⟩ : ∃ f, fuel = f + 1 := ⟨fuel - 1, by omega⟩
    rw [List.length_cons] at hf
    rw [wfList_cons] at hwf
    rw [inDomainList_cons] at hdom
    rw [depthList_cons]
    simp only [stream, encodeList, expectedList, List.length_append]
    obtain ⟨hok, hdeep⟩ := nodeT t hwf.1 hdom.1 (t.encode.length + (encodeList ts).length + 1) 0 false (-1) 0
      (encodeList ts) off (by simp) (Nat.zero_le _) (by simp) (by omega)
    by_cases htd : maxLevel < 0 + t.depth
    · obtain ⟨out, ho⟩ := hdeep htd
      rw [ho]
      exact ⟨fun h => by omega, fun _ => rfl⟩
    · rw [hok (by omega)]
      simp only [and_self, if_true]
      obtain ⟨ihok, ihdeep⟩ := ih hwf.2 hdom.2 f (off + t.encode.length) (by omega)
      exact ⟨fun h => by rw [ihok (by omega)], fun h => ihdeep (by omega)⟩

/-- `unber -p` on the encoding of a well-formed forest (within the tools' limits, nesting included)
    succeeds and prints exactly the expected events -/
theorem unberOuts_forest (ts : List Tlv) (hwf : wfList ts = true) (hdom : inDomainList ts = true)
    (hdep : depthList ts ≤ maxLevel) :
    unberOuts (encodeList ts) = (.ok, expectedList 0 0 ts) :=
  (stream_run ts hwf hdom _ 0 (Nat.succ_le_succ (encodeList_length_ge ts))).1 hdep

end Asn1c.Proofs.Unber
