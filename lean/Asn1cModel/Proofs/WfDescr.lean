import Asn1cModel.Impl.WfDescr
/-
  What a descriptor that passes `WfDescr` (Impl/WfDescr.lean) gives to the codecs: the run lengths in the
  `optional` column keep the window search of the SEQUENCE decoder inside the member array (`wfOptional_bound`),
  `isSubseq` is `List.Sublist`, `isPermInverse` makes the canonical-order tables mutually inverse; `wfNode_iff`
  reads "no verdict" as the conjunction of the clauses.
-/
namespace Asn1c.Proofs.WfDescr
open Asn1c.Impl.WfDescr

theorem runLengths_length (bs : List Bool) : (runLengths bs).length = bs.length := by
  induction bs with
  | nil => rfl
  | cons b bs ih => simp [runLengths, ih]

/-- an entry is at most the number of members from its position on (0 stands for a position past the end, so
    that the head of the rest is the instance `i = 0`) -/
theorem runLengths_bound (bs : List Bool) (i : Nat) : (runLengths bs)[i]?.getD 0 ≤ bs.length - i := by
  induction bs generalizing i with
  | nil => simp [runLengths]
  | cons b bs ih =>
    cases i with
    | zero =>
      have := ih 0
      simp only [runLengths, List.headD_eq_head?_getD, List.head?_eq_getElem?, List.getElem?_cons_zero,
        Option.getD_some, List.length_cons]
      split <;> omega
    | succ j =>
      have := ih j
      simp only [runLengths, List.getElem?_cons_succ, List.length_cons]
      omega

theorem wfOptional_bound {ms : List Member} (h : wfOptional ms = true) (i : Nat) (hi : i < ms.length) :
    i + ms[i].optional ≤ ms.length := by
  have hrun := runLengths_bound (ms.map fun m => decide (0 < m.optional)) i
  rw [← eq_of_beq h, List.getElem?_map, List.getElem?_eq_getElem hi, List.length_map] at hrun
  simp only [Option.map_some, Option.getD_some] at hrun
  omega

theorem isSubseq_sublist (xs ys : List Tag) (h : isSubseq xs ys = true) : xs.Sublist ys := by
  fun_induction isSubseq xs ys with
  | case1 => exact List.nil_sublist _
  | case2 => cases h
  | case3 xs x ys ih => exact (ih h).cons_cons x
  | case4 x xs y ys _ ih => exact (ih h).cons y

theorem isPermInverse_roundtrip (n : Nat) (to frm : List Nat) (h : isPermInverse n to frm = true)
    (i : Nat) (hi : i < n) :
    (∃ j, to[i]? = some j ∧ frm[j]? = some i) ∧ (∃ j, frm[i]? = some j ∧ to[j]? = some i) := by
  unfold isPermInverse at h
  simp only [Bool.and_eq_true, List.all_eq_true, List.mem_range] at h
  -- the two halves of the test have the same shape
  have half : ∀ a b : List Nat, (match a[i]? with | some j => b[j]? == some i | none => false) = true →
      ∃ j, a[i]? = some j ∧ b[j]? = some i := by
    intro a b hab
    cases ha : a[i]? with
    | none => simp [ha] at hab
    | some j => simp [ha] at hab; exact ⟨j, rfl, hab⟩
  exact ⟨half to frm (h.1.2 i hi), half frm to (h.2 i hi)⟩

theorem ite_some_eq_none {α : Type} {c : Prop} [Decidable c] {a : α} {r : Option α} :
    (if c then some a else r) = none ↔ ¬c ∧ r = none := by
  split <;> simp [*]

theorem wfNode_iff (o : Bool) (n : Node) :
    WfNode o n ↔ wfTags n.tags n.allTags = true ∧ wfPer (n.kind == "octets") n.per = true ∧
      n.members.all wfMember = true ∧
      ((n.kind == "setof" || n.kind == "seqof") && n.members.length != 1) = false ∧ wfSpec o n = true := by
  simp only [WfNode, nodeVerdict, ite_some_eq_none, Bool.not_eq_true', Bool.not_eq_false, Bool.not_eq_true,
    and_true]

theorem wfSpec_sequence_optional {o : Bool} {n : Node} (hk : n.kind = "sequence") (h : wfSpec o n = true) :
    wfOptional n.members = true := by
  obtain ⟨nm, kind, tags, all, per, spec, ms⟩ := n
  subst hk
  -- on a literal kind and a constructor `wfSpec` computes
  cases spec with
  | seq fe ro ao oms t2e =>
    have h' : (wfOptional ms && wfOms o ms fe ro ao oms && sortedBy T2E.lt t2e && t2eSound ms t2e &&
      t2eComplete ms t2e && wfToff [] t2e) = true := h
    simp only [Bool.and_eq_true] at h'
    exact h'.1.1.1.1.1
  | _ => cases h

end Asn1c.Proofs.WfDescr
