import Asn1cModel.Proofs.BerStreamStep
/-
  The SET OF / CHOICE / SEQUENCE machines of Impl/BerStream.lean: the iteration of each written phase by phase in the
  shapes of BerStreamStep (`setOfIt_eq`, `choiceIt_eq`, `seqIt_eq`), one walk over it (`setOf_step`, `choice_step`,
  `seq_step`), and from that `consumed ≤ size` for any member decoders that report it and the restart laws
  (`LawfulRc`) for lawful ones.
-/
namespace Asn1c.Proofs.BerStream
open Asn1c Asn1c.Impl.BerTlv Asn1c.Impl.Restart Asn1c.Impl.BerStream Asn1c.Proofs.BerTlv

/-- started on a fresh structure, the decoder answers RC_OK only after consuming something -/
def ProgressFresh (d : Node → Bytes → Node × Rc × Nat) : Prop := ∀ q n' k, d .none q = (n', .ok, k) → 1 ≤ k

/-- the microphase test `ctx->step & 1` of SET OF and SEQUENCE, failed: the step is even -/
theorem even_of_not_odd {n : Nat} (h : ¬ (n % 2 == 1) = true) : n % 2 = 0 :=
  (Nat.mod_two_eq_zero_or_one n).resolve_right fun e => h (by rw [e]; rfl)

section SetOfIt
variable {tags : List Tag} {el : Elem} {edec : Node → Bytes → Node × Rc × Nat} {tm : Int}

theorem setOfMicro2_eq (q : Bytes) (s : SetOfSt) :
    setOfIt.micro2 edec q s =
      onMember edec s.ctx.left s.cur
        (fun r l => { s with elems := s.elems ++ [r], cur := .none, ctx := { s.ctx with left := l, step := 0 } })
        (fun r l => { s with cur := r, ctx := { s.ctx with left := l } }) (fun _ _ => { s with cur := .none })
        (fun _ => 0) q := rfl

theorem setOfIt_eq (s : SetOfSt) (q : Bytes) :
    setOfIt tags el edec tm s q =
      match s.ctx.phase with
      | 0 =>
        onCheck tags s.ctx.step tm 1 (fun st => { s with ctx := { s.ctx with step := st } })
          (fun ct => .cont { s with ctx := ⟨1, 0, ct.lastLen⟩ } ct.consumed) q
      | 1 =>
        if s.ctx.step % 2 == 1 then setOfIt.micro2 edec q s
        else if s.ctx.left == 0 then .ret { s with ctx := { s.ctx with phase := 10 } } .ok 0
        else
          onTag s s.ctx.left (fun tag _ =>
            onEoc s s.ctx.left (.cont { s with ctx := { s.ctx with phase := 2, step := 0 } } 0)
              (if el.tag != noTag && tag != el.tag then .ret s .fail 0
               else setOfIt.micro2 edec q { s with cur := .none, ctx := { s.ctx with step := s.ctx.step + 1 } }) q) q
      | 2 =>
        if s.ctx.left < 0 then
          if leftOf s.ctx.left q.length < 2 then
            if leftOf s.ctx.left q.length > 0 && q.headD 0 != 0 then .ret s .fail 0 else .ret s .more 0
          else if q.headD 1 == 0 && (q.drop 1).headD 1 == 0 then
            .cont { s with ctx := { s.ctx with left := s.ctx.left + 1 } } 2
          else .ret s .fail 0
        else .ret { s with ctx := { s.ctx with phase := 10 } } .ok 0
      | _ => .ret s .ok 0 := by
  unfold setOfIt
  rfl

end SetOfIt

section SetOf
variable (tags : List Tag) (el : Elem) (edec : Node → Bytes → Node × Rc × Nat) (tm : Int)

/-- the rank of a state of the SET OF machine: `setOfMeasure` is `4 * size + rank + 1` -/
def setOfRank (s : SetOfSt) : Nat := match s.ctx.phase with | 0 => 3 | 1 => 1 + s.ctx.step % 2 | _ => 0

/-- microphase 2 entered from the iteration that started in `s0` -/
theorem setOfMember_step {H : Prop} (hb : DecBound edec) (hd : H → LawfulRc ⟨edec⟩) (s0 s : SetOfSt) (p ext : Bytes)
    (hph : s.ctx.phase = 1) (hodd : s.ctx.step % 2 = 1)
    (hμ : H → ∀ n1 k, callMember edec s.ctx.left s.cur p = (n1, .ok, k) → 1 < setOfRank s0 ∨ 1 ≤ k) :
    Step H (setOfIt tags el edec tm) 4 setOfRank s0 p ext (setOfIt.micro2 edec p s) (setOfIt.micro2 edec (p ++ ext) s) := by
  rw [setOfMicro2_eq, setOfMicro2_eq]
  refine Step.member hb hd (fun _ => Nat.zero_le _) (fun h n1 k hc => ?_) fun _ n1 k h =>
    ⟨fun _ _ => { s with cur := .none, ctx := { s.ctx with left := advLeft s.ctx.left k } }, fun q => ?_⟩
  · -- RC_OK: back to the even step of phase 1, rank 1
    simp only [setOfRank, hph]
    exact (hμ h n1 k hc).imp id fun hk => ⟨hk, Nat.lt_add_left _ (by decide)⟩
  · rw [setOfIt_eq]
    simp only [hph, hodd]
    rfl

theorem setOf_step (hb : DecBound edec) (s : SetOfSt) (p ext : Bytes) :
    Step (LawfulRc ⟨edec⟩ ∧ ProgressFresh edec) (setOfIt tags el edec tm) 4 setOfRank s p ext (setOfIt tags el edec tm s p)
      (setOfIt tags el edec tm s (p ++ ext)) := by
  rw [setOfIt_eq, setOfIt_eq]
  split
  next h0 =>
    refine Step.check ?_ fun ct hle => Step.cont hle fun _ => Or.inl ?_
    · rfl
    · simp only [setOfRank, h0]; decide
  next h1 =>
    refine ite_rel (fun hodd => ?_) fun heven => ite_rel (fun _ => Step.fin nofun) fun _ => ?_
    · have hodd : s.ctx.step % 2 = 1 := by simpa using hodd
      exact setOfMember_step tags el edec tm hb (·.1) s s p ext h1 hodd fun _ _ _ _ => Or.inl (by
        simp only [setOfRank, h1, hodd]; decide)
    have heven := even_of_not_odd heven
    refine Step.tag fun tag tl _ _ => Step.eoc
      (fun _ => Step.cont (Nat.zero_le _) fun _ => Or.inl (by simp only [setOfRank, h1, heven]; decide))
      (ite_rel (fun _ => Step.fin nofun) fun _ => ?_)
    -- a new element: after its RC_OK the machine is at this even step again with the same rank, so the element has to
    -- consume, which it does since it starts on a fresh structure
    refine setOfMember_step tags el edec tm hb (·.1) s _ p ext h1 (by simp only; rw [Nat.add_mod, heven]) fun hH n1 k h => Or.inr ?_
    have hok : (callMember edec s.ctx.left .none p).2.1 = .ok := by rw [h]
    exact hH.2 _ n1 k (by rw [← callMember_ok_inner hok, h])
  next h2 =>
    -- the end-of-contents octets of the indefinite form
    refine ite_rel (fun hneg => ?_) fun _ => Step.fin nofun
    rw [leftOf_neg _ _ hneg, leftOf_neg _ _ hneg]
    match p with
    | [] => exact Step.ret nofun
    | [b] =>
      by_cases hz : b = 0
      · subst hz; exact Step.ret nofun
      · -- one octet, not 00: RC_FAIL now and whatever follows
        cases ext with
        | nil => simp [hz]; exact Step.fin nofun
        | cons e t => simp [hz]; exact Step.fin nofun
    | b0 :: b1 :: t =>
      show Step _ _ _ _ _ _ _ (if (b0 == 0 && b1 == 0) = true then _ else _) (if (b0 == 0 && b1 == 0) = true then _ else _)
      exact ite_rel (fun _ => Step.cont (by simp) fun _ => Or.inr ⟨by decide, by simp only [setOfRank, h2]; decide⟩)
        fun _ => Step.fin nofun
  next => exact Step.fin nofun

theorem setOf_itLaws (hd : LawfulRc ⟨edec⟩)
    (hp : ProgressFresh edec) : ItLaws (setOfIt tags el edec tm) fun s bs => 4 * bs.length + setOfRank s :=
  itLaws_of_step _ _ _ _ (fun _ _ => rfl) ⟨hd, hp⟩ (setOf_step tags el edec tm hd.consumed_le)

theorem setOfDec_le (hm : DecBound edec) (n : Node) (bs : Bytes) : (setOfDec tags el edec tm n bs).2.2 ≤ bs.length := by
  unfold setOfDec
  exact iterate_le _ (itBound_of_step _ _ _ _ (setOf_step tags el edec tm hm)) _ _ _

/-- SET OF / SEQUENCE OF over a lawful element decoder is a lawful restartable decoder -/
theorem setOfDec_lawfulRc (hd : LawfulRc ⟨edec⟩)
    (hp : ProgressFresh edec) : LawfulRc (⟨setOfDec tags el edec tm⟩ : Dec Node) :=
  lawfulRc_of_itLaws _ _ (setOf_itLaws tags el edec tm hd hp) SetOfSt.ofNode SetOfSt.toNode fun _ => rfl

end SetOf

section ChoiceIt
variable {tags : List Tag} {es : List Elem} {xs : Int} {t2e : List T2M} {mdec : MDec} {tm : Int}

theorem choiceIt_eq (s : ChoiceSt) (q : Bytes) :
    choiceIt tags es xs t2e mdec tm s q =
      match s.ctx.phase with
      | 0 =>
        if tm != 0 || tags.length != 0 then
          onCheck tags s.ctx.step tm (-1) (fun st => { s with ctx := { s.ctx with step := st } })
            (fun ct => .cont { s with ctx := ⟨1, 0, ct.lastLen⟩ } ct.consumed) q
        else .cont { s with ctx := ⟨1, 0, -1⟩ } 0
      | 1 =>
        onTag s s.ctx.left (fun tag tl =>
          match bsearchIdx (fun (e : T2M) => cmpTag tag e.tag) t2e (t2e.length + 1) 0 t2e.length with
          | some i => .cont { s with ctx := { s.ctx with phase := 2, step := (t2e.getD i default).elNo } } 0
          | none =>
            if xs == -1 then .ret s .fail 0
            else onSkip s s.ctx.left tl (fun skip =>
              .ret { s with ctx := { s.ctx with left := advLeft s.ctx.left (skip + tl) } } .ok (skip + tl)) q) q
      | 2 =>
        onMember (mdec s.ctx.step) s.ctx.left s.m
          (fun r l => { s with present := s.ctx.step + 1, m := r, ctx := { s.ctx with left := l, phase := 3, step := 0 } })
          (fun r l => { s with present := s.ctx.step + 1, m := r, ctx := { s.ctx with left := l } })
          (fun r l => { s with present := s.ctx.step + 1, m := r, ctx := { s.ctx with left := l } }) (fun k => k) q
      | 3 =>
        if s.ctx.left > 0 then .ret s .fail 0
        else if s.ctx.left == -1 && !(tm != 0 || tags.length != 0) then
          .ret { s with ctx := { s.ctx with phase := 4, step := 0 } } .ok 0
        else if s.ctx.left < 0 then
          onTag s s.ctx.left (fun _ _ =>
            onEoc s s.ctx.left (.cont { s with ctx := { s.ctx with left := s.ctx.left + 1 } } 2) (.ret s .fail 0) q) q
        else .ret { s with ctx := { s.ctx with phase := 4, step := 0 } } .ok 0
      | _ => .ret s .ok 0 := by
  obtain ⟨⟨ph, st, lf⟩, pres, m⟩ := s
  match ph with
  | 0 | 1 | 3 | _ + 4 => rfl
  | 2 => simp only [choiceIt, onMember]; cases (callMember (mdec st) lf m q).2.1 <;> rfl

end ChoiceIt

section Choice
variable (tags : List Tag) (es : List Elem) (xs : Int) (t2e : List T2M) (mdec : MDec) (tm : Int)

/-- the rank of a state of the CHOICE machine: `choiceMeasure` is `2 * size + rank + 1` -/
def choiceRank (s : ChoiceSt) : Nat := 4 - min s.ctx.phase 4

theorem choice_step (hb : MDecBound mdec) (s : ChoiceSt) (p ext : Bytes) :
    Step (∀ i, LawfulRc ⟨mdec i⟩) (choiceIt tags es xs t2e mdec tm) 2 choiceRank s p ext (choiceIt tags es xs t2e mdec tm s p)
      (choiceIt tags es xs t2e mdec tm s (p ++ ext)) := by
  have hl := leftOf_le s.ctx.left p.length
  rw [choiceIt_eq, choiceIt_eq]
  split
  next h0 =>
    refine ite_rel (fun _ => Step.check ?_ fun ct hle => Step.cont hle fun _ => Or.inl ?_)
      fun _ => Step.cont (Nat.zero_le _) fun _ => Or.inl ?_
    · rfl
    all_goals simp only [choiceRank, h0]; decide
  next h1 =>
    refine Step.tag fun tag tl _ htl => ?_
    cases bsearchIdx (fun (e : T2M) => cmpTag tag e.tag) t2e (t2e.length + 1) 0 t2e.length with
    | some i => exact Step.cont (Nat.zero_le _) fun _ => Or.inl (by simp only [choiceRank, h1]; decide)
    | none =>
      exact ite_rel (fun _ => Step.fin nofun) fun _ => Step.skip fun n hn => Step.done nofun (by omega)
  next h2 =>
    refine Step.member (hb _) (· _) (fun k => Nat.le_refl k) (fun _ n1 k _ => Or.inl ?_) fun _ n1 k _ =>
      ⟨fun r l => { s with present := s.ctx.step + 1, m := r, ctx := { s.ctx with left := l } }, fun q => ?_⟩
    · simp only [choiceRank, h2]; decide
    · rw [choiceIt_eq]
      simp only [h2]
  next h3 =>
    refine ite_rel (fun _ => Step.fin nofun) fun _ => ite_rel (fun _ => Step.fin nofun) fun _ =>
      ite_rel (fun _ => ?_) fun _ => Step.fin nofun
    refine Step.tag fun _ _ _ _ => Step.eoc (fun hy => Step.cont hy fun _ => Or.inr ⟨by decide, ?_⟩) (Step.fin nofun)
    simp only [choiceRank, h3]; decide
  next => exact Step.fin nofun

theorem choice_itLaws (hm : ∀ i, LawfulRc ⟨mdec i⟩) :
    ItLaws (choiceIt tags es xs t2e mdec tm) fun s bs => 2 * bs.length + choiceRank s :=
  itLaws_of_step _ _ _ _ (fun _ _ => rfl) hm (choice_step tags es xs t2e mdec tm fun i => (hm i).consumed_le)

theorem choiceDec_le (hm : MDecBound mdec) (n : Node) (bs : Bytes) :
    (choiceDec tags es xs t2e mdec tm n bs).2.2 ≤ bs.length := by
  unfold choiceDec
  exact iterate_le _ (itBound_of_step _ _ _ _ (choice_step tags es xs t2e mdec tm hm)) _ _ _

/-- CHOICE over lawful alternative decoders is a lawful restartable decoder -/
theorem choiceDec_lawfulRc (hm : ∀ i, LawfulRc ⟨mdec i⟩) :
    LawfulRc (⟨choiceDec tags es xs t2e mdec tm⟩ : Dec Node) :=
  lawfulRc_of_itLaws _ _ (choice_itLaws tags es xs t2e mdec tm hm) ChoiceSt.ofNode ChoiceSt.toNode fun _ => rfl

end Choice

theorem seqLinear_spec (es : List Elem) (tag : Tag) (f n m : Nat) (h : seqLinear es tag f n = some (.inl m)) :
    n ≤ m ∧ m < es.length := by
  fun_induction seqLinear es tag f n with
  | case1 | case2 | case5 => cases h
  | case3 f n e he | case4 f n e he => cases h; exact ⟨Nat.le_refl _, (List.getElem?_eq_some_iff.mp he).1⟩
  | case6 f n e _ _ _ _ ih => have := ih h; omega

theorem t2eBest_spec (t2e : List T2M) (count edx edxMax : Nat) (ht : ∀ e ∈ t2e, e.elNo < count) (f : Nat) (i last : Int)
    (best : Option Nat) (hb : ∀ b, best = some b → edx ≤ b ∧ b < count) (r : Nat)
    (h : t2eBest t2e edx edxMax f i last best = some r) : edx ≤ r ∧ r < count := by
  fun_induction t2eBest t2e edx edxMax f i last best with
  | case1 | case2 | case3 | case4 => exact hb r h
  | case5 f i last best _ e _ _ _ ih => exact ih hb h
  | case6 f i last best _ e he _ hge ih =>
    -- a candidate `e.elNo ≥ edx` taken from the table becomes the best so far
    refine ih (fun b hbb => ?_) h
    cases hbb
    have hmem : e ∈ t2e := by
      split at he
      · cases he
      · exact List.mem_of_getElem? he
    exact ⟨by omega, ht e hmem⟩

/-- where `inDomain` is used: with `tag2el` pointing into the member table, the member found lies in the table (the
    machine resumes at its call) and not before `edx` (the rank falls) -/
theorem seqFind_spec (es : List Elem) (t2e : List T2M) (ht : ∀ e ∈ t2e, e.elNo < es.length) (tag : Tag) (edx n : Nat)
    (h : seqFind es t2e tag edx = some n) : edx ≤ n ∧ n < es.length := by
  unfold seqFind at h
  simp only at h
  split at h
  · rename_i m hm
    injection h with h; subst h
    exact seqLinear_spec _ _ _ _ _ hm
  · split at h
    · unfold seqBsearch at h
      simp only at h
      split at h
      · cases h
      · split at h
        · cases h
        · exact t2eBest_spec t2e es.length edx _ ht _ _ _ none (by intro b hb; cases hb) n h
    · cases h

/-- the C local `edx` -/
def seqEdx (s : SeqSt) : Nat := s.edxOv.getD (s.ctx.step / 2)

section SeqIt
variable {tags : List Tag} {es : List Elem} {fe : Int} {t2e : List T2M} {mdec : MDec} {tm : Int}

theorem seqMicro2_eq (q : Bytes) (s : SeqSt) (edx : Nat) :
    seqIt.micro2 mdec q s edx =
      onMember (mdec edx) s.ctx.left (s.ms.getD edx .none)
        (fun r l => { s with ms := putAt s.ms edx r, ctx := { s.ctx with left := l, step := s.ctx.step / 2 * 2 + 2 },
                             edxOv := syncEdx (s.ctx.step / 2 * 2 + 2) (edx + 1) })
        (fun r l => { s with ms := putAt s.ms edx r, ctx := { s.ctx with left := l } })
        (fun r l => { s with ms := putAt s.ms edx r, ctx := { s.ctx with left := l } }) (fun k => k) q := by
  simp only [seqIt.micro2, onMember]
  cases (callMember (mdec edx) s.ctx.left (s.ms.getD edx .none) q).2.1 <;> rfl

theorem seqSearch_eq (q : Bytes) (s : SeqSt) (edx : Nat) (e : Elem) (tag : Tag) (tl : Nat) :
    seqIt.search es fe t2e mdec q s edx e tag tl =
      match seqFind es t2e tag edx with
      | some n => seqIt.micro2 mdec q { s with ctx := { s.ctx with step := 1 + 2 * n }, edxOv := none } n
      | none =>
        if !inExt fe (edx + e.optional) then .ret s .fail 0
        else onSkip s s.ctx.left tl (fun skip =>
          .cont { s with ctx := { s.ctx with left := advLeft s.ctx.left (skip + tl) },
                         edxOv := syncEdx s.ctx.step (edx + e.optional) } (skip + tl)) q := rfl

theorem seqIt_eq (s : SeqSt) (q : Bytes) :
    seqIt tags es fe t2e mdec tm s q =
      match s.ctx.phase with
      | 0 =>
        onCheck tags s.ctx.step tm 1 (fun st => { s with ctx := { s.ctx with step := st } })
          (fun ct => .cont { s with ctx := ⟨1, 0, ct.lastLen⟩, edxOv := none } ct.consumed) q
      | 1 =>
        if (seqEdx s) ≥ es.length then .cont { s with ctx := { s.ctx with phase := 3 }, edxOv := none } 0
        else if s.ctx.step % 2 == 1 then seqIt.micro2 mdec q s (seqEdx s)
        else if s.ctx.left == 0 && ((seqEdx s) + (es.getD (seqEdx s) default).optional == es.length || inExt fe (seqEdx s)) then
          .ret { s with ctx := { s.ctx with phase := 10 } } .ok 0
        else
          onTag s s.ctx.left (fun tag tl =>
            onEoc s s.ctx.left
              (if (seqEdx s) + (es.getD (seqEdx s) default).optional == es.length || inExt fe (seqEdx s) then
                .cont { s with ctx := { s.ctx with phase := 3 }, edxOv := none } 0
               else seqIt.search es fe t2e mdec q s (seqEdx s) (es.getD (seqEdx s) default) tag tl)
              (seqIt.search es fe t2e mdec q s (seqEdx s) (es.getD (seqEdx s) default) tag tl) q) q
      | 3 | 4 =>
        if s.ctx.left == 0 then .ret { s with ctx := { s.ctx with phase := 10 } } .ok 0
        else
          onTag s s.ctx.left (fun _ tl =>
            onEoc s s.ctx.left (.cont { s with ctx := { s.ctx with left := s.ctx.left + 1, phase := 4 } } 2)
              (if !inExt fe es.length || s.ctx.phase == 4 then .ret s .fail 0
               else onSkip s s.ctx.left tl (fun ll =>
                 .cont { s with ctx := { s.ctx with left := advLeft s.ctx.left (tl + ll) } } (tl + ll)) q) q) q
      | _ => .ret s .ok 0 := by
  unfold seqIt
  rfl

/-- in phase 1 at an odd step the machine is at the member call (where it resumes after the member's RC_WMORE) -/
theorem seqIt_odd {s : SeqSt} {q : Bytes} (hph : s.ctx.phase = 1) (hodd : s.ctx.step % 2 = 1)
    (hlt : seqEdx s < es.length) : seqIt tags es fe t2e mdec tm s q = seqIt.micro2 mdec q s (seqEdx s) := by
  rw [seqIt_eq, hph]
  exact (if_neg (by omega)).trans (if_pos (by simp [hodd]))

end SeqIt

section Seq
variable (tags : List Tag) (es : List Elem) (fe : Int) (t2e : List T2M) (mdec : MDec) (tm : Int)

/-- the part of the measure that falls when an iteration goes on without consuming: by phase, and within phase 1 by
    member and microphase -/
def seqRank (count : Nat) (s : SeqSt) : Nat :=
  match s.ctx.phase with
  | 0 => 2 * count + 5
  | 1 => 2 * count + 4 - min (2 * (s.edxOv.getD (s.ctx.step / 2)) + s.ctx.step % 2) (2 * count + 3)
  | _ => 0

theorem seqRank_le (count : Nat) (s : SeqSt) : seqRank count s ≤ 2 * count + 5 := by
  unfold seqRank; split <;> omega

theorem seqRank_p1 (count : Nat) (s : SeqSt) (hph : s.ctx.phase = 1) :
    seqRank count s = 2 * count + 4 - min (2 * seqEdx s + s.ctx.step % 2) (2 * count + 3) := by
  unfold seqRank; rw [hph]; rfl

/-- an iteration of SEQUENCE that consumes goes on, whatever the rank of the new state (`seqMeasure` is
    `(2 * count + 6) * size + rank + 1`) -/
theorem seqRank_adv {count n : Nat} {s s' : SeqSt} (h : 1 ≤ n) :
    seqRank count s' < seqRank count s ∨ 1 ≤ n ∧ seqRank count s' < seqRank count s + (2 * count + 6) :=
  Or.inr ⟨h, by have := seqRank_le count s'; omega⟩

theorem syncEdx_getD (step edx : Nat) : (syncEdx step edx).getD (step / 2) = edx := by
  unfold syncEdx
  split
  · rename_i h; simp only [Option.getD_none]; exact (beq_iff_eq.mp h)
  · rfl

theorem putAt_getD (ms : List Node) (i : Nat) (v : Node) : (putAt ms i v).getD i .none = v := by
  fun_induction putAt ms i v with
  | case1 | case3 => rfl
  | case2 _ _ ih | case4 _ _ _ _ ih => simp only [List.getD_cons_succ]; exact ih

theorem putAt_putAt (ms : List Node) (i : Nat) (a b : Node) : putAt (putAt ms i a) i b = putAt ms i b := by
  fun_induction putAt ms i a with
  | case1 | case3 => rfl
  | case2 _ _ ih | case4 _ _ _ _ ih => simp only [putAt]; rw [ih]

/-- what the SEQUENCE machine asks of its member decoders and of `tag2el`: the restart laws, and entries that point
    into the member table -/
def SeqH : Prop := (∀ i, LawfulRc ⟨mdec i⟩) ∧ ∀ e ∈ t2e, e.elNo < es.length

/-- microphase 2 on member `edx` entered from the iteration that started in `s0`: RC_OK moves on to member
    `edx + 1`, which lowers the rank -/
theorem seqMember_step {H : Prop} (hb : MDecBound mdec) (hm : H → ∀ i, LawfulRc ⟨mdec i⟩) (s0 s : SeqSt) (edx : Nat)
    (p ext : Bytes) (hph : s.ctx.phase = 1) (hodd : s.ctx.step % 2 = 1) (hedx : seqEdx s = edx)
    (hlt : H → edx < es.length)
    (hμ : H → 2 * es.length + 4 - min (2 * (edx + 1)) (2 * es.length + 3) < seqRank es.length s0) :
    Step H (seqIt tags es fe t2e mdec tm) (2 * es.length + 6) (seqRank es.length) s0 p ext (seqIt.micro2 mdec p s edx)
      (seqIt.micro2 mdec (p ++ ext) s edx) := by
  rw [seqMicro2_eq, seqMicro2_eq]
  refine Step.member (hb edx) (fun h => hm h edx) (fun k => Nat.le_refl k)
    (fun h n1 k _ => Or.inl ?_) fun h n1 k _ =>
    ⟨fun r l => { s with ms := putAt s.ms edx r, ctx := { s.ctx with left := l } }, fun q => ?_⟩
  · refine Nat.lt_of_le_of_lt (Nat.le_of_eq ?_) (hμ h)
    -- the step after RC_OK, `step / 2 * 2 + 2`, is even
    simp only [seqRank, hph, syncEdx_getD, Nat.add_mod_right, Nat.mul_mod_left, Nat.add_zero]
  · -- `by exact`: the state is `s` updated, found in the goal; its phase, step and `edxOv` are those of `s` by unfolding
    rw [seqIt_odd (by exact hph) (by exact hodd) (by exact hedx ▸ hlt h), seqMicro2_eq,
      show seqEdx _ = edx by exact hedx]
    simp only [putAt_getD, putAt_putAt]

/-- "find the next available type with this tag", at an even step -/
theorem seqSearch_step (hb : MDecBound mdec) (s : SeqSt) (p ext : Bytes)
    (hph : s.ctx.phase = 1) (heven : s.ctx.step % 2 = 0) (e : Elem) (tag : Tag) (tl : Nat)
    (htl : 1 ≤ tl) (htl2 : tl ≤ leftOf s.ctx.left p.length) :
    Step (SeqH es t2e mdec) (seqIt tags es fe t2e mdec tm) (2 * es.length + 6) (seqRank es.length) s p ext
      (seqIt.search es fe t2e mdec p s (seqEdx s) e tag tl)
      (seqIt.search es fe t2e mdec (p ++ ext) s (seqEdx s) e tag tl) := by
  have hl := leftOf_le s.ctx.left p.length
  rw [seqSearch_eq, seqSearch_eq]
  cases hf : seqFind es t2e tag (seqEdx s) with
  | some n =>
    refine seqMember_step tags es fe t2e mdec tm hb (·.1) s _ n p ext hph (Nat.add_mul_mod_self_left 1 2 n) ?_
      (fun hH => (seqFind_spec es t2e hH.2 tag _ n hf).2) fun hH => ?_
    · exact (Nat.add_mul_div_left 1 n (by decide)).trans (Nat.zero_add n)
    · have := seqFind_spec es t2e hH.2 tag _ n hf
      rw [seqRank_p1 _ _ hph, heven]; omega
  | none =>
    exact ite_rel (fun _ => Step.fin nofun) fun _ => Step.skip fun n hn =>
      Step.cont (by omega) fun _ => seqRank_adv (by omega)

theorem seq_step (hb : MDecBound mdec) (s : SeqSt) (p ext : Bytes) :
    Step (SeqH es t2e mdec) (seqIt tags es fe t2e mdec tm) (2 * es.length + 6) (seqRank es.length) s p ext (seqIt tags es fe t2e mdec tm s p)
      (seqIt tags es fe t2e mdec tm s (p ++ ext)) := by
  have hl := leftOf_le s.ctx.left p.length
  rw [seqIt_eq, seqIt_eq]
  split
  next h0 =>
    refine Step.check ?_ fun ct hle => Step.cont hle fun _ => Or.inl ?_
    · rfl
    · simp only [seqRank, h0, Option.getD_none]; omega
  next h1 =>
    have hr := seqRank_p1 es.length s h1
    have hp3 : Step (SeqH es t2e mdec) (seqIt tags es fe t2e mdec tm) (2 * es.length + 6) (seqRank es.length) s p ext
        (.cont { s with ctx := { s.ctx with phase := 3 }, edxOv := none } 0)
        (.cont { s with ctx := { s.ctx with phase := 3 }, edxOv := none } 0) :=
      Step.cont (Nat.zero_le _) fun _ => Or.inl (by rw [hr]; simp only [seqRank]; omega)
    refine ite_rel (fun _ => hp3) fun hlt => ite_rel (fun hodd => ?_) fun heven =>
      ite_rel (fun _ => Step.fin nofun) fun _ => Step.tag fun tag tl htl htl2 => ?_
    · have hodd : s.ctx.step % 2 = 1 := by simpa using hodd
      exact seqMember_step tags es fe t2e mdec tm hb (·.1) s s _ p ext h1 hodd rfl (fun _ => by omega)
        fun _ => by rw [hr, hodd]; omega
    · have heven := even_of_not_odd heven
      have hs := seqSearch_step tags es fe t2e mdec tm hb s p ext h1 heven (es.getD (seqEdx s) default) tag tl htl htl2
      exact Step.eoc (fun _ => ite_rel (fun _ => hp3) fun _ => hs) hs
  case h_5 => exact Step.fin nofun
  -- phases 3 and 4: the extensions after the last known member, then the end-of-contents octets
  all_goals
    refine ite_rel (fun _ => Step.fin nofun) fun _ => Step.tag fun _ tl htl htl2 => ?_
    exact Step.eoc (fun hy => Step.cont hy fun _ => seqRank_adv (by omega))
      (ite_rel (fun _ => Step.fin nofun) fun _ => Step.skip fun n hn =>
        Step.cont (by omega) fun _ => seqRank_adv (by omega))

theorem seq_itLaws (hm : ∀ i, LawfulRc ⟨mdec i⟩)
    (ht : ∀ e ∈ t2e, e.elNo < es.length) :
    ItLaws (seqIt tags es fe t2e mdec tm) fun s bs => (2 * es.length + 6) * bs.length + seqRank es.length s :=
  itLaws_of_step _ _ _ _ (fun _ _ => rfl) ⟨hm, ht⟩ (seq_step tags es fe t2e mdec tm fun i => (hm i).consumed_le)

theorem seqDec_le (hm : MDecBound mdec) (n : Node) (bs : Bytes) :
    (seqDec tags es fe t2e mdec tm n bs).2.2 ≤ bs.length := by
  unfold seqDec
  exact iterate_le _ (itBound_of_step _ _ _ _ (seq_step tags es fe t2e mdec tm hm)) _ _ _

/-- SEQUENCE with a `tag2el` table pointing into the member table and lawful member
    decoders is a lawful restartable decoder -/
theorem seqDec_lawfulRc (hm : ∀ i, LawfulRc ⟨mdec i⟩)
    (ht : ∀ e ∈ t2e, e.elNo < es.length) : LawfulRc (⟨seqDec tags es fe t2e mdec tm⟩ : Dec Node) :=
  lawfulRc_of_itLaws _ _ (seq_itLaws tags es fe t2e mdec tm hm ht) (SeqSt.ofNode es.length) SeqSt.toNode fun _ => rfl

end Seq

end Asn1c.Proofs.BerStream
