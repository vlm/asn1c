import Asn1cModel.Impl.Unber
import Asn1cModel.Impl.Enber
import Asn1cModel.Spec.TlvForest
import Asn1cModel.Proofs.UnberTlv
import Asn1cModel.Proofs.Decimal
/-
  `enber` applied to the text that `unber -p` prints for a well-formed forest whose definite
  lengths are minimal gives back the encoding: character-level lemmas about `process_line` on the
  three kinds of line `unber` prints (the opening and the closing line of a constructed TLV, the line
  of a primitive one).
-/
namespace Asn1c.Proofs.Enber
open Asn1c Asn1c.Impl.UnberTlv Asn1c.Impl.Unber Asn1c.Impl.Enber Asn1c.Spec.TlvForest Asn1c.Proofs.UnberTlv

/-- a scanner that steps over every character with `P` steps over a run of them -/
theorem scan_run {α : Type} {P : Nat → Prop} {f : Bytes → α} (step : ∀ c s, P c → f (c :: s) = f s) :
    ∀ (l s : Bytes), (∀ c ∈ l, P c) → f (l ++ s) = f s
  | [], _, _ => rfl
  | c :: l, s, h => (step c _ (h c (List.mem_cons_self ..))).trans
      (scan_run step l s fun x hx => h x (List.mem_cons_of_mem _ hx))

/-- the same for a scanner that collects what it steps over (in reverse) -/
theorem scan_run_acc {α : Type} {P : Nat → Prop} {f : Bytes → Bytes → α}
    (step : ∀ c s acc, P c → f (c :: s) acc = f s (c :: acc)) :
    ∀ (l s acc : Bytes), (∀ c ∈ l, P c) → f (l ++ s) acc = f s (l.reverse ++ acc)
  | [], _, _, _ => rfl
  | c :: l, s, acc, h => by
    rw [List.cons_append, step c _ _ (h c (List.mem_cons_self ..)),
      scan_run_acc step l s _ fun x hx => h x (List.mem_cons_of_mem _ hx)]
    simp

/-- `%ld` of a non-negative number writes its decimal numeral (the fuel `n` is enough) -/
theorem decDigits_eq (n : Nat) : decDigits n = Spec.Oid.decimal n :=
  Oid.decimal_of_fuel decDigitsF rfl (fun _ _ => rfl) n n (Nat.le_refl n)

theorem decDigits_digits (n : Nat) : ∀ c ∈ decDigits n, 48 ≤ c ∧ c ≤ 57 :=
  decDigits_eq n ▸ (Oid.decimal_digits n).1

theorem decDigits_cons (n : Nat) : ∃ d ds, decDigits n = d :: ds ∧ 48 ≤ d ∧ d ≤ 57 :=
  decDigits_eq n ▸ Oid.decimal_head n

theorem isDigit_of_range {c : Nat} (h1 : 48 ≤ c) (h2 : c ≤ 57) : isDigit c = true := by
  simp [isDigit, h1, h2]

open Asn1c.Spec (digitsVal allDigits) in
theorem strtoulDigits_run (ds rest : Bytes) (acc : Nat) (hd : allDigits ds) (h : digitsVal acc ds < 2 ^ 64) :
    strtoulDigits (ds ++ rest) acc false = strtoulDigits rest (digitsVal acc ds) false := by
  induction ds generalizing acc with
  | nil => rfl
  | cons d ds ih =>
    have hr := hd d (List.mem_cons_self ..)
    have := Strtox.digitsVal_ge (acc * 10 + (d - 48)) ds
    rw [Strtox.digitsVal_cons] at h ⊢
    rw [List.cons_append, strtoulDigits, if_pos (isDigit_of_range hr.1 hr.2)]
    exact (if_neg (by omega)).trans (ih _ (fun c hc => hd c (List.mem_cons_of_mem _ hc)) h)

theorem strtoulDigits_decDigits (n : Nat) (rest : Bytes) (hn : n < 2 ^ 64) :
    strtoulDigits (decDigits n ++ rest) 0 false = strtoulDigits rest n false := by
  obtain ⟨hd, hv⟩ := Oid.decimal_digits n
  rw [decDigits_eq, strtoulDigits_run _ _ _ hd (by rw [hv]; exact hn), hv]

theorem strtoul_digit_head (d : Nat) (l : Bytes) (h1 : 48 ≤ d) (h2 : d ≤ 57) :
    strtoul (d :: l) = (if (strtoulDigits (d :: l) 0 false).2 = true then (2 ^ 64 - 1, true)
      else ((strtoulDigits (d :: l) 0 false).1, false)) := by
  unfold strtoul
  have hsp : isSpace d = false := by
    simp only [isSpace]
    have : (d == 32) = false := by simp; omega
    have : decide (d ≤ 13) = false := by simp; omega
    simp [*]
  have hs : skipSpace (d :: l) = d :: l := by
    simp only [skipSpace, hsp]; simp
  have h45 : (some d == some 45) = false := by simp; omega
  have h43 : (some d == some 43) = false := by simp; omega
  simp only [hs, List.head?_cons, h45, h43, Bool.or_self, Bool.false_eq_true, if_false]

theorem strtoul_decDigits (n : Nat) (c : Nat) (rest : Bytes) (hn : n < 2 ^ 64) (hc : isDigit c = false) :
    strtoul (decDigits n ++ c :: rest) = (n, false) := by
  have hsd := strtoulDigits_decDigits n (c :: rest) hn
  obtain ⟨d, ds, hdd, hdr⟩ := decDigits_cons n
  rw [hdd] at hsd ⊢
  rw [List.cons_append] at hsd ⊢
  rw [strtoul_digit_head d _ hdr.1 hdr.2, hsd]
  simp [strtoulDigits, hc]

/-- a character that may occur between `<` and `>`: printable ASCII, not `>` -/
def TagChar (c : Nat) : Prop := 32 ≤ c ∧ c < 128 ∧ c ≠ 62

instance (c : Nat) : Decidable (TagChar c) := by unfold TagChar; infer_instance

/-- what `scanClose` steps over on its way to the closing `>` -/
def TagChars (l : Bytes) : Prop := ∀ c ∈ l, TagChar c

instance (l : Bytes) : Decidable (TagChars l) := by unfold TagChars; infer_instance

theorem tagChars_append {a b : Bytes} : TagChars (a ++ b) ↔ TagChars a ∧ TagChars b :=
  List.forall_mem_append

theorem tagChars_cons {c : Nat} {l : Bytes} : TagChars (c :: l) ↔ TagChar c ∧ TagChars l := List.forall_mem_cons

theorem tagChars_decDigits (n : Nat) : TagChars (decDigits n) := by
  intro c hc
  have := decDigits_digits n c hc
  unfold TagChar; omega

theorem tagChars_tagString (tag : Nat) : TagChars (tagString tag) := by
  unfold tagString
  split <;> simp only [tagChars_append, tagChars_decDigits, and_true] <;> decide

theorem tagChars_universalName (n : Nat) (s : Bytes) (h : universalName n = some s) : TagChars s := by
  unfold universalName at h
  split at h <;> first
    | (simp only [Option.some.injEq] at h; subst h; decide)
    | (exact absurd h (by simp))

theorem tagChars_attrA (tag : Nat) : TagChars (attrA tag) := by
  unfold attrA
  split
  · split
    · rename_i s hs
      simp only [tagChars_append, tagChars_universalName _ s hs, and_true]
      decide
    · decide
  · decide

theorem scanClose_tagChars (a acc after : Bytes) (h : TagChars a) :
    scanClose (a ++ 62 :: after) acc = .ok (acc.reverse ++ a, after) := by
  rw [scan_run_acc (P := TagChar) (f := scanClose) (fun c s acc hc => by
    unfold TagChar at hc
    rw [scanClose, if_neg (by omega), if_neg (by omega)]) a _ acc h]
  simp [scanClose]

theorem findSub_miss (pat : Bytes) (c : Nat) (s : Bytes) (h : isPrefix pat (c :: s) = false) :
    findSub pat (c :: s) = findSub pat s := by
  simp [findSub, h]

theorem findSub_hit (pat : Bytes) (c : Nat) (s : Bytes) (h : isPrefix pat (c :: s) = true) :
    findSub pat (c :: s) = some (c :: s) := by
  simp [findSub, h]

theorem findSub_skip (p0 : Nat) (pat : Bytes) : ∀ (l s : Bytes), (∀ c ∈ l, c ≠ p0) →
    findSub (p0 :: pat) (l ++ s) = findSub (p0 :: pat) s :=
  scan_run fun c s (hc : c ≠ p0) => findSub_miss _ _ _ (by
    have : (p0 == c) = false := by simp; omega
    simp only [isPrefix, this]; rfl)

theorem findSub_skip_digits (p0 : Nat) (pat : Bytes) (n : Nat) (s : Bytes) (hp : p0 < 48 ∨ 57 < p0) :
    findSub (p0 :: pat) (decDigits n ++ s) = findSub (p0 :: pat) s :=
  findSub_skip p0 pat _ s (fun c hc => by have := decDigits_digits n c hc; omega)

/-- neither `TL="` nor `V="` occurs inside a printed tag -/
theorem findSub_tagString (pat : Bytes) (hp : pat = [84, 76, 61, 34] ∨ pat = [86, 61, 34]) (tag : Nat) (s : Bytes) :
    findSub pat (tagString tag ++ s) = findSub pat s := by
  unfold tagString
  rcases hp with rfl | rfl <;> split <;>
  · simp only [List.append_assoc, List.cons_append, List.nil_append]
    simp only [findSub, isPrefix, Nat.reduceBEq, Bool.false_and, Bool.true_and, Bool.false_eq_true, if_false]
    rw [findSub_skip_digits _ _ _ _ (by omega)]
    simp [findSub, isPrefix]

theorem seekDigits_digits (n : Nat) (rest : Bytes) :
    seekDigits (decDigits n ++ rest) = some (decDigits n ++ rest) := by
  obtain ⟨d, ds, h, h1, h2⟩ := decDigits_cons n
  rw [h]
  simp only [List.cons_append, seekDigits]
  rw [if_neg (by omega), if_pos (isDigit_of_range h1 h2)]

theorem tagClassOf_digits (n : Nat) (rest : Bytes) : tagClassOf (decDigits n ++ rest) = some 2 := by
  obtain ⟨d, ds, h, h1, h2⟩ := decDigits_cons n
  rw [h]
  simp only [List.cons_append, tagClassOf]
  rw [if_neg (by omega), if_neg (by omega), if_neg (by omega), if_pos (isDigit_of_range h1 h2)]

/-- the scan for the tag number steps over the letters of the class name -/
theorem seekDigits_skip : ∀ (pre l : Bytes), (∀ c ∈ pre, c ≠ 34 ∧ isDigit c = false) →
    seekDigits (pre ++ l) = seekDigits l :=
  scan_run fun c s h => by rw [seekDigits, if_neg h.1, h.2, if_neg Bool.false_ne_true]

/-- what `process_line` reads from `T="[…]"`: the class and the position of the number -/
theorem tag_parse (tag : Nat) (rest : Bytes) :
    tagClassOf (List.drop 1 (tagString tag ++ rest)) = some (tag % 4) ∧
    seekDigits (List.drop 1 (tagString tag ++ rest)) = some (decDigits (tag / 4) ++ 93 :: rest) := by
  unfold tagString
  split
  · next h =>
    simp only [List.append_assoc, List.cons_append, List.nil_append, List.drop_succ_cons, List.drop_zero]
    exact ⟨by rw [h]; rfl, (seekDigits_skip [85, 78, 73, 86, 69, 82, 83, 65, 76, 32] _ (by decide)).trans
      (seekDigits_digits _ _)⟩
  · next h =>
    simp only [List.append_assoc, List.cons_append, List.nil_append, List.drop_succ_cons, List.drop_zero]
    exact ⟨by rw [h]; rfl, (seekDigits_skip [65, 80, 80, 76, 73, 67, 65, 84, 73, 79, 78, 32] _ (by decide)).trans
      (seekDigits_digits _ _)⟩
  · next h =>
    simp only [List.append_assoc, List.cons_append, List.nil_append, List.drop_succ_cons, List.drop_zero]
    exact ⟨by rw [tagClassOf_digits, h], seekDigits_digits _ _⟩
  · next h0 h1 h2 =>
    have h3 : tag % 4 = 3 := by
      have : ¬ tag % 4 = 0 ∧ ¬ tag % 4 = 1 ∧ ¬ tag % 4 = 2 := ⟨h0, h1, h2⟩
      omega
    simp only [List.append_assoc, List.cons_append, List.nil_append, List.drop_succ_cons, List.drop_zero]
    exact ⟨by rw [h3]; rfl, (seekDigits_skip [80, 82, 73, 86, 65, 84, 69, 32] _ (by decide)).trans
      (seekDigits_digits _ _)⟩

theorem hexVal_hexLower (x : Nat) (h : x < 16) : Impl.Enber.hexVal (hexLower x) = some x := by
  unfold hexLower Impl.Enber.hexVal
  by_cases h10 : x < 10
  · rw [if_pos h10, if_pos (by omega)]; congr 1; omega
  · rw [if_neg h10, if_neg (by omega), if_neg (by omega), if_pos (by omega)]; congr 1; omega

theorem valueLoop_entities (content : Bytes) (fuel : Nat) (acc : Bytes) (len : Nat) (rest : Bytes)
    (hb : ∀ b ∈ content, b < 256) (hf : (content.flatMap hexEntity ++ 60 :: rest).length < fuel) :
    valueLoop fuel (content.flatMap hexEntity ++ 60 :: rest) acc len
      = (content.reverse ++ acc, len + content.length, none) := by
  induction content generalizing fuel acc len with
  | nil =>
    obtain ⟨f, rfl⟩ : ∃ f, fuel = f + 1 := ⟨fuel - 1, by simp at hf; omega⟩
    simp [valueLoop]
  | cons b content ih =>
    obtain ⟨f, rfl⟩ : ∃ f, fuel = f + 1 := ⟨fuel - 1, by simp at hf; omega⟩
    have hb256 := hb b (by simp)
    simp only [List.flatMap_cons, hexEntity, List.cons_append, List.nil_append, valueLoop, List.length_cons] at hf ⊢
    rw [if_neg (by omega), if_neg (by omega), if_neg (by omega)]
    simp only [hexVal_hexLower _ (Nat.mod_lt _ (by omega : 0 < 16))]
    rw [ih f _ _ (fun x hx => hb x (List.mem_cons_of_mem _ hx)) (by omega)]
    simp only [List.reverse_cons, List.append_assoc, List.cons_append, List.nil_append]
    congr 2
    · congr 1; omega
    · omega

theorem setConstructed_ident (c n : Nat) (x : Bytes) :
    setConstructed (identOctets c false n ++ x) = identOctets c true n ++ x := by
  obtain ⟨tl, h⟩ := identOctets_head c n
  have h0 := identHead_constr c false n
  rw [h, h, List.cons_append, setConstructed, if_neg (by simpa using h0)]
  congr 1; simp only [identHead, if_true, Bool.false_eq_true, if_false]; omega

/-- ` V="…"` -/
def vText (len : Int) : Bytes :=
  if len = -1 then [32, 86, 61, 34, 73, 110, 100, 101, 102, 105, 110, 105, 116, 101, 34]
  else [32, 86, 61, 34] ++ decInt len ++ [34]

/-- the characters from `<` up to (excluding) `>` of an opening tag printed by `print_TL` -/
def openTagPart (form off tl tag : Nat) (len : Int) : Bytes :=
  [60, form, 32, 79, 61, 34] ++ (decDigits off ++ ([34, 32] ++ ([84, 61, 34] ++ (tagString tag ++ ([34, 32]
    ++ ([84, 76, 61, 34] ++ (decDigits tl ++ ([34] ++ (vText len ++ attrA tag)))))))))

theorem render_opn (level : Nat) (constr : Bool) (off tl tag : Nat) (len : Int) :
    render (.opn level constr off tl tag len)
      = indent level ++ openTagPart (formLetter constr len) off tl tag len := by
  simp [render, openTagPart, vText, List.append_assoc]

theorem tagChars_decInt (z : Int) : TagChars (decInt z) := by
  unfold decInt
  split
  · exact tagChars_cons.2 ⟨by decide, tagChars_decDigits _⟩
  · exact tagChars_decDigits _

theorem tagChars_vText (len : Int) : TagChars (vText len) := by
  unfold vText
  split
  · decide
  · simp only [tagChars_append, tagChars_decInt, and_true]; decide

theorem tagChars_openTagPart (form off tl tag : Nat) (len : Int) (hform : form = 80 ∨ form = 67 ∨ form = 73) :
    TagChars (openTagPart form off tl tag len) := by
  unfold openTagPart
  simp only [tagChars_append, tagChars_decDigits, tagChars_tagString, tagChars_attrA, tagChars_vText, and_true, true_and]
  rcases hform with rfl | rfl | rfl <;> decide

theorem tagString_head (tag : Nat) : ∃ w, tagString tag = 91 :: w := by
  unfold tagString; split <;> exact ⟨_, rfl⟩

theorem vText_last (len : Int) : ∃ pre, vText len = pre ++ [34] := by
  unfold vText; split
  · exact ⟨[32, 86, 61, 34, 73, 110, 100, 101, 102, 105, 110, 105, 116, 101], rfl⟩
  · exact ⟨[32, 86, 61, 34] ++ decInt len, by simp⟩

theorem attrA_last (tag : Nat) : attrA tag = [] ∨ ∃ pre, attrA tag = pre ++ [34] := by
  unfold attrA; split
  · split
    · right; exact ⟨_, rfl⟩
    · left; rfl
  · left; rfl

theorem openTagPart_last (form off tl tag : Nat) (len : Int) :
    (openTagPart form off tl tag len).getLast? = some 34 := by
  obtain ⟨pv, hpv⟩ := vText_last len
  unfold openTagPart
  simp only [List.getLast?_append]
  rcases attrA_last tag with ha | ⟨pa, ha⟩ <;> simp [ha, hpv]

/-- the three `strstr` calls of `process_line` on an opening tag printed by unber -/
theorem findSub_T_open (form off tl tag : Nat) (len : Int) (hform : form = 80 ∨ form = 67 ∨ form = 73) :
    findSub [84, 61, 34, 91] (openTagPart form off tl tag len)
      = some (84 :: 61 :: 34 :: (tagString tag ++ 34 :: 32 :: 84 :: 76 :: 61 :: 34 :: (decDigits tl ++ 34 ::
          (vText len ++ attrA tag)))) := by
  unfold openTagPart
  rw [findSub_skip 84 _ [60, form, 32, 79, 61, 34] _ (by intro c hc; simp at hc; omega),
    findSub_skip_digits _ _ _ _ (by omega),
    findSub_skip 84 _ [34, 32] _ (by decide)]
  obtain ⟨w, hw⟩ := tagString_head tag
  simp only [List.cons_append, List.nil_append]
  rw [hw]
  exact findSub_hit _ _ _ (by simp [isPrefix])

theorem findSub_TL_open (form off tl tag : Nat) (len : Int) (hform : form = 80 ∨ form = 67 ∨ form = 73) :
    findSub [84, 76, 61, 34] (openTagPart form off tl tag len)
      = some (84 :: 76 :: 61 :: 34 :: (decDigits tl ++ 34 :: (vText len ++ attrA tag))) := by
  unfold openTagPart
  rw [findSub_skip 84 _ [60, form, 32, 79, 61, 34] _ (by intro c hc; simp at hc; omega),
    findSub_skip_digits _ _ _ _ (by omega),
    findSub_skip 84 _ [34, 32] _ (by decide)]
  simp only [List.cons_append, List.nil_append]
  rw [findSub_miss _ _ _ (by simp [isPrefix]), findSub_miss _ _ _ (by simp [isPrefix]),
    findSub_miss _ _ _ (by simp [isPrefix]), findSub_tagString _ (.inl rfl),
    findSub_miss _ _ _ (by simp [isPrefix]), findSub_miss _ _ _ (by simp [isPrefix])]
  exact findSub_hit _ _ _ (by simp [isPrefix])

theorem findSub_V_open (form off tl tag v : Nat) (hform : form = 80 ∨ form = 67 ∨ form = 73) :
    findSub [86, 61, 34] (openTagPart form off tl tag (Int.ofNat v))
      = some (86 :: 61 :: 34 :: (decDigits v ++ 34 :: attrA tag)) := by
  unfold openTagPart
  rw [findSub_skip 86 _ [60, form, 32, 79, 61, 34] _ (by intro c hc; simp at hc; omega),
    findSub_skip_digits _ _ _ _ (by omega),
    findSub_skip 86 _ [34, 32] _ (by decide),
    findSub_skip 86 _ [84, 61, 34] _ (by decide),
    findSub_tagString _ (.inr rfl),
    findSub_skip 86 _ [34, 32] _ (by decide),
    findSub_skip 86 _ [84, 76, 61, 34] _ (by decide),
    findSub_skip_digits _ _ _ _ (by omega),
    findSub_skip 86 _ [34] _ (by decide)]
  unfold vText
  rw [if_neg (by simp)]
  have : decInt (Int.ofNat v) = decDigits v := by
    unfold decInt; rw [if_neg (by simp)]; simp
  rw [this]
  simp only [List.cons_append, List.nil_append, List.append_assoc]
  rw [findSub_miss _ _ _ (by simp [isPrefix])]
  exact findSub_hit _ _ _ (by simp [isPrefix])

/-- `process_line` reads back TL, V and the tag from an opening tag printed by unber; for the form
    `I` (`cc = 2`) the `V` attribute (`"Indefinite"`) is not looked at and `0` is taken -/
theorem parseAttrs_open (cc form off tl tag v : Nat) (len : Int)
    (hV : cc = 2 ∧ v = 0 ∨ cc ≠ 2 ∧ len = Int.ofNat v)
    (hform : form = 80 ∨ form = 67 ∨ form = 73) (htl : 2 ≤ tl ∧ tl < 2 ^ 63) (hv : v < 2 ^ 63)
    (htag : tag / 4 < 2 ^ 30) :
    parseAttrs cc (openTagPart form off tl tag len) = .ok (tl, v, tag) := by
  unfold parseAttrs
  rw [openTagPart_last, if_neg (by simp), findSub_T_open _ _ _ _ _ hform, findSub_TL_open _ _ _ _ _ hform]
  rcases hV with ⟨rfl, rfl⟩ | ⟨hcc, rfl⟩
  case' inl => simp only [ne_eq, not_true_eq_false, and_false, if_false, if_true]
  case' inr =>
    rw [findSub_V_open _ _ _ _ _ hform]
    simp only [Option.isNone_some, Bool.false_eq_true, false_and, if_false, if_neg hcc, List.drop_succ_cons,
      List.drop_zero, strtoul_decDigits v 34 _ (by omega) rfl]
  -- with `V` settled either way, `TL` and the tag are read alike
  all_goals
    simp only [List.drop_succ_cons, List.drop_zero, strtoul_decDigits tl 34 _ (by omega) rfl]
    rw [if_neg (by simp only [Bool.false_eq_true, false_or]; omega), (tag_parse tag _).1, (tag_parse tag _).2]
    simp only []
    rw [strtoul_decDigits (tag / 4) 93 _ (by omega) rfl]
    simp only []
    rw [if_neg (by simp only [Bool.false_eq_true, or_false]; omega)]
    congr 3
    omega

theorem emitTLV_prim (c n : Nat) (lf : LenForm) (content rest : Bytes) (hc : c < 4) (hn : n < 2 ^ 30)
    (hmin : lf.minimal content.length = true) (hv : content.length < 2 ^ 62)
    (hb : ∀ b ∈ content, b < 256) :
    emitTLV 0 ((identOctets c false n).length + (lenOctets lf content.length).length) content.length
        (tagOf c n) (content.flatMap hexEntity ++ 60 :: rest)
      = ⟨identOctets c false n ++ lenOctets lf content.length ++ content, none⟩ := by
  unfold emitTLV tagOf
  have hid6 := identOctets_length_le c false n hn
  rw [tagSerialize_ident c n hc hn]
  simp only [Nat.reduceEqDiff, if_false]
  rw [lenSerialize_minimal lf content.length _ hmin hv (by omega)]
  simp only [ne_eq, not_true_eq_false, and_false, if_false]
  rw [valueLoop_entities content _ [] 0 rest hb (Nat.lt_succ_self _)]
  simp

theorem emitTLV_cons (c n : Nat) (lf : LenForm) (v : Nat) (after : Bytes) (hc : c < 4) (hn : n < 2 ^ 30)
    (hmin : lf.minimal v = true) (hv : v < 2 ^ 62) :
    emitTLV 1 ((identOctets c true n).length + (lenOctets lf v).length) v (tagOf c n) after
      = ⟨identOctets c true n ++ lenOctets lf v, none⟩ := by
  unfold emitTLV tagOf
  have hid6 := identOctets_length_le c false n hn
  have hlen := identOctets_length_constr c n
  rw [tagSerialize_ident c n hc hn]
  simp only [Nat.reduceEqDiff, if_false]
  rw [lenSerialize_minimal lf v _ hmin hv (by omega), hlen]
  simp only [ne_eq, not_true_eq_false, and_false, if_false, not_false_eq_true, Nat.one_ne_zero, if_true]
  rw [setConstructed_ident]

theorem emitTLV_indef (c n : Nat) (after : Bytes) (hc : c < 4) (hn : n < 2 ^ 30) :
    emitTLV 2 ((identOctets c true n).length + 1) 0 (tagOf c n) after
      = ⟨identOctets c true n ++ [128], none⟩ := by
  unfold emitTLV tagOf
  have hlen := identOctets_length_constr c n
  rw [tagSerialize_ident c n hc hn]
  simp only [if_true, hlen]
  simp only [ne_eq, not_true_eq_false, and_false, if_false, not_false_eq_true, Nat.reduceEqDiff, if_true]
  rw [setConstructed_ident]

theorem indent_spaces (level : Nat) : ∀ c ∈ indent level, c = 32 := by
  induction level with
  | zero => exact fun _ h => nomatch h
  | succ k ih => exact List.forall_mem_append.2 ⟨by decide, ih⟩

theorem skipWs_indent (level : Nat) (l : Bytes) : skipWs (indent level ++ l) = skipWs l :=
  scan_run (fun c s (h : c = 32) => by rw [h, skipWs]) _ l (indent_spaces level)

theorem tagChars_indent (level : Nat) : TagChars (indent level) :=
  fun c h => by rw [indent_spaces level c h]; decide

theorem flatMap_hexEntity_length (content : Bytes) : (content.flatMap hexEntity).length = 6 * content.length := by
  induction content with
  | nil => rfl
  | cons b content ih =>
    rw [List.flatMap_cons, List.length_append, ih, List.length_cons, Nat.mul_add_one, Nat.add_comm]; rfl

theorem tagChars_entities (content : Bytes) : TagChars (content.flatMap hexEntity) := by
  intro c hc
  obtain ⟨b, -, hcb⟩ := List.mem_flatMap.1 hc
  simp only [hexEntity, hexLower, List.mem_cons, List.mem_nil_iff, or_false] at hcb
  unfold TagChar
  rcases hcb with h | h | h | h | h | h
  · omega
  · omega
  · omega
  · subst h; split <;> omega
  · subst h; split <;> omega
  · omega

/-- a closing tag of a constructed TLV as `print_TL` writes it: `</C` or `</I`, attributes, `>` -/
theorem render_cls (level off tlen tag : Nat) (len : Int) (esize : Nat) :
    ∃ x, TagChars (47 :: formLetter true len :: x) ∧ render (.cls level true off tlen tag len esize)
      = (indent level ++ 60 :: 47 :: formLetter true len :: x) ++ [62, 10] := by
  refine ⟨[32, 79, 61, 34] ++ decDigits off ++ [34] ++ [32, 84, 61, 34] ++ tagString tag ++ [34]
      ++ (if len = -1 then [32, 84, 76, 61, 34] ++ decDigits tlen ++ [34] else []) ++ attrA tag
      ++ [32, 76, 61, 34] ++ decDigits esize ++ [34], tagChars_cons.2 ⟨by decide, tagChars_cons.2 ⟨?_, ?_⟩⟩,
    by simp [render]⟩
  · unfold formLetter; simp only [if_true]; split <;> decide
  have hopt : TagChars (if len = -1 then [32, 84, 76, 61, 34] ++ decDigits tlen ++ [34] else []) := by
    split
    · simp only [tagChars_append, tagChars_decDigits, and_true]; decide
    · decide
  simp only [tagChars_append, tagChars_decDigits, tagChars_tagString, tagChars_attrA, hopt, and_true]
  decide

/-- up to the `>` a line that holds a tag is cut as it was printed -/
theorem scan_tagLine (level : Nat) (x after : Bytes) (hx : TagChars x) :
    skipWs (indent level ++ 60 :: (x ++ 62 :: after)) = 60 :: (x ++ 62 :: after) ∧
    scanClose (60 :: (x ++ 62 :: after)) [] = .ok (60 :: x, after) := by
  rw [skipWs_indent]
  exact ⟨rfl, scanClose_tagChars (60 :: x) [] after (tagChars_cons.2 ⟨by decide, hx⟩)⟩

/-- up to the `>` an opening line is handed to the attribute parser as it was printed -/
theorem processLine_open (level cc form off tl tag : Nat) (len : Int) (after : Bytes)
    (hform : form = 80 ∧ cc = 0 ∨ form = 67 ∧ cc = 1 ∨ form = 73 ∧ cc = 2) :
    processLine (indent level ++ openTagPart form off tl tag len ++ 62 :: after)
      = encodeTag cc (openTagPart form off tl tag len) after := by
  have hT := tagChars_openTagPart form off tl tag len (by omega)
  obtain ⟨x, hx⟩ : ∃ x, openTagPart form off tl tag len = 60 :: form :: x := ⟨_, rfl⟩
  rw [hx] at hT ⊢
  obtain ⟨h1, h2⟩ := scan_tagLine level (form :: x) after (tagChars_cons.1 hT).2
  unfold processLine
  rw [List.append_assoc, List.cons_append, h1]
  simp only []
  rw [h2]
  rcases hform with ⟨h, h'⟩ | ⟨h, h'⟩ | ⟨h, h'⟩ <;> subst h h' <;> rfl

/-- a closing line `</C …>` writes nothing, `</I …>` writes the end-of-contents octets -/
theorem processLine_close (level : Nat) (len : Int) (x : Bytes) (hx : TagChars (47 :: formLetter true len :: x)) :
    processLine ((indent level ++ 60 :: 47 :: formLetter true len :: x) ++ [62, 10])
      = ⟨if len = -1 then [0, 0] else [], none⟩ := by
  obtain ⟨h1, h2⟩ := scan_tagLine level (47 :: formLetter true len :: x) [10] hx
  unfold processLine
  rw [List.append_assoc, List.cons_append, h1]
  simp only []
  rw [h2]
  by_cases h : len = -1 <;> simp only [formLetter, h, if_true, if_false] <;> rfl

/-- no line feed: the text stays on one line of `process`'s `fgets` loop (`splitLines`) -/
def NoNl (l : Bytes) : Prop := ∀ c ∈ l, c ≠ 10

theorem TagChars.noNl {l : Bytes} (h : TagChars l) : NoNl l :=
  fun c hc => by have := h c hc; unfold TagChar at this; omega

theorem noNl_gt {a b : Bytes} (ha : NoNl a) (hb : TagChars b) : NoNl (a ++ 62 :: b) :=
  List.forall_mem_append.2 ⟨ha, List.forall_mem_cons.2 ⟨by decide, hb.noNl⟩⟩

theorem splitLines_line (l rest cur : Bytes) (h : NoNl l) :
    splitLines (l ++ 10 :: rest) cur = (cur.reverse ++ l ++ [10]) :: splitLines rest [] := by
  rw [scan_run_acc (f := splitLines) (fun c s acc (hc : c ≠ 10) => by rw [splitLines, if_neg hc]) l _ cur h]
  simp [splitLines]

/-- a line `a >` that `process_line` accepts (all lines that `unber` prints end in `>`), followed by more text -/
theorem enber_line (a rest o : Bytes) (ha : NoNl a) (hp : processLine (a ++ [62, 10]) = ⟨o, none⟩) :
    enber (a ++ ([62, 10] ++ rest)) = ⟨o ++ (enber rest).out, (enber rest).err⟩ := by
  have e : a ++ ([62, 10] ++ rest) = (a ++ [62]) ++ 10 :: rest := by simp
  have e' : a ++ [62, 10] = (a ++ [62]) ++ [10] := by simp
  rw [e'] at hp
  unfold enber
  rw [e, splitLines_line _ rest [] (noNl_gt (b := []) ha fun _ h => nomatch h)]
  simp only [List.reverse_nil, List.nil_append, runLines, hp]

theorem enber_nil : enber [] = ⟨[], none⟩ := by
  simp [enber, splitLines, runLines]

theorem enber_open (t : Tlv) (hk : t.constr = true) (hwf : t.wf = true) (hdom : t.inDomain = true)
    (hmin : t.minimalLengths = true) (level off : Nat) (rest : Bytes) :
    enber (render (.opn level true off t.headerLen t.tag t.len) ++ (render .gt ++ rest))
      = ⟨t.hdr ++ (enber rest).out, (enber rest).err⟩ := by
  rw [render_opn]
  refine enber_line _ rest _ (tagChars_append.2 ⟨tagChars_indent _, tagChars_openTagPart _ _ _ _ _ ?_⟩).noNl ?_
  · unfold formLetter; simp only [if_true]; split <;> omega
  cases t with
  | prim => exact absurd hk (by simp [Tlv.constr])
  | cons c n lf ch =>
    simp only [Tlv.wf, Tlv.inDomain, Tlv.minimalLengths, Bool.and_eq_true, decide_eq_true_eq] at hwf hdom hmin
    have hc := ((tagOk_iff c n).1 hwf.1.1).1
    have hid := identOctets_length_pos c true n
    have hll := lenOctets_minimal_le lf _ hmin.1 hdom.1.2
    have hf : formLetter true ((encodeList ch).length : Int) = 67 := by simp [formLetter]
    simp only [Tlv.headerLen, Tlv.tag, Tlv.len, Tlv.hdr, hf] at hdom ⊢
    rw [processLine_open level 1 67 _ _ _ _ _ (by omega), encodeTag,
      parseAttrs_open 1 67 off _ (tagOf c n) (encodeList ch).length (encodeList ch).length (.inr ⟨by omega, rfl⟩)
        (by omega) (by omega) (by omega) (by unfold tagOf; omega)]
    exact emitTLV_cons c n lf _ [10] hc hdom.1.1.1 hmin.1 hdom.1.2
  | indef c n ch =>
    simp only [Tlv.wf, Tlv.inDomain, Bool.and_eq_true, decide_eq_true_eq] at hwf hdom
    have hc := ((tagOk_iff c n).1 hwf.1).1
    have hid := identOctets_length_pos c true n
    have hid6 := identOctets_length_le c true n hdom.1
    have hf : formLetter true (-1) = 73 := by simp [formLetter]
    simp only [Tlv.headerLen, Tlv.tag, Tlv.len, Tlv.hdr, hf]
    rw [processLine_open level 2 73 _ _ _ _ _ (by omega), encodeTag,
      parseAttrs_open 2 73 off _ (tagOf c n) 0 (-1) (.inl ⟨rfl, rfl⟩) (by omega) (by omega) (by omega)
        (by unfold tagOf; omega)]
    exact emitTLV_indef c n [10] hc hdom.1

theorem enber_close (level off tlen tag : Nat) (len : Int) (esize : Nat) (rest : Bytes) :
    enber (render (.cls level true off tlen tag len esize) ++ rest)
      = ⟨(if len = -1 then [0, 0] else []) ++ (enber rest).out, (enber rest).err⟩ := by
  obtain ⟨x, hx, e⟩ := render_cls level off tlen tag len esize
  rw [e, List.append_assoc]
  exact enber_line _ rest _ (tagChars_append.2 ⟨tagChars_indent _, tagChars_cons.2 ⟨by decide, hx⟩⟩).noNl
    (processLine_close level len x hx)

theorem enber_prim (c n : Nat) (lf : LenForm) (content : Bytes) (hwf : (Tlv.prim c n lf content).wf = true)
    (hdom : (Tlv.prim c n lf content).inDomain = true) (hmin : (Tlv.prim c n lf content).minimalLengths = true)
    (level off : Nat) (rest : Bytes) :
    enber (renderAll ((Tlv.prim c n lf content).expected level off) ++ rest)
      = ⟨(Tlv.prim c n lf content).encode ++ (enber rest).out, (enber rest).err⟩ := by
  simp only [Tlv.wf, Tlv.inDomain, Tlv.minimalLengths, Bool.and_eq_true, List.all_eq_true, decide_eq_true_eq]
    at hwf hdom hmin
  have hc := ((tagOk_iff c n).1 hwf.1.1).1
  have hid := identOctets_length_pos c false n
  have hll := lenOctets_minimal_le lf _ hmin hdom.2
  have hf : formLetter false (content.length : Int) = 80 := by simp [formLetter]
  have hrc : ∀ a b d e f g, render (.cls a false b d e f g) = [60, 47, 80, 62, 10] := fun _ _ _ _ _ _ => rfl
  simp only [Tlv.expected, Tlv.headerLen, Tlv.encode, renderAll, List.flatMap_cons, List.flatMap_nil,
    List.append_nil, render_opn, hf, hrc, show render (.val content) = 62 :: content.flatMap hexEntity from rfl]
    at hdom ⊢
  have hT := tagChars_append.2 ⟨tagChars_indent level, tagChars_openTagPart 80 off
    ((identOctets c false n).length + (lenOctets lf content.length).length) (tagOf c n) content.length (by omega)⟩
  have hP : processLine (indent level ++ openTagPart 80 off
        ((identOctets c false n).length + (lenOctets lf content.length).length) (tagOf c n) content.length
        ++ 62 :: (content.flatMap hexEntity ++ [60, 47, 80, 62, 10]))
      = ⟨identOctets c false n ++ lenOctets lf content.length ++ content, none⟩ := by
    rw [processLine_open level 0 80 _ _ _ _ _ (by omega), encodeTag,
      parseAttrs_open 0 80 off _ (tagOf c n) content.length content.length (.inr ⟨by omega, rfl⟩) (by omega)
        (by omega) (by omega) (by unfold tagOf; omega)]
    exact emitTLV_prim c n lf content [47, 80, 62, 10] hc hdom.1.1 hmin hdom.2 hwf.2
  generalize indent level ++ openTagPart 80 off _ (tagOf c n) (content.length : Int) = T at hT hP ⊢
  have := enber_line (T ++ 62 :: (content.flatMap hexEntity ++ [60, 47, 80])) rest _
    (noNl_gt hT.noNl (tagChars_append.2 ⟨tagChars_entities content, by decide⟩)) (by simpa using hP)
  simpa using this

theorem renderAll_append (a b : List Out) : renderAll (a ++ b) = renderAll a ++ renderAll b := by
  simp [renderAll]

theorem renderAll_cons (o : Out) (os : List Out) : renderAll (o :: os) = render o ++ renderAll os := by
  simp [renderAll]

theorem renderAll_nil : renderAll [] = [] := rfl

mutual
theorem enb : ∀ (t : Tlv), t.wf = true → t.inDomain = true → t.minimalLengths = true →
    ∀ (level off : Nat) (rest : Bytes),
      enber (renderAll (t.expected level off) ++ rest) = ⟨t.encode ++ (enber rest).out, (enber rest).err⟩
  | .prim c n lf content, hwf, hdom, hmin, level, off, rest => enber_prim c n lf content hwf hdom hmin level off rest
  | .cons c n lf ch, hwf, hdom, hmin, level, off, rest | .indef c n ch, hwf, hdom, hmin, level, off, rest => by
    have ho := enber_open _ rfl hwf hdom hmin level off
    have hl := enb_list ch (Tlv.wf_children hwf) (Tlv.inDomain_children hdom) (Tlv.minimal_children hmin)
    simp only [Tlv.hdr, Tlv.tag, Tlv.len] at ho
    simp only [Tlv.expected, Tlv.encode, renderAll_cons, renderAll_append, renderAll_nil, List.append_assoc,
      List.cons_append, List.nil_append]
    rw [ho, hl, enber_close]
    simp
theorem enb_list : ∀ (ts : List Tlv), wfList ts = true → inDomainList ts = true → minimalList ts = true →
    ∀ (level off : Nat) (rest : Bytes),
      enber (renderAll (expectedList level off ts) ++ rest) = ⟨encodeList ts ++ (enber rest).out, (enber rest).err⟩
  | [], _, _, _, level, off, rest => by simp [expectedList, encodeList, renderAll]
  | t :: ts, hwf, hdom, hmin, level, off, rest => by
    rw [wfList_cons] at hwf
    rw [inDomainList_cons] at hdom
    rw [minimalList_cons] at hmin
    simp only [expectedList, encodeList, renderAll_append, List.append_assoc]
    rw [enb t hwf.1 hdom.1 hmin.1, enb_list ts hwf.2 hdom.2 hmin.2]
end

/-- enber applied to the text unber prints for a forest gives back the encoding -/
theorem enber_forest (ts : List Tlv) (hwf : wfList ts = true) (hdom : inDomainList ts = true)
    (hmin : minimalList ts = true) :
    enber (renderAll (expectedList 0 0 ts)) = ⟨encodeList ts, none⟩ := by
  simpa [enber_nil] using enb_list ts hwf hdom hmin 0 0 []

mutual
/-- with minimal length forms the TL never exceeds `tagbuf[32]` -/
theorem inDomain_of_minimal : ∀ (t : Tlv), t.inRange = true → t.minimalLengths = true → t.inDomain = true
  | .prim c n lf content, hr, hm => by
    simp only [Tlv.inRange, Tlv.minimalLengths, Bool.and_eq_true, decide_eq_true_eq] at hr hm
    have h1 := identOctets_length_le c false n hr.1
    have h2 := lenOctets_minimal_le lf content.length hm hr.2
    simp only [Tlv.inDomain, Tlv.headerLen, Bool.and_eq_true, decide_eq_true_eq]
    exact ⟨⟨hr.1, decide_eq_true (by omega)⟩, hr.2⟩
  | .cons c n lf ch, hr, hm => by
    simp only [Tlv.inRange, Tlv.minimalLengths, Bool.and_eq_true, decide_eq_true_eq] at hr hm
    have h1 := identOctets_length_le c true n hr.1.1
    have h2 := lenOctets_minimal_le lf (encodeList ch).length hm.1 hr.1.2
    simp only [Tlv.inDomain, Tlv.headerLen, Bool.and_eq_true, decide_eq_true_eq]
    exact ⟨⟨⟨hr.1.1, decide_eq_true (by omega)⟩, hr.1.2⟩, inDomainList_of_minimal ch hr.2 hm.2⟩
  | .indef c n ch, hr, hm => by
    simp only [Tlv.inRange, Tlv.minimalLengths, Bool.and_eq_true, decide_eq_true_eq] at hr hm
    simp only [Tlv.inDomain, Bool.and_eq_true, decide_eq_true_eq]
    exact ⟨hr.1, inDomainList_of_minimal ch hr.2 hm⟩
theorem inDomainList_of_minimal : ∀ (ts : List Tlv), inRangeList ts = true → minimalList ts = true →
    inDomainList ts = true
  | [], _, _ => rfl
  | t :: ts, hr, hm => by
    simp only [inRangeList, minimalList, Bool.and_eq_true] at hr hm
    exact (inDomainList_cons t ts).2 ⟨inDomain_of_minimal t hr.1 hm.1, inDomainList_of_minimal ts hr.2 hm.2⟩
end

end Asn1c.Proofs.Enber
