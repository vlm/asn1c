import Asn1cModel.Proofs.CRange
import Asn1cModel.Spec.Constraint
import Asn1cModel.Impl.ConsParse
/-
  Behind C09.  What a canonical range says of the set it stands for: `left`/`right` are its lower/upper bound
  (`Repr.bounds`), and the set determines the range (`Repr.unique`).  Then `asn1constraint_compute_constraint_range`
  (Impl.CRange.compute) on the trees the parser builds (Impl.ConsParse): called under a parent range (`Parent`) on an
  element tree, it computes the canonical form of the set that Spec.Constraint assigns to the expression
  (`compute_elem`).  Outcomes are stated with `Yields`; each loop of the function enters as a rule "if the operand
  yields its set and the rest of the loop yields Ψ, the loop yields Ψ".
-/
namespace Asn1c.Impl.CRange
open Asn1c.Spec.Constraint Asn1c.Impl.ConsParse

theorem Repr.congr {r : Range} {S S' : Int → Bool} (h : Repr r S) (e : ∀ y, S y = S' y) : Repr r S' :=
  ⟨h.good, h.canon, fun y => by rw [h.den y, e y], h.ends, h.shape, h.empty, h.incompat⟩

theorem ReprE.congr {r : Range} {S S' : Int → Bool} (h : ReprE r S) (e : ∀ y, S y = S' y) : ReprE r S' :=
  h.imp (·.congr e) fun h => ⟨fun y => by rw [← e y, h.1 y], h.2⟩

theorem Repr.first {m : Range} {P : Int → Bool} (h : Repr m P) :
    ∃ i : Iv, m.left = i.lo ∧ (i.wf ∧ i.bnd) ∧ (∀ y, i.mem y = true → P y = true) ∧
      ∀ y, P y = true → i.lo.leInt y = true := by
  obtain ⟨hd, t, e1, e2, _⟩ := h.ends
  have hg := h.good; have hc := h.canon; have hden := h.den
  rw [e1] at hg hc hden
  exact ⟨hd, e2, hg.head, fun y hy => by rw [← hden y, den_cons, hy]; rfl,
    fun y hy => (canon_hull hg hc (by rw [hden y, hy])).1⟩

theorem Repr.last {m : Range} {P : Int → Bool} (h : Repr m P) :
    ∃ i : Iv, m.right = i.hi ∧ (i.wf ∧ i.bnd) ∧ (∀ y, i.mem y = true → P y = true) ∧
      ∀ y, P y = true → i.hi.geInt y = true := by
  obtain ⟨hd, t, e1, _, e3⟩ := h.ends
  have hg := h.good; have hc := h.canon; have hden := h.den
  rw [e1] at hg hc hden
  have hm := List.getLast_mem (l := hd :: t) (by simp)
  exact ⟨_, e3, hg _ hm, fun y hy => by rw [← hden y]; exact den_eq_true.mpr ⟨_, hm, hy⟩,
    fun y hy => (canon_hull hg hc (by rw [hden y, hy])).2⟩

/-- `left` of a canonical range is the lower bound of the denoted set (X.691 10.3: "lb") -/
theorem Repr.lowerBound {r : Range} {S : Int → Bool} (h : Repr r S) : LowerBound S r.left.bound ∧ r.left ≠ .max := by
  obtain ⟨i, e, w, s, l⟩ := h.first
  rw [e]; exact ⟨lowerBound_of_leaf w.1 s l, w.1.1⟩

/-- `right` of a canonical range is the upper bound of the denoted set ("ub") -/
theorem Repr.upperBound {r : Range} {S : Int → Bool} (h : Repr r S) : UpperBound S r.right.bound ∧ r.right ≠ .min := by
  obtain ⟨i, e, w, s, u⟩ := h.last
  rw [e]; exact ⟨upperBound_of_leaf w.1 s u, w.1.2.1⟩

theorem Repr.bounds {r : Range} {S : Int → Bool} (h : Repr r S) {lb ub : Option Int} (hlb : LowerBound S lb)
    (hub : UpperBound S ub) : lb = r.left.bound ∧ ub = r.right.bound :=
  ⟨lowerBound_unique hlb h.lowerBound.1, upperBound_unique hub h.upperBound.1⟩

/-- two canonical ranges of the same set have the same leaves, `left` and `right` -/
theorem Repr.unique {r₁ r₂ : Range} {S₁ S₂ : Int → Bool} (h₁ : Repr r₁ S₁) (h₂ : Repr r₂ S₂) (e : ∀ y, S₁ y = S₂ y) :
    r₁.leaves = r₂.leaves ∧ r₁.left = r₂.left ∧ r₁.right = r₂.right := by
  have hl : r₁.leaves = r₂.leaves :=
    canon_unique _ _ h₁.good h₂.good h₁.canon h₂.canon (fun y => by rw [h₁.den y, h₂.den y, e y])
  obtain ⟨a, t, e1, e2, e3⟩ := h₁.ends
  obtain ⟨b, u, f1, f2, f3⟩ := h₂.ends
  rw [e1, f1] at hl
  cases hl
  exact ⟨by rw [e1, f1], by rw [e2, f2], by rw [e3, f3]⟩

theorem repr_single {r : Range} (he : r.els = []) (hw : (⟨r.left, r.right⟩ : Iv).wf) (hb : (⟨r.left, r.right⟩ : Iv).bnd)
    (hem : r.empty = false) (hi : r.incompat = false) : Repr r (Iv.mem ⟨r.left, r.right⟩) := by
  have hl := leaves_of_els_nil he
  refine ⟨?_, ?_, ?_, ⟨⟨r.left, r.right⟩, [], hl, rfl, rfl⟩, by simp [he], hem, hi⟩
  · rw [hl]; exact Good.cons ⟨hw, hb⟩ (fun _ h => nomatch h)
  · rw [hl]; trivial
  · intro y; rw [hl]; simp

theorem repr_new : Repr Range.new ISet.univ ∧ Flags Range.new false := by
  refine ⟨(repr_single (r := Range.new) rfl (by decide) ?_ rfl rfl).congr (fun y => rfl), rfl, rfl, rfl⟩
  constructor <;> intro v hv <;> cases hv

theorem repr_sizeDefault : Repr sizeDefault ISet.nat ∧ Flags sizeDefault false := by
  refine ⟨(repr_single (r := sizeDefault) rfl (by decide) ?_ rfl rfl).congr (fun y => ?_), rfl, rfl, rfl⟩
  · constructor
    · intro v hv; cases hv; simp [ASN_INTEGER_MIN, ASN_INTEGER_MAX]
    · intro v hv; cases hv
  · simp [Iv.mem, sizeDefault, ISet.nat]

/-- the failures that every caller hands on as they are.  Of the other two, EINVAL takes an incompatible request, and
    ERANGE is how the extension marker reports itself: the loops act on it. -/
def Hard (r : Res) : Prop := r = .eperm ∨ r = .abort ∨ r = .fuel

theorem hard_ofIErr (e : IErr) : Hard (Res.ofIErr e) := by
  cases e <;> simp [Hard, Res.ofIErr]

theorem hard_ne_ok {res : Res} (h : Hard res) : ∀ r, res ≠ .ok r := by
  intro r e; subst e; rcases h with h | h | h <;> cases h
theorem hard_ne_erange {res : Res} (h : Hard res) : res ≠ .erange := by
  intro e; subst e; rcases h with h | h | h <;> cases h

/-- what the theorems say of a call: it comes back with `*exmet` set and either has failed for good or
    delivers a range with `Φ` -/
def Yields (x : Res × Bool) (Φ : Range → Prop) : Prop :=
  ∃ res, x = (res, true) ∧ (Hard res ∨ ∃ r, res = .ok r ∧ Φ r)

theorem Yields.hard {res : Res} {Φ : Range → Prop} (h : Hard res) : Yields (res, true) Φ :=
  ⟨res, rfl, Or.inl h⟩

theorem Yields.ok {r : Range} {Φ : Range → Prop} (h : Φ r) : Yields (.ok r, true) Φ :=
  ⟨_, rfl, Or.inr ⟨r, rfl, h⟩⟩

theorem Yields.mono {x : Res × Bool} {Φ Ψ : Range → Prop} (h : Yields x Φ) (f : ∀ r, Φ r → Ψ r) : Yields x Ψ := by
  obtain ⟨res, e, h⟩ := h
  exact ⟨res, e, h.imp id fun ⟨r, e', hr⟩ => ⟨r, e', f r hr⟩⟩

theorem Yields.of_ok {x : Res × Bool} {Φ : Range → Prop} (h : Yields x Φ) {r : Range} (e : x.1 = .ok r) : Φ r := by
  obtain ⟨res, rfl, h⟩ := h
  rcases h with h | ⟨r', e', hr⟩
  · exact absurd e (hard_ne_ok h r)
  · cases e'.symm.trans e; exact hr

/-- a caller `y` that hands a failure of the callee `x` on goes on with what `x` delivers -/
theorem Yields.bind {x y : Res × Bool} {Φ Ψ : Range → Prop} (h : Yields x Φ)
    (hard : ∀ res, x = (res, true) → Hard res → y = (res, true))
    (k : ∀ r, x = (.ok r, true) → Φ r → Yields y Ψ) : Yields y Ψ := by
  obtain ⟨res, e, h⟩ := h
  rcases h with h | ⟨r, rfl, hr⟩
  · exact ⟨res, hard res e h, Or.inl h⟩
  · exact k r e hr

/-- the `switch(ct->type)` of `asn1constraint_compute_constraint_range` -/
def body (p : Params) (ct : CT) (mm : Option Range) (range : Range) (ex : Bool) : Res × Bool :=
  match ct with
  | .value v => leaf p v v mm range ex
  | .range lo hi => leaf p lo hi mm range ex
  | .ext => if !ex then (.ok { range with ext := true, notOER := true }, ex) else (.erange, ex)
  | .size c =>
    if p.req == .size then
      match compute p c mm true with
      | (.ok t, ex') => (.ok t, ex')
      | (.erange, ex') => (.ok { range with empty := true, ext := true, notOER := true }, ex')
      | (e, ex') => (e, ex')
    else (.ok { range with incompat := true }, ex)
  | .set l => andLoop p true l range mm ex
  | .int l => andLoop p false l range mm ex
  | .csv l => orFirst p true l range mm ex
  | .uni l => orFirst p false l range mm ex
  | .exc l =>
    match l with
    | [] => (.abort, ex)
    | c :: _ => compute p c mm ex

/-- with a compatible request, a known-multiplier (or non-string) type and a parent range without
    visibility flags, the function goes straight to its `switch` -/
theorem compute_eq_body {p : Params} (hc : p.compat = true) (hn : p.nkm = false) (ct : CT)
    (mm0 : Option Range) (ex : Bool) (hcl : Flags (rangeOf (mmEff p mm0)) false) :
    compute p ct mm0 ex = body p ct (mmEff p mm0) (rangeOf (mmEff p mm0)) ex := by
  obtain ⟨_, h2, h3⟩ := hcl
  rw [compute.eq_def]
  rw [if_neg (by simp [hc])]
  dsimp only
  simp only [hn, Bool.false_eq_true, if_false, Bool.and_false]
  rw [if_neg (by simp [h3]), if_neg (by simp [h2])]
  cases ct <;> rfl

theorem mmEff_some (p : Params) (m : Range) : mmEff p (some m) = some m := by
  unfold mmEff; cases p.req <;> rfl

theorem mmEff_idem (p : Params) (mm0 : Option Range) : mmEff p (mmEff p mm0) = mmEff p mm0 := by
  unfold mmEff; cases p.req <;> cases mm0 <;> rfl

/-- the context of a call with parent range `range` (`minmax`; inside the loops there always is one): request and type
    as in `compute_eq_body`, and the parent is the canonical form of `P` with its flags clear, so that the function goes
    straight to its `switch`, on a clone of the parent -/
structure Parent (p : Params) (range : Range) (P : ISet) : Prop where
  compat : p.compat = true
  nkm : p.nkm = false
  repr : Repr range P
  clean : Flags range false

theorem Parent.compute {p : Params} {range : Range} {P : ISet} (h : Parent p range P) (ct : CT) (ex : Bool) :
    compute p ct (some range) ex = body p ct (some range) range ex := by
  have e := compute_eq_body h.compat h.nkm ct (some range) ex (by rw [mmEff_some]; exact h.clean)
  rwa [mmEff_some] at e

theorem below_eq (e : End) (y : Int) : e.below y = Edge.leInt (match e with | .min => .min | .max => .max | .val z => .val z) y := by
  cases e <;> rfl
theorem above_eq (e : End) (y : Int) : e.above y = Edge.geInt (match e with | .min => .min | .max => .max | .val z => .val z) y := by
  cases e <;> rfl

/-- `MIN`, `MAX` or a literal strictly inside the range of `asn1c_integer_t` (the compiler's own limit) -/
def EndOK : End → Prop
  | .val v => ASN_INTEGER_MIN < v ∧ v < ASN_INTEGER_MAX
  | _ => True

/-- `_range_fill` of a lower end point as the grammar writes it (a value or MIN): the left edge that
    stands for it among the members of the parent set -/
theorem fill_lo {m : Range} {P : ISet} (hr : Repr m P) {lo : End} (hlo : lo ≠ .max) (hl : EndOK lo) :
    fillEdge (endV lo) (some m) ≠ .max ∧
    (∀ v, fillEdge (endV lo) (some m) = .val v → ASN_INTEGER_MIN < v ∧ v ≤ ASN_INTEGER_MAX) ∧
    ∀ y, P y = true → (fillEdge (endV lo) (some m)).leInt y = lo.below y := by
  cases lo with
  | max => exact absurd rfl hlo
  | val a => exact ⟨nofun, fun v hv => by cases hv; exact ⟨hl.1, Int.le_of_lt hl.2⟩, fun y _ => rfl⟩
  | min =>
    obtain ⟨i, e, w, _, l⟩ := hr.first
    rw [show fillEdge (endV .min) (some m) = i.lo from e]; exact ⟨w.1.1, w.2.1, l⟩

theorem fill_hi {m : Range} {P : ISet} (hr : Repr m P) {hi : End} (hhi : hi ≠ .min) (hh : EndOK hi) :
    fillEdge (endV hi) (some m) ≠ .min ∧
    (∀ v, fillEdge (endV hi) (some m) = .val v → ASN_INTEGER_MIN ≤ v ∧ v < ASN_INTEGER_MAX) ∧
    ∀ y, P y = true → (fillEdge (endV hi) (some m)).geInt y = hi.above y := by
  cases hi with
  | min => exact absurd rfl hhi
  | val a => exact ⟨nofun, fun v hv => by cases hv; exact ⟨Int.le_of_lt hh.1, hh.2⟩, fun y _ => rfl⟩
  | max =>
    obtain ⟨i, e, w, _, u⟩ := hr.last
    rw [show fillEdge (endV .max) (some m) = i.hi from e]; exact ⟨w.1.2.1, w.2.2, u⟩

/-- `ACT_EL_VALUE` / `ACT_EL_RANGE` as the grammar writes them (lower end: value or MIN, upper end: value or
    MAX) under a parent `m`: the function fails (an end point outside the parent: EPERM, lower > upper: EPERM /
    assert) or returns the canonical form of the set `lo..hi ∩ P`. -/
theorem leaf_spec {p : Params} {m : Range} {P : ISet} (range : Range) (lo hi : End)
    (hr : Repr m P) (hcl : Flags m false) (hlo : lo ≠ .max) (hhi : hi ≠ .min) (hl : EndOK lo) (hh : EndOK hi) :
    Yields (leaf p (endV lo) (endV hi) (some m) range true)
      fun r => ReprE r (fun y => lo.below y && hi.above y && P y) ∧ Flags r false := by
  obtain ⟨l1, l2, l3⟩ := fill_lo hr hlo hl
  obtain ⟨u1, u2, u3⟩ := fill_hi hr hhi hh
  unfold leaf
  simp only [Bool.not_true, Bool.false_eq_true, if_false]
  -- the "Empty range" diagnostic
  refine iteInduction (motive := (Yields · _)) (fun _ => .hard (Or.inl rfl)) fun _ => ?_
  cases hi' : intersection m { Range.new with left := fillEdge (endV lo) (some m), right := fillEdge (endV hi) (some m) }
      true p.strictOER with
  | error e => exact .hard (hard_ofIErr e)
  | ok c =>
    -- the asserts of `_range_overlap` passed: the edges of the leaf are in order, it is a range of its own
    have hor := (intersection_ok hi').2
    rw [if_neg (by simp [show m.empty = false from hr.empty, Range.new]), leaves_of_els_nil rfl] at hor
    obtain ⟨q1, q2⟩ := inter_E (Or.inl hr)
      (Or.inl (repr_single rfl ⟨l1, u1, by simpa [Iv.ordered] using hor.2.1⟩ ⟨l2, u2⟩ rfl rfl)) hcl ⟨rfl, rfl, rfl⟩ hi'
    refine .ok ⟨q1.congr (fun y => ?_), q2⟩
    cases hy : P y with
    | true => rw [Iv.mem, l3 y hy, u3 y hy, Bool.true_and, Bool.and_true]
    | false => simp

/-- element trees covered by the theorems: values, ranges, `|`, `^`, `EXCEPT`, parentheses -/
def IsElem : Cons → Prop
  | .single _ => True
  | .range _ _ => True
  | .union a b => IsElem a ∧ IsElem b
  | .inter a b => IsElem a ∧ IsElem b
  | .except a b => IsElem a ∧ IsElem b
  | .paren a => IsElem a
  | _ => False

/-- value ranges as the X.680 grammar writes them: `LowerEndValue ::= Value | MIN`,
    `UpperEndValue ::= Value | MAX` (asn1p_y.y has the same two rules) -/
def Written : Cons → Prop
  | .single _ => True
  | .range lo hi => lo ≠ .max ∧ hi ≠ .min
  | .union a b => Written a ∧ Written b
  | .inter a b => Written a ∧ Written b
  | .except a _ => Written a
  | .paren a => Written a
  | .size a => Written a
  | .ext r => Written r
  | .exta r a => Written r ∧ Written a
  | .serial a b => Written a ∧ Written b
  | .refine a b => Written a ∧ Written b

/-- every literal that the compiler looks at lies strictly inside the range of `asn1c_integer_t` -/
def LitsOK : Cons → Prop
  | .single v => ASN_INTEGER_MIN < v ∧ v < ASN_INTEGER_MAX
  | .range lo hi => EndOK lo ∧ EndOK hi
  | .union a b => LitsOK a ∧ LitsOK b
  | .inter a b => LitsOK a ∧ LitsOK b
  | .except a _ => LitsOK a
  | .paren a => LitsOK a
  | .size a => LitsOK a
  | .ext r => LitsOK r
  | .exta r a => LitsOK r ∧ LitsOK a
  | .serial a b => LitsOK a ∧ LitsOK b
  | .refine a b => LitsOK a ∧ LitsOK b

theorem visible_sub : ∀ (e : Cons) (P : ISet) (y : Int), visible P e y = true → P y = true := by
  intro e
  induction e with
  | single v | range lo hi => intro P y h; simp [visible] at h; exact h.2
  | union a b iha ihb =>
    intro P y h; simp [visible] at h
    exact h.elim (iha P y) (ihb P y)
  | inter a b iha _ => intro P y h; simp [visible] at h; exact iha P y h.1
  | except a b iha _ | paren a iha | size a iha | ext a iha | exta a b iha _ => intro P y h; exact iha P y h
  | serial a b iha ihb | refine a b iha ihb => intro P y h; exact iha P y (ihb _ y h)

theorem and_visible (e : Cons) (P : ISet) (y : Int) : (P y && visible P e y) = visible P e y := by
  cases h : visible P e y with
  | true => rw [visible_sub e P y h]; rfl
  | false => exact Bool.and_false _

theorem andLoop_nil (p : Params) (s : Bool) (range : Range) (mm : Option Range) (ex : Bool) :
    andLoop p s [] range mm ex = (.ok range, ex) := by rw [andLoop]

theorem andLoop_cons_hard {p : Params} {s : Bool} {c : CT} {rest : List CT} {range : Range} {mm : Option Range}
    {ex ex' : Bool} {res : Res} (h : compute p c (if s then some range else mm) ex = (res, ex')) (hh : Hard res) :
    andLoop p s (c :: rest) range mm ex = (res, ex') := by
  rw [andLoop, h]
  rcases hh with rfl | rfl | rfl <;> rfl

theorem andLoop_cons_ok {p : Params} {s : Bool} {c : CT} {rest : List CT} {range : Range} {mm : Option Range}
    {ex ex' : Bool} {tmp : Range} (h : compute p c (if s then some range else mm) ex = (.ok tmp, ex'))
    (hi : tmp.incompat = false) (hso : (tmp.notOER && p.strictOER) = false) (hsp : (tmp.notPER && p.strictPER) = false) :
    andLoop p s (c :: rest) range mm ex =
      match intersection range tmp s p.strictOER with
      | .error e => (Res.ofIErr e, ex')
      | .ok r => andLoop p s rest (canonicalize r) mm ex' := by
  rw [andLoop, h]
  simp only [hi, hso, hsp, Bool.false_eq_true, if_false]
  rfl

/-- one operand of an ACT_CA_SET / ACT_CA_INT that the visibility tests do not skip: if the operand yields `B` and
    the rest of the loop, started on the accumulated range cut down to `A ∩ B`, yields `Ψ`, the loop yields `Ψ`
    (it fails in the operand, fails in `_range_intersection`, or goes on) -/
theorem andLoop_step {p : Params} {s : Bool} {c : CT} {rest : List CT} {range : Range} {mm : Option Range}
    {ex : Bool} {A B : ISet} {e e' : Bool} {Ψ : Range → Prop}
    (hop : Yields (compute p c (if s then some range else mm) ex) fun ta => ReprE ta B ∧ Flags ta e')
    (hvis : (e' && p.strictOER) = false) (hr : ReprE range A) (hf : Flags range e)
    (k : ∀ range', ReprE range' (fun y => A y && B y) → Flags range' (e || e') →
      Yields (andLoop p s rest range' mm true) Ψ) :
    Yields (andLoop p s (c :: rest) range mm ex) Ψ := by
  refine hop.bind (fun _ => andLoop_cons_hard) fun ta h ⟨hta, fta⟩ => ?_
  rw [andLoop_cons_ok h hta.incompat (by rw [fta.2.1]; exact hvis) (by rw [fta.2.2]; rfl)]
  cases hi : intersection range ta s p.strictOER with
  | error e => exact .hard (hard_ofIErr e)
  | ok r =>
    obtain ⟨q1, q2⟩ := inter_E hr hta hf fta hi
    exact k _ q1 q2

/-- an operand that comes back marked not OER-visible is skipped under strict OER visibility: the loop goes on with
    the accumulated range as it is -/
theorem andLoop_skip {p : Params} {s : Bool} {c : CT} {rest : List CT} {range : Range} {mm : Option Range}
    {ex : Bool} {Ψ : Range → Prop}
    (hop : Yields (compute p c (if s then some range else mm) ex) fun ta => ta.notOER = true)
    (hso : p.strictOER = true) (k : Yields (andLoop p s rest range mm true) Ψ) :
    Yields (andLoop p s (c :: rest) range mm ex) Ψ := by
  refine hop.bind (fun _ => andLoop_cons_hard) fun ta h hta => ?_
  rw [andLoop, h]
  simp only [hta, hso, Bool.and_self, if_true, ite_self]
  exact k

theorem orStep_hard {range : Range} {res : Res} {ex' : Bool} (hh : Hard res) :
    orStep range (res, ex') = .inl (res, ex') := by
  rcases hh with rfl | rfl | rfl <;> rfl

theorem orStep_erange (range : Range) (ex' : Bool) :
    orStep range (.erange, ex') = .inr ({ range with ext := true, notOER := true }, ex') := rfl

/-- "Ignore empty constraints in OR logic" -/
theorem orStep_empty {R tb : Range} {ex : Bool} (hi : tb.incompat = false) (he : tb.empty = true) :
    orStep R (.ok tb, ex) = .inr ({ R with ext := R.ext || tb.ext, notOER := R.notOER || tb.notOER }, ex) := by
  simp [orStep, hi, he]

/-- the first non-empty operand replaces the stale elements of the accumulator -/
theorem orStep_first {R tb : Range} {ex : Bool} (hi : tb.incompat = false) (he : tb.empty = false)
    (hr : R.empty = true) : orStep R (.ok tb, ex) = .inr (mergeIn { R with els := [], empty := false } tb, ex) := by
  simp [orStep, hi, he, hr]

theorem orStep_merge {R tb : Range} {ex : Bool} (hi : tb.incompat = false) (he : tb.empty = false)
    (hr : R.empty = false) : orStep R (.ok tb, ex) = .inr (mergeIn R tb, ex) := by
  simp [orStep, hi, he, hr]

theorem cutAtMarker_ok (p : Params) (csv : Bool) (t : Range) : cutAtMarker p csv (.ok t) = false := rfl
theorem cutAtMarker_uni (p : Params) (res : Res) : cutAtMarker p false res = false := by
  cases res <;> rfl

theorem orFirst_cons_hard {p : Params} {csv : Bool} {c : CT} {rest : List CT} {range : Range} {mm : Option Range}
    {ex ex' : Bool} {res : Res} (h : compute p c mm ex = (res, ex')) (hh : Hard res) :
    orFirst p csv (c :: rest) range mm ex = (res, ex') := by
  rw [orFirst, h]
  rcases hh with rfl | rfl | rfl <;> rfl

/-- the first loop grabbed `tmp`: the second loop starts on it (marks of the clone or-ed in), with the same element -/
theorem orFirst_cons_ok {p : Params} {csv : Bool} {c : CT} {rest : List CT} {range : Range} {mm : Option Range}
    {ex ex' : Bool} {tmp : Range} (h : compute p c mm ex = (.ok tmp, ex')) (hi : tmp.incompat = false) :
    orFirst p csv (c :: rest) range mm ex =
      orRest p csv (c :: rest) { tmp with ext := tmp.ext || range.ext, notOER := tmp.notOER || range.notOER,
                                          empty := tmp.empty || range.empty } mm ex' := by
  rw [orFirst, h, orRest]
  simp only [hi, Bool.false_eq_true, if_false]

theorem orRest_cons {p : Params} {csv : Bool} {c : CT} {rest : List CT} {range : Range} {mm : Option Range}
    {ex ex' : Bool} {res : Res} (h : compute p c mm ex = (res, ex')) (hne : res ≠ .erange) :
    orRest p csv (c :: rest) range mm ex =
      match orStep range (res, ex') with
      | .inl out => out
      | .inr (r', ex'') => orRest p csv rest r' mm ex'' := by
  rw [orRest, h]
  cases res with
  | erange => exact absurd rfl hne
  | _ => rfl

theorem orRest_nil (p : Params) (csv : Bool) (range : Range) (mm : Option Range) (ex : Bool) :
    orRest p csv [] range mm ex = orFinish p range mm ex := by rw [orRest]

/-- the extension marker in the second loop: the additions that follow are dropped when the
    `break` of the repaired code fires, merged otherwise -/
theorem orRest_cons_marker {p : Params} {csv : Bool} {c : CT} {rest : List CT} {range : Range} {mm : Option Range}
    {ex ex' : Bool} (h : compute p c mm ex = (.erange, ex')) :
    orRest p csv (c :: rest) range mm ex =
      if csv && (p.rootOnly || p.strictPER) then orFinish p { range with ext := true, notOER := true } mm ex'
      else orRest p csv rest { range with ext := true, notOER := true } mm ex' := by
  rw [orRest, h]
  simp only [orStep_erange, cutAtMarker]
  by_cases h' : (csv && (p.rootOnly || p.strictPER)) = true <;> simp [h']

theorem Acc.congr {R : Range} {S S' : Int → Bool} (h : Acc R S) (e : ∀ y, S y = S' y) : Acc R S' := by
  refine ⟨h.1, ?_⟩
  rcases h.2 with ⟨a, b, c, d⟩ | ⟨a, b⟩
  · exact Or.inl ⟨a, b, c, fun y => by rw [d y, e y]⟩
  · exact Or.inr ⟨a, fun y => by rw [← e y, b y]⟩

theorem Acc.flags {R : Range} {S : Int → Bool} (h : Acc R S) (e o q : Bool) :
    Acc { R with ext := e, notOER := o, notPER := q } S := h

/-- the elements of a canonical range add nothing to its set (they are its leaves, or there are none) -/
theorem den_els {ta : Range} {Sa : Int → Bool} (ha : Repr ta Sa) (y : Int) : (den ta.els y || Sa y) = Sa y := by
  rw [Bool.or_comm]
  refine Bool.or_eq_left_iff_imp.mpr fun h => ?_
  obtain ⟨i, hi, hy⟩ := den_eq_true.mp h
  rw [← ha.den y]; exact den_eq_true.mpr ⟨i, els_sub_leaves ta i hi, hy⟩

/-- `_range_merge_in` of a non-empty operand into an accumulator that is not flagged empty -/
theorem Acc.merge {R tb : Range} {S Sb : ISet} (hi : R.incompat = false) (he : R.empty = false) (hg : Good R.els)
    (hb : Repr tb Sb) (hd : ∀ y, (den R.els y || Sb y) = S y) : Acc (mergeIn R tb) S :=
  ⟨hi, Or.inl ⟨he, fun h => leaves_ne_nil tb (List.append_eq_nil_iff.mp h).2, Good.append hg hb.good,
    fun y => by rw [← hd y, ← hb.den y]; exact den_append ..⟩⟩

theorem orFinish_clean {p : Params} {range : Range} {mm : Option Range} {ex : Bool}
    (h : (canonicalize range).notPER = false) : orFinish p range mm ex = (.ok (canonicalize range), ex) := by
  simp [orFinish, h]

/-- the end of the CSV/UNI case when X.691 #9.3.19 does not apply: `_range_canonicalize` of what was
    accumulated, flags as they are -/
theorem orFinish_yields {p : Params} {R : Range} {mm : Option Range} {S : ISet} {e : Bool} (hR : Acc R S)
    (hf : Flags R e) : Yields (orFinish p R mm true) fun t => ReprE t S ∧ Flags t e := by
  rw [orFinish_clean hf.canonicalize.2.2]
  exact .ok ⟨hR.canonicalize, hf.canonicalize⟩

theorem mergeIn_flags {into cr : Range} {e e' : Bool} (h : Flags into e) (h' : Flags cr e') :
    Flags (mergeIn into cr) (e || e') := by
  obtain ⟨a1, a2, a3⟩ := h; obtain ⟨b1, b2, b3⟩ := h'
  refine ⟨?_, ?_, ?_⟩
  · show (into.ext || cr.ext) = (e || e'); rw [a1, b1]
  · show (into.notOER || cr.notOER || (into.ext || cr.ext)) = (e || e'); rw [a1, a2, b1, b2, Bool.or_self]
  · show (into.notPER || cr.notPER) = false; rw [a3, b3]; rfl

/-- the marker of an ACT_CA_CSV met by the second loop -/
theorem Flags.marker {R : Range} {e : Bool} (h : Flags R e) : Flags { R with ext := true, notOER := true } true :=
  ⟨rfl, rfl, h.2.2⟩

/-- the first operand of an ACT_CA_CSV / ACT_CA_UNI (an element tree under the clone of the parent: no marks on
    either): grabbed by the first loop, merged into itself by the second, which then goes on -/
theorem orFirst_step {p : Params} {csv : Bool} {c : CT} {rest : List CT} {range : Range} {mm : Option Range}
    {Sa : ISet} {Ψ : Range → Prop}
    (hop : Yields (compute p c mm true) fun ta => ReprE ta Sa ∧ Flags ta false) (hre : range.empty = false)
    (hf : Flags range false) (k : ∀ R, Acc R Sa → Flags R false → Yields (orRest p csv rest R mm true) Ψ) :
    Yields (orFirst p csv (c :: rest) range mm true) Ψ := by
  refine hop.bind (fun _ => orFirst_cons_hard) fun ta h ⟨hta, fta⟩ => ?_
  rw [orFirst_cons_ok h hta.incompat, orRest_cons h nofun]
  have f0 : ∀ em, Flags { ta with ext := ta.ext || range.ext, notOER := ta.notOER || range.notOER, empty := em }
      false := fun _ => fta.or hf rfl rfl rfl
  rcases hta with ha | ha
  · have he : (ta.empty || range.empty) = false := by rw [ha.empty, hre]; rfl
    rw [orStep_merge ha.incompat ha.empty he]
    exact k _ (Acc.merge ha.incompat he (fun p hp => ha.good p (els_sub_leaves ta p hp)) ha (den_els (ta := ta) ha))
      (mergeIn_flags (f0 _) fta)
  · rw [orStep_empty ha.2.2 ha.2.1]
    refine k _ ⟨ha.2.2, Or.inr ⟨?_, ha.1⟩⟩ ((f0 _).or fta rfl rfl rfl)
    show (ta.empty || range.empty) = true
    rw [ha.2.1]; rfl

theorem orStep_acc {R tb : Range} {S Sb : ISet} {e e' : Bool} (hR : Acc R S) (hf : Flags R e)
    (hb : ReprE tb Sb) (fb : Flags tb e') :
    ∃ R', orStep R (.ok tb, true) = .inr (R', true) ∧ Acc R' (fun y => S y || Sb y) ∧ Flags R' (e || e') := by
  rcases hb with hb | hb
  · rcases hR.2 with ⟨r1, _, r3, r4⟩ | ⟨r1, r2⟩
    · exact ⟨_, orStep_merge hb.incompat hb.empty r1, Acc.merge hR.1 r1 r3 hb fun y => by rw [r4 y],
        mergeIn_flags hf fb⟩
    · exact ⟨_, orStep_first hb.incompat hb.empty r1,
        Acc.merge (R := { R with els := [], empty := false }) hR.1 rfl Good.nil hb fun y => by rw [r2 y]; rfl,
        mergeIn_flags (into := { R with els := [], empty := false }) hf fb⟩
  · exact ⟨_, orStep_empty hb.2.2 hb.2.1, (Acc.flags hR _ _ _).congr (fun y => by rw [hb.1 y]; simp),
      hf.or fb rfl rfl rfl⟩

theorem orRest_step {p : Params} {csv : Bool} {c : CT} {rest : List CT} {R : Range} {mm : Option Range}
    {S Sb : ISet} {e e' : Bool} {Ψ : Range → Prop}
    (hop : Yields (compute p c mm true) fun tb => ReprE tb Sb ∧ Flags tb e') (hR : Acc R S) (hf : Flags R e)
    (k : ∀ R', Acc R' (fun y => S y || Sb y) → Flags R' (e || e') → Yields (orRest p csv rest R' mm true) Ψ) :
    Yields (orRest p csv (c :: rest) R mm true) Ψ := by
  refine hop.bind (fun _ h hh => by rw [orRest_cons h (hard_ne_erange hh), orStep_hard hh]) fun tb h ⟨hb, fb⟩ => ?_
  obtain ⟨R', e1, a1, f1⟩ := orStep_acc hR hf hb fb
  rw [orRest_cons h nofun, e1]
  exact k R' a1 f1

/-- **asn1constraint_compute_constraint_range on an element tree** computes the canonical form of
    `Spec.visible P e` (P = the parent's set; flagged empty when `visible P e` is empty), with clear
    flags — or fails. -/
theorem compute_elem {p : Params} {e : Cons} (he : IsElem e) {range : Range} {P : ISet} (hM : Parent p range P)
    (hw : Written e) (hl : LitsOK e) :
    Yields (compute p (elemCT e) (some range) true) fun r => ReprE r (visible P e) ∧ Flags r false := by
  induction e generalizing range P with
  | single v =>
    rw [hM.compute]
    refine (leaf_spec range (.val v) (.val v) hM.repr hM.clean nofun nofun hl hl).mono
      fun r ⟨e2, e3⟩ => ⟨e2.congr fun y => ?_, e3⟩
    simp only [visible, End.below, End.above]
    congr 1
    rw [Bool.eq_iff_iff]; simp; omega
  | range lo hi =>
    rw [hM.compute]
    exact leaf_spec range lo hi hM.repr hM.clean hw.1 hw.2 hl.1 hl.2
  | union a b iha ihb =>
    rw [hM.compute]
    refine orFirst_step (iha he.1 hM hw.1 hl.1) hM.repr.empty hM.clean fun R1 a1 f1 => ?_
    refine orRest_step (ihb he.2 hM hw.2 hl.2) a1 f1 fun R2 a2 f2 => ?_
    rw [orRest_nil]
    exact orFinish_yields a2 f2
  | inter a b iha ihb =>
    rw [hM.compute]
    refine andLoop_step (s := false) (iha he.1 hM hw.1 hl.1) rfl (Or.inl hM.repr) hM.clean fun r1 q1 c1 => ?_
    refine andLoop_step (s := false) (ihb he.2 hM hw.2 hl.2) rfl q1 c1 fun r2 q2 c2 => ?_
    rw [andLoop_nil]
    refine .ok ⟨q2.congr fun y => ?_, c2⟩
    show (P y && visible P a y && visible P b y) = (visible P a y && visible P b y)
    rw [and_visible]
  | except a b iha _ =>
    rw [hM.compute]
    exact iha he.1 hM hw hl
  | paren a iha =>
    rw [hM.compute]
    refine andLoop_step (s := true) (iha he hM hw hl) rfl (Or.inl hM.repr) hM.clean fun r1 q1 c1 => ?_
    rw [andLoop_nil]
    exact .ok ⟨q1.congr (and_visible a P), c1⟩
  | size | ext | exta | serial | refine => exact he.elim

end Asn1c.Impl.CRange
