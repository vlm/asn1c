import Asn1cModel.L2.UperVariants
/-
  One defining equation of each function of the version-skew UPER encoder (`L2/UperVariants.lean`): `encUV` on a
  SET OF, the list functions on the empty list or the first alternative; asked for upstream of
  Proofs/L2UperVariants for the reason given in Proofs/L2UperEqns.
-/
namespace Asn1c.Proofs.L2UperVariants
open Asn1c Asn1c.L2 Asn1c.L2.UperVar
open Asn1c.L2.OerVar (VSt)

/-- BASIC-PER does not sort: a SET OF is encoded like a SEQUENCE OF -/
theorem encUV_setOf (sz : SizeC) (e : PTy) (vs : List Val) (s : VSt) :
    encUV (.setOf sz e) (.list vs) s = encUV (.seqOf sz e) (.list vs) s := by rw [encUV, encUV]

theorem encRootU_nil (as : List Attr) (vs : List Val) (s : VSt) : encRootU [] as vs s = some ([], [], vs, s) := by
  rw [encRootU]

theorem encAddsU_nil (s : VSt) : encAddsU [] [] s = some ([], [], s) := by rw [encAddsU]

theorem encAltU_zero (a : PTy) (as : List PTy) (v : Val) (s : VSt) : encAltU (a :: as) 0 v s = encUV a v s := by
  rw [encAltU]

end Asn1c.Proofs.L2UperVariants
