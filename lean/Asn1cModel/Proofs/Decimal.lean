import Asn1cModel.Spec.Oid
import Asn1cModel.Spec.Twos
/- Decimal numerals, on the side of the specification only.  `Spec.digitsVal`, the number a digit string denotes (its
   equations and `digitsVal_ge`, in the namespace `Asn1c.Proofs.Strtox` of the parsers that are specified by it), and
   the numeral of a number: `Spec.Oid.decimal` (the text of an arc), `Impl.Unber.decDigits` (`%ld` in unber's output) and
   `L2.Xer.natDec` (`%ld` in an XER INTEGER body) are one function; the last two are written with fuel, so that closed
   terms evaluate in the kernel, and `decimal_of_fuel` identifies any such fuelled copy with `decimal`.  What is
   proved here about `decimal` (a run of digits that denotes its number: `decimal_digits`) then serves
   OBJECT_IDENTIFIER.c (Proofs/Oid), enber (Proofs/Enber) and the XER codec (Proofs/L2XerBody).  These lemmas stand in the
   namespace `Asn1c.Proofs.Oid`. -/
namespace Asn1c.Proofs.Strtox
open Asn1c.Spec (digitsVal)

/- unfold `digitsVal` through these two lemmas: the generated equation lemmas time out in `whnf` -/
theorem digitsVal_nil (acc : Nat) : digitsVal acc [] = acc := rfl

theorem digitsVal_cons (acc c : Nat) (cs : List Nat) :
    digitsVal acc (c :: cs) = digitsVal (acc * 10 + (c - 0x30)) cs := by
  delta digitsVal; rfl

theorem digitsVal_append (acc : Nat) (xs ys : List Nat) :
    digitsVal acc (xs ++ ys) = digitsVal (digitsVal acc xs) ys := by
  induction xs generalizing acc with
  | nil => rfl
  | cons x xs ih => rw [List.cons_append, digitsVal_cons, digitsVal_cons, ih]

theorem digitsVal_ge (acc : Nat) (cs : List Nat) : acc ≤ digitsVal acc cs := by
  induction cs generalizing acc with
  | nil => exact Nat.le_refl _
  | cons c cs ih =>
    rw [digitsVal_cons]
    have := ih (acc * 10 + (c - 0x30)); omega

end Asn1c.Proofs.Strtox

namespace Asn1c.Proofs.Oid
open Asn1c Asn1c.Spec.Oid

theorem decimal_lt (n : Nat) (h : n < 10) : decimal n = [48 + n] := by
  rw [decimal]; simp [h]

theorem decimal_ge (n : Nat) (h : ¬ n < 10) : decimal n = decimal (n / 10) ++ [48 + n % 10] := by
  rw [decimal]; simp [h]

theorem decimal_length_pos (n : Nat) : 0 < (decimal n).length := by
  rw [decimal]; split <;> simp

/-- a copy of `decimal` that recurses on fuel instead: with at least `n` units it is `decimal n` -/
theorem decimal_of_fuel (F : Nat → Nat → List Nat) (h0 : F 0 0 = [48])
    (hs : ∀ f n, F (f + 1) n = if n < 10 then [48 + n] else F f (n / 10) ++ [48 + n % 10]) :
    ∀ f n, n ≤ f → F f n = decimal n := by
  intro f
  induction f with
  | zero => intro n h; rw [Nat.le_zero.1 h, h0, decimal_lt 0 (by decide)]
  | succ f ih =>
    intro n h
    rw [hs]
    by_cases h10 : n < 10
    · rw [if_pos h10, decimal_lt n h10]
    · rw [if_neg h10, ih (n / 10) (by omega), decimal_ge n h10]

open Asn1c.Spec (digitsVal allDigits)

theorem decimal_digits (n : Nat) : allDigits (decimal n) ∧ digitsVal 0 (decimal n) = n := by
  fun_induction decimal n with
  | case1 n h =>
    refine ⟨fun c hc => by rw [List.mem_singleton.mp hc]; omega, ?_⟩
    rw [Strtox.digitsVal_cons, Strtox.digitsVal_nil]; omega
  | case2 n h ih =>
    refine ⟨fun c hc => ?_, ?_⟩
    · rcases List.mem_append.mp hc with hc | hc
      · exact ih.1 c hc
      · rw [List.mem_singleton.mp hc]; omega
    · rw [Strtox.digitsVal_append, ih.2, Strtox.digitsVal_cons, Strtox.digitsVal_nil]; omega

theorem decimal_head (n : Nat) : ∃ c t, decimal n = c :: t ∧ 48 ≤ c ∧ c ≤ 57 := by
  obtain ⟨c, t, e⟩ := List.exists_cons_of_length_pos (decimal_length_pos n)
  exact ⟨c, t, e, (decimal_digits n).1 c (e ▸ List.mem_cons_self)⟩

end Asn1c.Proofs.Oid
