import Asn1cModel.Impl.Unber
import Asn1cModel.Proofs.BerFetch
import Asn1cModel.Proofs.UnberPass
/-
  `unber -p` on ARBITRARY input: the model never reads `tagbuf` out of bounds, none of the `assert()`s of
  `process_deeper` can fire, the fuel `length input + 1` is never exhausted (termination), and the accounting is sound:
  what an activation reports in `*frame_size` never exceeds its `limit`, and the input it leaves is a suffix of the
  input it got.  One turn of the loop is taken from `UnberPass.pd_succ`, where no out-of-bounds outcome is left;
  `fetchTag_safe`, `fetchLength_safe` say the same of the two TL decoders on their own.
-/
namespace Asn1c.Proofs.UnberSafe
open Asn1c Asn1c.Impl.UnberTlv Asn1c.Impl.Unber Asn1c.Proofs.UnberPass

/-- an answer carried over from `Impl.BerTlv` is never `oob`, and what holds of an `ok` answer there holds of it -/
theorem ofBer_safe {α β : Type} {f : α → β} {P : β → Nat → Prop} {r : Impl.BerTlv.Fetch α}
    (h : ∀ v n, r = .ok v n → P (f v) n) :
    UnberTlv.ofBer f r ≠ .oob ∧ ∀ w n, UnberTlv.ofBer f r = .ok w n → P w n := by
  cases r with
  | ok v n => exact ⟨nofun, fun w m e => by cases e; exact h v n rfl⟩
  | more => exact ⟨nofun, nofun⟩
  | fail => exact ⟨nofun, nofun⟩

/-- `ber_fetch_tag` handed the octets stored and their number stays inside them -/
theorem fetchTag_safe (buf : Bytes) :
    fetchTag buf buf.length ≠ .oob ∧ ∀ t n, fetchTag buf buf.length = .ok t n → 1 ≤ n ∧ n ≤ buf.length := by
  rw [UnberTlv.fetchTag_eq buf]
  exact ofBer_safe fun _ _ h => (BerTlv.fetchTag_ext buf []).out h

theorem fetchLength_safe (constr : Bool) (buf : Bytes) :
    fetchLength constr buf buf.length ≠ .oob ∧ ∀ l n, fetchLength constr buf buf.length = .ok l n →
      1 ≤ n ∧ n ≤ buf.length ∧ -1 ≤ l ∧ (constr = false → 0 ≤ l) := by
  rw [UnberTlv.fetchLength_eq constr buf]
  exact ofBer_safe fun _ _ h => (BerTlv.fetchLength_ext constr buf []).out h

/-- a good outcome of an activation entered with `limit`, input `inp`, `bytesRead = off` -/
def SafeR (limit : Int) (inp : Bytes) (off : Nat) : R → Prop
  | .done _ frame inp' off' _ =>
      (limit ≠ -1 → (frame : Int) ≤ limit) ∧ ∃ consumed, inp = consumed ++ inp' ∧ off' = off + consumed.length
  | .failed _ _ => True
  | .oob _ => False
  | .assertion _ => False
  | .nofuel => False

theorem SafeR.pre {limit : Int} {inp : Bytes} {off : Nat} {r : R} (o : List Out) (h : SafeR limit inp off r) :
    SafeR limit inp off (r.pre o) := by
  cases r <;> exact h

/-- the rest of the loop ran with `limit2`, input `inp2`, offset `off2`, after this iteration
    consumed `c` and added `k` to the frame -/
theorem SafeR.shift {limit limit2 : Int} {inp inp2 c : Bytes} {off off2 k : Nat} {r : R}
    (h : SafeR limit2 inp2 off2 r) (hi : inp = c ++ inp2) (ho : off2 = off + c.length)
    (hl : limit ≠ -1 → limit2 ≠ -1 ∧ limit2 + k ≤ limit) :
    SafeR limit inp off (r.addFrame k) := by
  cases r with
  | done p f i o' out =>
    simp only [SafeR, R.addFrame] at h ⊢
    obtain ⟨h1, c2, h2, h3⟩ := h
    refine ⟨fun hne => ?_, c ++ c2, by rw [hi, h2, List.append_assoc], by rw [h3, ho, List.length_append]; omega⟩
    have := hl hne
    have := h1 this.1
    push_cast; omega
  | failed e out => simp [SafeR, R.addFrame]
  | oob out => exact h
  | assertion out => exact h
  | nofuel => exact h

theorem SafeR.cons {limit : Int} {inp : Bytes} {off : Nat} {r : R} (ch : Nat)
    (h : SafeR limit inp (off + 1) r) : SafeR limit (ch :: inp) off r := by
  cases r with
  | done p f i o' out =>
    simp only [SafeR] at h ⊢
    obtain ⟨h1, c, h2, h3⟩ := h
    exact ⟨h1, ch :: c, by rw [h2]; rfl, by rw [h3, List.length_cons]; omega⟩
  | failed e out => trivial
  | oob out => exact h
  | assertion out => exact h
  | nofuel => exact h

/-- what `afterTL` needs from `process_deeper` itself -/
def RecSafe (rec : Loop) (f : Nat) : Prop :=
  ∀ (level : Nat) (eoc : Bool) (tagbuf : Bytes) (limit : Int) (esize : Nat) (pdc : Pdc) (inp : Bytes) (off : Nat),
    -1 ≤ limit → inp.length < f → SafeR limit inp off (rec level eoc tagbuf limit esize pdc inp off)

/-- the tail of a pass is safe when the contents were dealt with safely within `limit1`, what is left of the limit
    behind the TL -/
theorem afterBody_safe (rec : Loop) (f : Nat) (hrec : RecSafe rec f)
    (level : Nat) (eoc : Bool) (hdr : Bytes) (limit limit1 : Int) (esize tag : Nat) (len : Int) (constr : Bool)
    (o1 : List Out) (inp : Bytes) (off : Nat) (r : R)
    (hl1 : limit = -1 ∧ limit1 = -1 ∨ limit ≠ -1 ∧ limit1 = limit - hdr.length ∧ 0 ≤ limit1)
    (hr : SafeR limit1 inp off r) (hf : inp.length < f) :
    SafeR limit inp off (afterBody rec level eoc hdr limit1 esize tag len constr o1 r) := by
  cases r with
  | done cpdc dec inp2 off2 o2 =>
    obtain ⟨hdec, cc, hcc, hoff2⟩ := hr
    have hdone : ∀ (p : Pdc) (o : List Out), SafeR limit inp off (.done p (hdr.length + dec) inp2 off2 o) :=
      fun p o => ⟨fun hm => by push_cast; omega, cc, hcc, hoff2⟩
    -- the rest of the loop, after this pass consumed `cc` and added `hdr.length + dec` to the frame
    have hnext : ∀ (o : List Out), SafeR limit inp off
        (((rec level eoc [] (limSub limit1 dec) (esize + hdr.length + dec) cpdc inp2 off2).addFrame
          (hdr.length + dec)).pre o) := fun o => by
      have h2 := limSub_spec limit1 dec
      refine SafeR.pre _ (SafeR.shift (hrec level eoc [] _ _ cpdc inp2 off2 (by omega) ?_) hcc hoff2 fun hm =>
        ⟨by omega, by push_cast; omega⟩)
      have := congrArg List.length hcc
      rw [List.length_append] at this; omega
    unfold afterBody
    -- `assert(limit >= dec)` resp. `assert(limit >= tlv_len)`
    exact iteInduction (fun c => (by omega : False)) fun _ =>
      iteInduction (fun _ => iteInduction (fun _ => hdone _ _) fun _ => hnext _)
        fun _ => iteInduction (fun _ => hdone _ _) fun _ => hnext _
  | failed e out => trivial
  | oob out => exact hr.elim
  | assertion out => exact hr.elim
  | nofuel => exact hr.elim

theorem afterTL_safe (rec : Loop) (f : Nat) (hrec : RecSafe rec f)
    (level : Nat) (eoc : Bool) (tagbuf : Bytes) (limit : Int) (esize : Nat) (pdc : Pdc) (inp : Bytes)
    (off tag : Nat) (len : Int) (constr isEoc : Bool)
    (hlim : limit = -1 ∨ ((tagbuf.length : Nat) : Int) ≤ limit) (hlen : -1 ≤ len)
    (hprim : constr = false → 0 ≤ len) (hf : inp.length < f) :
    SafeR limit inp off (afterTL rec level eoc tagbuf limit esize pdc inp off tag len constr isEoc) := by
  have hl1 : limit = -1 ∧ limSub limit tagbuf.length = -1 ∨
      limit ≠ -1 ∧ limSub limit tagbuf.length = limit - tagbuf.length ∧ 0 ≤ limSub limit tagbuf.length := by
    have := limSub_spec limit tagbuf.length; omega
  -- the five `assert`s of the C code are the branches refuted with `omega`: first `assert(limit >= 0)`
  cases isEoc with
  | true =>
    rw [afterTL_eoc]
    exact iteInduction (fun c => (by omega : False)) fun _ => iteInduction (fun _ => trivial) fun _ =>
      ⟨fun _ => by omega, [], rfl, rfl⟩
  | false =>
    cases constr with
    | true =>
      rw [afterTL_constr]
      -- `assert(limit >= tlv_len)` before the child activation
      refine iteInduction (fun c => (by omega : False)) fun _ => iteInduction (fun _ => trivial) fun c2 =>
        iteInduction (fun c => (by omega : False)) fun _ => iteInduction (fun _ => trivial) fun _ =>
        afterBody_safe rec f hrec _ _ _ limit _ _ _ _ _ _ inp off _ hl1 ?_ hf
      -- the child's limit is `len`, or what is left of ours: either way its frame fits `limit1`
      have hchild := hrec (level + 1) (len == -1) [] (if len = -1 then limSub limit tagbuf.length else len)
        tagbuf.length .finished inp off (by split <;> omega) hf
      revert hchild
      generalize rec (level + 1) (len == -1) [] _ tagbuf.length .finished inp off = r
      cases r with
      | done p fr i o' out => exact fun h => ⟨fun hm => by have := h.1; split at this <;> omega, h.2⟩
      | _ => exact id
    | false =>
      have hlen0 : 0 ≤ len := hprim rfl
      have hn : (len.toNat : Int) = len := Int.toNat_of_nonneg hlen0
      rw [afterTL_primitive]
      -- `assert(tlv_len >= 0)`
      refine iteInduction (fun c => (by omega : False)) fun _ => iteInduction (fun _ => trivial) fun c2 =>
        iteInduction (fun c => (by omega : False)) fun _ => iteInduction (fun _ => trivial) fun c3 =>
        afterBody_safe rec f hrec _ _ _ limit _ _ _ _ _ _ inp off _ hl1 ?_ hf
      have htl : (inp.take len.toNat).length = len.toNat := by
        have := List.length_take_le len.toNat inp; omega
      exact ⟨fun hm => by omega, inp.take len.toNat, (List.take_append_drop _ _).symm, by rw [htl]⟩

/-- one loop iteration that reads the octet `ch` (so `limit ≠ 0`), relative to the input after `ch` -/
theorem pd_cons_safe (fuel : Nat) (ih : RecSafe (pd fuel) fuel)
    (level : Nat) (eoc : Bool) (tagbuf : Bytes) (limit : Int) (esize : Nat) (pdc : Pdc) (ch : Nat) (inp1 : Bytes)
    (off : Nat) (hlim : -1 ≤ limit) (c0 : limit ≠ 0) (hf : inp1.length < fuel) :
    SafeR limit inp1 (off + 1) (pd (fuel + 1) level eoc tagbuf limit esize pdc (ch :: inp1) off) := by
  rw [pd_succ, if_neg c0]
  refine iteInduction (fun _ => trivial) fun c1 => iteInduction (fun _ => trivial) fun c2 => ?_
  dsimp only
  cases h : readTL eoc (tagbuf ++ [ch]) with
  | more => exact ih level eoc _ limit esize pdc inp1 (off + 1) hlim hf
  | bad e => trivial
  | ok tag len constr isEoc =>
    have hl := readTL_len h
    -- the test `c1` at the loop head has failed, so the octet just stored still fits the limit
    have hlim1 : limit = -1 ∨ (((tagbuf ++ [ch]).length : Nat) : Int) ≤ limit := by
      rw [List.length_append, List.length_singleton]; push_cast; omega
    exact afterTL_safe (pd fuel) fuel ih level eoc (tagbuf ++ [ch]) limit esize pdc inp1 (off + 1) tag len constr isEoc
      hlim1 hl.1 hl.2 hf

/-- `process_deeper` on arbitrary input, with `fuel > length input` -/
theorem pd_safe : ∀ (fuel : Nat), RecSafe (pd fuel) fuel := by
  intro fuel
  induction fuel with
  | zero => intro _ _ _ _ _ _ inp _ _ h; omega
  | succ fuel ih =>
    intro level eoc tagbuf limit esize pdc inp off hlim hf
    have hdone0 : limit = 0 → SafeR limit inp off (.done .finished 0 inp off []) :=
      fun c0 => ⟨fun _ => by omega, [], rfl, rfl⟩
    cases inp with
    | nil =>
      rw [pd]
      refine iteInduction hdone0 fun c0 => iteInduction (fun _ => trivial) fun c1 => iteInduction (fun _ => trivial)
        fun c2 => iteInduction (fun _ => trivial) fun h => ⟨fun hm => ?_, [], rfl, rfl⟩
      simp only [not_or] at h
      omega
    | cons ch inp1 =>
      by_cases c0 : limit = 0
      · rw [pd, if_pos c0]; exact hdone0 c0
      · simp only [List.length_cons] at hf
        exact SafeR.cons ch (pd_cons_safe fuel ih level eoc tagbuf limit esize pdc ch inp1 off hlim c0 (by omega))

/-- the top-level loop: `unber -p` never reaches `oob`, `assertion`, `nofuel` -/
theorem stream_safe : ∀ (fuel : Nat) (inp : Bytes) (off : Nat), inp.length < fuel →
    (stream fuel inp off).1 = .ok ∨ ∃ e, (stream fuel inp off).1 = .failed e := by
  intro fuel
  induction fuel with
  | zero => intro inp _ h; omega
  | succ fuel ih =>
    intro inp off hf
    cases inp with
    | nil => simp [stream, pd]
    | cons ch inp1 =>
      simp only [List.length_cons] at hf
      have hs := pd_cons_safe (inp1.length + 1) (pd_safe _) 0 false [] (-1) 0 .finished ch inp1 off (by omega)
        (by omega) (by omega)
      rw [stream]
      simp only [List.length_cons]
      generalize pd (inp1.length + 1 + 1) 0 false [] (-1) 0 .finished (ch :: inp1) off = r at hs
      cases r with
      | done p fr inp2 off2 out =>
        obtain ⟨_, c, hc, _⟩ := hs
        cases p with
        | finished =>
          have := congrArg List.length hc
          rw [List.length_append] at this
          exact ih inp2 off2 (by omega)
        | eof => simp
      | failed e out => simp
      | _ => exact hs.elim

/-- `unber -p` on arbitrary bytes terminates (the fuel is never exhausted), never indexes
    `tagbuf` out of bounds and never trips an `assert()`: it either succeeds or stops with one
    of the nine diagnostics (the ninth: the nesting limit). -/
theorem unber_total (inp : Bytes) :
    (unber inp).1 = .ok ∨ ∃ e, (unber inp).1 = .failed e := by
  have := stream_safe (inp.length + 1) inp 0 (by omega)
  simpa [unber, unberOuts] using this

end Asn1c.Proofs.UnberSafe
