import Asn1cModel.Impl.Time
import Asn1cModel.Spec.Time
/- Lemmas behind the time half of C17 (property theorems: Props/C17.lean).
   Calendar: `dby` grows by the length of the year, so it is the spec's year-by-year count and is monotone;
   the bounded searches of `civilFromDays` invert a monotone function, which gives both inverse theorems.
   Text: `tmOf` is the `struct tm` of a date-time; `gmtime` of an instant in 0000..9999 is such a record, the
   printer turns it into the fourteen digits and the parser reads them back into it. -/
namespace Asn1c.Proofs.Time
open Asn1c Asn1c.Impl.Time

theorem mono_of_step (f : Nat → Nat) (hs : ∀ m, f m ≤ f (m + 1)) {a b : Nat} (h : a ≤ b) : f a ≤ f b := by
  induction h with
  | refl => exact Nat.le_refl _
  | step _ ih => exact Nat.le_trans ih (hs _)

theorem lt_of_lt_mono (f : Nat → Nat) (hs : ∀ m, f m ≤ f (m + 1)) {a b x : Nat} (h1 : f a ≤ x) (h2 : x < f b) :
    a < b := by
  refine Nat.lt_of_not_le fun h => ?_
  have hba : f b ≤ f a := mono_of_step f hs h
  omega

theorem bracket_unique (f : Nat → Nat) (hs : ∀ m, f m ≤ f (m + 1)) {a b x : Nat} (ha1 : f a ≤ x) (ha2 : x < f (a + 1))
    (hb1 : f b ≤ x) (hb2 : x < f (b + 1)) : a = b :=
  Nat.le_antisymm (Nat.le_of_lt_succ (lt_of_lt_mono f hs ha1 hb2)) (Nat.le_of_lt_succ (lt_of_lt_mono f hs hb1 ha2))

theorem searchUp_spec (f : Nat → Nat) (x fuel y : Nat) (h1 : f y ≤ x) (h2 : x < f (y + fuel)) :
    f (searchUp f x y fuel) ≤ x ∧ x < f (searchUp f x y fuel + 1) := by
  fun_induction searchUp f x y fuel with
  | case1 y => exact absurd h1 (Nat.not_le.mpr h2)
  | case2 y fuel hle ih => exact ih hle (by rwa [Nat.add_right_comm, Nat.add_assoc])
  | case3 y fuel hnle => exact ⟨h1, Nat.not_le.mp hnle⟩

/-- a ceiling quotient steps up exactly at the multiples of the divisor.  Both `k` and `j = k - 1` are
    arguments so that `ceil_succ 4 3 y rfl` reads `(y + 1 + 3) / 4 = …` literally, as `dby_succ` rewrites with it. -/
theorem ceil_succ (k j y : Nat) (hk : k = j + 1) :
    (y + 1 + j) / k = (y + j) / k + if y % k = 0 then 1 else 0 := by
  subst hk
  rw [Nat.add_right_comm, Nat.succ_div, Nat.add_assoc]
  simp only [Nat.dvd_iff_mod_eq_zero, Nat.add_mod_right]

/-- subtraction-free form of `dby` -/
theorem dby_add (y : Nat) : dby y + (y + 99) / 100 = 365 * y + (y + 3) / 4 + (y + 399) / 400 := by
  unfold dby; omega

theorem isLeap_iff (y : Nat) : isLeap y = true ↔ (y % 4 = 0 ∧ (y % 100 ≠ 0 ∨ y % 400 = 0)) := by
  unfold isLeap; simp

/-- the leap rule counts the multiples of 4, less those of 100, plus those of 400 -/
theorem isLeap_count (y : Nat) : (if isLeap y then 1 else 0) + (if y % 100 = 0 then 1 else 0) =
    (if y % 4 = 0 then 1 else 0) + (if y % 400 = 0 then 1 else 0) := by
  have h1 : y % 400 = 0 → y % 100 = 0 := by omega
  have h2 : y % 100 = 0 → y % 4 = 0 := by omega
  unfold isLeap
  by_cases h400 : y % 400 = 0
  · simp [h400, h1 h400, h2 (h1 h400)]
  · by_cases h100 : y % 100 = 0
    · simp [h400, h100, h2 h100]
    · by_cases h4 : y % 4 = 0 <;> simp [h400, h100, h4]

theorem dbm_12 (leap : Bool) : dbm leap 12 = 365 + (if leap then 1 else 0) := rfl

theorem dby_succ (y : Nat) : dby (y + 1) = dby y + dbm (isLeap y) 12 := by
  have h1 := dby_add y
  have h2 := dby_add (y + 1)
  rw [ceil_succ 4 3 y rfl, ceil_succ 100 99 y rfl, ceil_succ 400 399 y rfl] at h2
  have hl := isLeap_count y
  rw [dbm_12]
  -- the four indicators are atoms to `omega`
  omega

theorem dby_step (y : Nat) : dby y ≤ dby (y + 1) := by
  rw [dby_succ]; omega

theorem dby_mono {a b : Nat} (h : a ≤ b) : dby a ≤ dby b := mono_of_step dby dby_step h

theorem dby_strict {a b : Nat} (h : a < b) : dby a < dby b := by
  have h1 : dby (a + 1) ≤ dby b := dby_mono h
  rw [dby_succ, dbm_12] at h1; omega

theorem dby_400 : dby 400 = 146097 := by decide
theorem dby_0 : dby 0 = 0 := by decide

theorem dby_le_366 (y : Nat) : dby y ≤ 366 * y := by
  induction y with
  | zero => simp [dby_0]
  | succ y ih => rw [dby_succ, dbm_12]; split <;> omega

theorem findYear_era (doe : Nat) (h : doe < 146097) :
    dby (findYear doe) ≤ doe ∧ doe < dby (findYear doe + 1) ∧ findYear doe < 400 := by
  have h0 : dby (doe / 366) ≤ doe := by
    have := dby_le_366 (doe / 366); omega
  have h1 : doe < dby (doe / 366 + 400) := by
    have := dby_mono (show 400 ≤ doe / 366 + 400 by omega); rw [dby_400] at this; omega
  obtain ⟨a, b⟩ := searchUp_spec dby doe 400 (doe / 366) h0 h1
  exact ⟨a, b, lt_of_lt_mono dby dby_step a (by rw [dby_400]; exact h)⟩

theorem findYear_unique (doe y : Nat) (h : doe < 146097) (h1 : dby y ≤ doe) (h2 : doe < dby (y + 1)) :
    findYear doe = y := by
  obtain ⟨a, b, _⟩ := findYear_era doe h
  exact bracket_unique dby dby_step a b h1 h2

theorem dbm_step (leap : Bool) (m : Nat) : dbm leap m ≤ dbm leap (m + 1) := by
  by_cases h : m < 12
  · revert leap m; decide
  · obtain ⟨k, rfl⟩ : ∃ k, m = k + 12 := ⟨m - 12, by omega⟩
    exact Nat.le_refl (365 + _)

theorem dbm_mono (leap : Bool) {a b : Nat} (h : a ≤ b) : dbm leap a ≤ dbm leap b :=
  mono_of_step (dbm leap) (dbm_step leap) h

theorem dbm_0 (leap : Bool) : dbm leap 0 = 0 := rfl

theorem findMonth_spec (leap : Bool) (doy : Nat) (h : doy < dbm leap 12) :
    findMonth leap doy < 12 ∧ dbm leap (findMonth leap doy) ≤ doy ∧ doy < dbm leap (findMonth leap doy + 1) := by
  obtain ⟨a, b⟩ := searchUp_spec (dbm leap) doy 12 0 (Nat.zero_le _) (by simpa using h)
  exact ⟨lt_of_lt_mono (dbm leap) (dbm_step leap) a h, a, b⟩

theorem findMonth_unique (leap : Bool) (doy m : Nat) (hm : m < 12) (h1 : dbm leap m ≤ doy)
    (h2 : doy < dbm leap (m + 1)) : findMonth leap doy = m := by
  have h12 : doy < dbm leap 12 := by
    have := dbm_mono leap (show m + 1 ≤ 12 by omega); omega
  obtain ⟨_, a, b⟩ := findMonth_spec leap doy h12
  exact bracket_unique (dbm leap) (dbm_step leap) a b h1 h2

/-- number of days of month `m` (0..11) -/
def monthLen (leap : Bool) (m : Nat) : Nat := dbm leap (m + 1) - dbm leap m

theorem monthLen_le : ∀ (leap : Bool) (m : Nat), m < 12 → 28 ≤ monthLen leap m ∧ monthLen leap m ≤ 31 := by
  decide

theorem dbm_succ (leap : Bool) (m : Nat) : dbm leap (m + 1) = dbm leap m + monthLen leap m := by
  have := dbm_step leap m
  unfold monthLen; omega

/- Both inverse theorems go through the form `era * 146097 + dby yoe + dbm leap m + (d - 1)` of a day number. -/

theorem ediv_emod_add (q : Int) (r : Nat) {n : Int} (h : (r : Int) < n) :
    (q * n + r) / n = q ∧ (q * n + r) % n = r :=
  (Int.ediv_emod_unique (by omega)).mpr ⟨by rw [Int.mul_comm, Int.add_comm], by omega, h⟩

theorem daysFromCivil_era (era : Int) (yoe m : Nat) (d : Int) (h : yoe < 400) :
    daysFromCivil (era * 400 + yoe) m d =
      era * 146097 + dby yoe + dbm (isLeap yoe) m + (d - 1) - 719528 := by
  obtain ⟨e1, e2⟩ := ediv_emod_add era yoe (n := 400) (by omega)
  simp only [daysFromCivil, e1, e2, Int.toNat_natCast]

theorem civil_parts (z : Int) :
    ∃ (era : Int) (yoe doy : Nat), yoe < 400 ∧ doy < dbm (isLeap yoe) 12 ∧
      z + 719528 = era * 146097 + (dby yoe : Int) + (doy : Int) ∧
      civilFromDays z = (era * 400 + yoe, findMonth (isLeap yoe) doy, doy - dbm (isLeap yoe) (findMonth (isLeap yoe) doy) + 1) := by
  obtain ⟨doe, hdoe⟩ := Int.eq_ofNat_of_zero_le (Int.emod_nonneg (z + 719528) (by decide : (146097 : Int) ≠ 0))
  have hsplit := Int.mul_ediv_add_emod (z + 719528) 146097
  obtain ⟨y1, y2, y3⟩ := findYear_era doe (Int.ofNat_lt.mp (hdoe ▸ Int.emod_lt_of_pos _ (by decide)))
  refine ⟨(z + 719528) / 146097, findYear doe, doe - dby (findYear doe), y3, ?_, ?_, ?_⟩
  · rw [dby_succ] at y2; omega
  · omega
  · simp only [civilFromDays, hdoe, Int.toNat_natCast]

/-- **gmtime then timegm (days part)**: `civilFromDays` is a right inverse of `daysFromCivil` on every day -/
theorem daysFromCivil_civilFromDays (z : Int) :
    daysFromCivil (civilFromDays z).1 (civilFromDays z).2.1 (civilFromDays z).2.2 = z := by
  obtain ⟨era, yoe, doy, hy, hd, hz, hc⟩ := civil_parts z
  obtain ⟨_, m1, _⟩ := findMonth_spec (isLeap yoe) doy hd
  rw [hc]
  simp only [daysFromCivil_era _ _ _ _ hy]
  omega

theorem civilFromDays_valid (z : Int) :
    (civilFromDays z).2.1 < 12 ∧ 1 ≤ (civilFromDays z).2.2 ∧
    (civilFromDays z).2.2 ≤ monthLen (isLeap ((civilFromDays z).1 % 400).toNat) (civilFromDays z).2.1 := by
  obtain ⟨era, yoe, doy, hy, hd, hz, hc⟩ := civil_parts z
  obtain ⟨m0, m1, m2⟩ := findMonth_spec (isLeap yoe) doy hd
  have := dbm_succ (isLeap yoe) (findMonth (isLeap yoe) doy)
  rw [hc]
  simp only [(ediv_emod_add era yoe (n := 400) (by omega)).2, Int.toNat_natCast]
  exact ⟨m0, by omega, by omega⟩

theorem civilFromDays_era (era : Int) (yoe m d : Nat) (hy : yoe < 400) (hm : m < 12) (hd1 : 1 ≤ d)
    (hd2 : d ≤ monthLen (isLeap yoe) m) :
    civilFromDays (era * 146097 + dby yoe + dbm (isLeap yoe) m + ((d : Int) - 1) - 719528) =
      (era * 400 + yoe, m, d) := by
  -- the day of the year `doy` lies in month `m`, the day of the era `dby yoe + doy` in year `yoe`
  obtain ⟨doy, hdoy⟩ : ∃ doy, doy = dbm (isLeap yoe) m + (d - 1) := ⟨_, rfl⟩
  have hm2 : doy < dbm (isLeap yoe) (m + 1) := by rw [dbm_succ]; omega
  have hy2 : dby yoe + doy < dby (yoe + 1) :=
    dby_succ yoe ▸ Nat.add_lt_add_left (Nat.lt_of_lt_of_le hm2 (dbm_mono _ hm)) _
  have hera : dby yoe + doy < 146097 := Nat.lt_of_lt_of_le hy2 (dby_400 ▸ dby_mono hy)
  have hfm : findMonth (isLeap yoe) doy = m := findMonth_unique _ _ m hm (hdoy ▸ Nat.le_add_right _ _) hm2
  have hfy : findYear (dby yoe + doy) = yoe := findYear_unique _ yoe hera (Nat.le_add_right _ _) hy2
  obtain ⟨hq, hr⟩ := ediv_emod_add era (dby yoe + doy) (n := 146097) (Int.ofNat_lt.mpr hera)
  rw [show era * 146097 + dby yoe + dbm (isLeap yoe) m + ((d : Int) - 1) - 719528 =
    era * 146097 + ((dby yoe + doy : Nat) : Int) - 719528 by omega]
  simp only [civilFromDays, Int.sub_add_cancel, hq, hr, Int.toNat_natCast, hfy, Nat.add_sub_cancel_left, hfm]
  congr 2
  omega

open Asn1c.Spec.Time

theorem isLeap_eq_spec (y : Nat) : isLeap y = leapYear y := rfl

theorem isLeap_mod400 (y : Nat) : isLeap (y % 400) = isLeap y := by
  rw [isLeap, isLeap, Nat.mod_mod_of_dvd y (by decide : 4 ∣ 400), Nat.mod_mod_of_dvd y (by decide : 100 ∣ 400),
    Nat.mod_mod]

theorem yearLen_eq_dbm (Y : Nat) : yearLen Y = dbm (isLeap Y) 12 := by
  rw [dbm_12, isLeap_eq_spec, yearLen]; split <;> rfl

theorem dby_eq_spec (Y : Nat) : dby Y = daysBeforeYear Y := by
  induction Y with
  | zero => rfl
  | succ Y ih => rw [dby_succ, ← yearLen_eq_dbm, daysBeforeYear, ih]

theorem dayNumber_eq (Y M D : Nat) : dayNumber Y M D = dby Y + ((monthLens Y).take (M - 1)).sum + (D - 1) := by
  rw [dayNumber, dby_eq_spec]

theorem dby_era (Y : Nat) : dby Y = 146097 * (Y / 400) + dby (Y % 400) := by
  have h1 := dby_add Y
  have h2 := dby_add (Y % 400)
  omega

theorem dbm_eq_spec (Y m : Nat) (h : m ≤ 12) : dbm (isLeap Y) m = ((monthLens Y).take m).sum := by
  show dbm (leapYear Y) m = _
  unfold monthLens
  generalize leapYear Y = leap
  revert leap m; decide

theorem monthLen_eq_spec (Y m : Nat) (h : m < 12) : monthLen (isLeap Y) m = (monthLens Y).getD m 0 := by
  show monthLen (leapYear Y) m = _
  unfold monthLens
  generalize leapYear Y = leap
  revert leap m; decide

/-- **the calendar model is the Gregorian calendar**: for every year ≥ 0, month 1..12 and day ≥ 1 -/
theorem daysFromCivil_eq_spec (Y M D : Nat) (h1 : 1 ≤ M) (h2 : M ≤ 12) (hd : 1 ≤ D) :
    daysFromCivil (Y : Int) (M - 1) (D : Int) = (dayNumber Y M D : Int) - 719528 := by
  rw [show (Y : Int) = ((Y / 400 : Nat) : Int) * 400 + ((Y % 400 : Nat) : Int) by omega,
    daysFromCivil_era _ _ _ _ (Nat.mod_lt _ (by decide)), isLeap_mod400, dayNumber_eq, dby_era Y,
    ← dbm_eq_spec Y (M - 1) (by omega)]
  omega

theorem dayNumber_epoch : dayNumber 1970 1 1 = 719528 := by
  rw [dayNumber_eq]; decide

theorem timegm_gmtime (t : Int) : timegm (gmtime t) = t := by
  have hd := daysFromCivil_civilFromDays (t / 86400)
  have hlt : ((civilFromDays (t / 86400)).2.1 : Int) < 12 := Int.ofNat_lt.mpr (civilFromDays_valid (t / 86400)).1
  simp only [timegm, gmtime, Int.ediv_eq_zero_of_lt (Int.natCast_nonneg _) hlt,
    Int.emod_eq_of_lt (Int.natCast_nonneg _) hlt, Int.toNat_natCast, Int.sub_add_cancel, Int.add_zero, hd]
  omega

theorem timegm_sec_shift (tm : Tm) (k : Int) : timegm { tm with sec := tm.sec - k } = timegm tm - k := by
  simp only [timegm]; omega

theorem timegm_localtime (t off : Int) : timegm (localtime t off) = t + off := timegm_gmtime (t + off)

theorem localtime_zero (t : Int) : localtime t 0 = gmtime t := by
  rw [localtime, Int.add_zero]; rfl

/-- the `if(force_gmt && gmtoff)` normalisation at the head of `asn_time2GT_frac` undoes the zone offset
    (the left side is what `unfold time2GTfrac` shows at `forceGmt = true`) -/
theorem forceGmt_normalises (t off : Int) :
    (if true = true ∧ (localtime t off).gmtoff ≠ 0 then
        gmtime (timegm { localtime t off with sec := (localtime t off).sec - (localtime t off).gmtoff })
     else localtime t off) = gmtime t := by
  by_cases h : off = 0
  · subst h; rw [if_neg (fun h => h.2 rfl), localtime_zero]
  · rw [if_pos ⟨rfl, h⟩, timegm_sec_shift, timegm_localtime]
    show gmtime (t + off - off) = gmtime t
    rw [Int.add_sub_cancel]

/-- forced-GMT output does not depend on the zone offset the `struct tm` was produced with -/
theorem time2GTfrac_zone_independent (t off fv fd : Int) :
    time2GTfrac (localtime t off) fv fd true = time2GTfrac (gmtime t) fv fd true := by
  unfold time2GTfrac
  rw [forceGmt_normalises]
  -- on the right the normalisation is skipped: `(gmtime t).gmtoff` is 0
  rfl

/-- the broken-down time that `gmtime_r` yields for, and `asn_GT2time` builds from, Y-M-D h:m:s -/
def tmOf (Y M D h m s : Nat) : Tm :=
  { sec := s, min := m, hour := h, mday := D, mon := (M : Int) - 1, year := (Y : Int) - 1900, gmtoff := 0 }

theorem timegm_tmOf (Y M D h m s : Nat) (hM1 : 1 ≤ M) (hM2 : M ≤ 12) (hD : 1 ≤ D) :
    timegm (tmOf Y M D h m s) = epochSeconds Y M D h m s := by
  simp only [timegm, tmOf, epochSeconds]
  rw [show (Y : Int) - 1900 + 1900 + ((M : Int) - 1) / 12 = Y by omega,
    show (((M : Int) - 1) % 12).toNat = M - 1 by omega, daysFromCivil_eq_spec Y M D hM1 hM2 hD]

theorem civil_year_range (t : Int) (h0 : t0000 ≤ t) (h1 : t < t10000) :
    0 ≤ (civilFromDays (t / 86400)).1 ∧ (civilFromDays (t / 86400)).1 ≤ 9999 := by
  unfold t0000 at h0; unfold t10000 at h1
  obtain ⟨era, yoe, doy, hy, hd, hz, hc⟩ := civil_parts (t / 86400)
  rw [hc]
  have hys := dby_succ yoe
  have hmono := dby_mono (show yoe + 1 ≤ 400 by omega)
  rw [dby_400] at hmono
  simp only
  -- 0000 and 10000 begin an era (day numbers 0 and 25 * 146097), so the bounds on the day bound `era`
  constructor <;> omega

theorem validDateTime_day_le {Y M D h m s : Nat} (hv : ValidDateTime Y M D h m s) : D ≤ 31 := by
  obtain ⟨_, hM1, hM2, _, hD2, _⟩ := hv
  rw [← monthLen_eq_spec Y (M - 1) (by omega)] at hD2
  have := monthLen_le (isLeap Y) (M - 1) (by omega)
  omega

/-- `gmtime_r` of an instant in the years 0000..9999: a valid date-time that denotes the instant -/
theorem gmtime_valid (t : Int) (h0 : t0000 ≤ t) (h1 : t < t10000) :
    ∃ Y M D h m s, ValidDateTime Y M D h m s ∧ epochSeconds Y M D h m s = t ∧
      gmtime t = tmOf Y M D h m s := by
  obtain ⟨hy0, hy1⟩ := civil_year_range t h0 h1
  obtain ⟨v1, v2, v3⟩ := civilFromDays_valid (t / 86400)
  obtain ⟨Y, hY⟩ : ∃ Y : Nat, (civilFromDays (t / 86400)).1 = Y := ⟨_, (Int.toNat_of_nonneg hy0).symm⟩
  rw [hY] at v3 hy1
  rw [show ((Y : Int) % 400).toNat = Y % 400 by omega, isLeap_mod400, monthLen_eq_spec Y _ v1] at v3
  obtain ⟨r, hr, hr'⟩ : ∃ r : Nat, t % 86400 = r ∧ r < 3600 * 24 := ⟨(t % 86400).toNat, by omega⟩
  have hg : gmtime t = tmOf Y ((civilFromDays (t / 86400)).2.1 + 1) (civilFromDays (t / 86400)).2.2
      (r / 3600) (r / 60 % 60) (r % 60) := by
    simp only [gmtime, tmOf, hY, hr]
    congr 1; omega
  refine ⟨_, _, _, _, _, _, ⟨Int.ofNat_le.mp hy1, Nat.succ_pos _, v1, v2, v3,
    Nat.le_of_lt_succ (Nat.div_lt_of_lt_mul hr'), Nat.le_of_lt_succ (Nat.mod_lt _ (by decide)),
    Nat.le_of_lt_succ (Nat.mod_lt _ (by decide))⟩, ?_, hg⟩
  rw [← timegm_tmOf _ _ _ _ _ _ (Nat.succ_pos _) v1 v2, ← hg]
  exact timegm_gmtime t

theorem fracDigits_zero (n : Nat) : fracDigits n 0 = List.replicate n 48 := by
  induction n with
  | zero => rfl
  | succ n ih => simp [fracDigits, ih, List.replicate_succ]

theorem fracDigits_snoc (w n : Nat) : fracDigits (w + 1) n = fracDigits w (n / 10) ++ [48 + n % 10] := by
  induction w with
  | zero => simp [fracDigits]
  | succ w ih =>
    rw [fracDigits, ih, fracDigits, List.cons_append, Nat.div_div_eq_div_mul, Nat.pow_succ, Nat.mul_comm]

theorem decDigits_pad (w n : Nat) (h : n < 10 ^ (w + 1)) :
    List.replicate (w + 1 - (decDigits n).length) 48 ++ decDigits n = fracDigits (w + 1) n := by
  induction w generalizing n with
  | zero =>
    rw [decDigits, if_pos (by omega)]
    simp [fracDigits]
    omega
  | succ w ih =>
    rw [decDigits, fracDigits_snoc]
    split
    · rename_i h10
      rw [Nat.div_eq_of_lt h10, Nat.mod_eq_of_lt h10, fracDigits_zero]
      rfl
    · rw [List.length_append, List.length_singleton, ← List.append_assoc, Nat.add_sub_add_right,
        ih (n / 10) (Nat.div_lt_of_lt_mul (by rw [Nat.mul_comm, ← Nat.pow_succ]; exact h))]

/-- `printf("%0<w>d", n)` of a number that fits the width -/
theorem fmtD_natCast (w n : Nat) (h : n < 10 ^ (w + 1)) : fmtD (w + 1) (n : Int) = fracDigits (w + 1) n := by
  unfold fmtD
  rw [if_neg (by omega)]
  exact decDigits_pad w n h

theorem fmtD2 (n : Nat) (h : n < 100) : fmtD 2 n = digits2 n := by
  rw [fmtD_natCast 1 n h]; simp [fracDigits, digits2]

theorem fmtD4 (n : Nat) (h : n < 10000) : fmtD 4 n = digits4 n := by
  rw [fmtD_natCast 3 n h]; simp [fracDigits, digits4]

theorem gtDigits14_length (Y M D h m s : Nat) : (gtDigits14 Y M D h m s).length = 14 := by
  simp [gtDigits14, digits4, digits2]

/-- `asn_time2GT_frac(tm, fv, fd, force_gmt = 1)` on the UTC `struct tm` of a date-time whose fields fit
    their widths: the fourteen digits, whatever the fraction block prints, 'Z' -/
theorem time2GTfrac_tmOf (Y M D h m s : Nat) (fv fd : Int) (hY : Y < 10000) (hM : M < 100) (hD : D < 100)
    (hh : h < 100) (hm : m < 100) (hs : s < 100) :
    time2GTfrac (tmOf Y M D h m s) fv fd true =
      some (gtDigits14 Y M D h m s ++ fracText fv fd ++ [0x5a]) := by
  have hl := gtDigits14_length Y M D h m s
  unfold gtDigits14 at hl ⊢
  unfold time2GTfrac
  simp only [tmOf, ne_eq, not_true_eq_false, and_false, if_false]
  rw [show (Y : Int) - 1900 + 1900 = Y by omega, show (M : Int) - 1 + 1 = M by omega,
    fmtD4 Y hY, fmtD2 M hM, fmtD2 D hD, fmtD2 h hh, fmtD2 m hm, fmtD2 s hs,
    if_neg (by rw [hl]; decide), if_pos trivial]

/-- `asn_time2GT_frac(localtime(t), fv, fd, force_gmt = 1)` for an instant in the years 0000..9999:
    the fourteen digits of a valid UTC date-time that denotes `t`, whatever the fraction block prints, 'Z' -/
theorem time2GTfrac_head (t off fv fd : Int) (h0 : t0000 ≤ t) (h1 : t < t10000) :
    ∃ Y M D h m s, ValidDateTime Y M D h m s ∧ epochSeconds Y M D h m s = t ∧
      time2GTfrac (localtime t off) fv fd true = some (gtDigits14 Y M D h m s ++ fracText fv fd ++ [0x5a]) := by
  obtain ⟨Y, M, D, h, m, s, hv, he, hg⟩ := gmtime_valid t h0 h1
  refine ⟨Y, M, D, h, m, s, hv, he, ?_⟩
  have hD := validDateTime_day_le hv
  obtain ⟨hY, _, hM, _, _, hh, hm, hs⟩ := hv
  rw [time2GTfrac_zone_independent, hg]
  exact time2GTfrac_tmOf Y M D h m s fv fd (by omega) (by omega) (by omega) (by omega) (by omega) (by omega)

theorem digit_cast (d : Nat) : ((48 + d : Nat) : Int) - 48 = d := by omega

theorem digit_range (n : Nat) : 0x30 ≤ 48 + n % 10 ∧ 48 + n % 10 ≤ 0x39 :=
  ⟨Nat.le_add_right _ _, Nat.add_le_add_left (Nat.le_of_lt_succ (Nat.mod_lt n (by decide))) 48⟩

theorem b2f_digit (var : Int) (n : Nat) (r : Bytes) :
    b2f var ((48 + n % 10) :: r) = some (var * 10 + (n % 10 : Nat), r) := by
  have := digit_range n
  rw [b2f, if_neg (by omega), digit_cast]

theorem b2f2_digits2 (var : Int) (n : Nat) (h : n < 100) (r : Bytes) :
    b2f2 var (digits2 n ++ r) = some (var * 100 + n, r) := by
  rw [digits2, List.cons_append, List.cons_append, List.nil_append, b2f2, b2f_digit]
  simp only
  rw [b2f_digit]
  congr 2; omega

theorem b2f2_digits2_zero (n : Nat) (h : n < 100) (r : Bytes) :
    b2f2 0 (digits2 n ++ r) = some ((n : Int), r) := by
  rw [b2f2_digits2 0 n h, Int.zero_mul, Int.zero_add]

theorem digits2_mod (n : Nat) : digits2 (n % 100) = digits2 n := by
  rw [digits2, digits2, (Nat.mod_mul_right_div_self n 10 10 : n % 100 / 10 = n / 10 % 10), Nat.mod_mod,
    Nat.mod_mod_of_dvd n (by decide : 10 ∣ 100)]

theorem digits4_split (Y : Nat) : digits4 Y = digits2 (Y / 100) ++ digits2 (Y % 100) := by
  rw [digits2_mod, digits4, digits2, digits2, Nat.div_div_eq_div_mul]
  rfl

theorem gtAfterHour_digits (m s : Nat) (hm : m < 100) (hs : s < 100) (r : Bytes) :
    gtAfterHour (digits2 m ++ (digits2 s ++ r)) = gtAfterSec m s r := by
  rw [digits2, digits2]
  simp only [List.cons_append, List.nil_append]
  rw [gtAfterHour, if_pos (digit_range _), if_neg (List.cons_ne_nil _ _), digit_cast, b2f_digit]
  simp only
  rw [gtAfterMin, if_pos (digit_range _), if_neg (List.cons_ne_nil _ _), digit_cast, b2f_digit]
  simp only
  congr 2 <;> omega

/-- `asn_GT2time_frac` on the fourteen digits of a valid date-time followed by a tail in which `gtAfterSec`
    finds the fraction `fv`, `fd` (0, 0 for none) and the zone UTC: the instant the text denotes -/
theorem GT2timeFrac_of_tail (lo : Int) (g : Bool) (Y M D h m s : Nat) (hv : ValidDateTime Y M D h m s)
    (r : Bytes) (fv fd : Int) (hr : gtAfterSec m s r = some ⟨m, s, fv, fd, true, 0⟩) :
    GT2timeFrac lo (gtDigits14 Y M D h m s ++ r) g =
      .ok (epochSeconds Y M D h m s) fv fd
        (if g then gmtime (epochSeconds Y M D h m s) else localtime (epochSeconds Y M D h m s) lo) := by
  have hD31 := validDateTime_day_le hv
  obtain ⟨hY, hM1, hM2, hD1, _, hh, hm, hs⟩ := hv
  have ht := timegm_tmOf Y M D h m s hM1 hM2 hD1
  unfold tmOf at ht
  have hyear : ((Y / 100 : Nat) : Int) * 100 + ((Y % 100 : Nat) : Int) = Y := by omega
  unfold GT2timeFrac
  rw [if_neg (by rw [List.length_append, gtDigits14_length]; omega)]
  simp only [gtDigits14, digits4_split Y, List.append_assoc,
    b2f2_digits2_zero (Y / 100) (by omega), b2f2_digits2 _ (Y % 100) (Nat.mod_lt _ (by decide)), hyear,
    b2f2_digits2_zero M (by omega), b2f2_digits2_zero D (by omega), b2f2_digits2_zero h (by omega),
    gtAfterHour_digits m s (by omega) (by omega), hr]
  -- the validation passes; the `struct tm` handed to `timegm` is `tmOf Y M D h m s`
  rw [if_neg (by omega)]
  simp only [if_true, Int.sub_zero, ht]

theorem utCanon_eq_drop (Y M D h m s : Nat) : utCanon Y M D h m s = (gtCanon Y M D h m s).drop 2 := by
  simp only [utCanon, gtCanon, digits4, digits2, List.cons_append, List.nil_append, List.drop_succ_cons, List.drop_zero]

theorem digits4_century (c Y : Nat) : digits4 (c * 100 + Y % 100) = digits2 c ++ digits2 Y := by
  have hr : Y % 100 < 100 := Nat.mod_lt _ (by decide)
  rw [digits4_split, Nat.mul_comm, Nat.mul_add_div (by decide), Nat.div_eq_of_lt hr, Nat.mul_add_mod,
    Nat.mod_eq_of_lt hr, Nat.add_zero, digits2_mod]

/-- the four digits of the window year: the century chosen from the first digit, then the two digits given -/
theorem digits4_utWindow (Y : Nat) :
    digits4 (utWindow Y) = (if 48 + Y / 10 % 10 > 0x35 then [0x31, 0x39] else [0x32, 0x30]) ++ digits2 Y := by
  rw [utWindow]
  split
  · rw [if_pos (by omega)]; exact digits4_century 19 Y
  · rw [if_neg (by omega)]; exact digits4_century 20 Y

theorem utWindow_id (Y : Nat) (h1 : 1960 ≤ Y) (h2 : Y ≤ 2059) : utWindow Y = Y := by
  unfold utWindow; split <;> omega

theorem dayNumber_bracket (Y M D : Nat) (h1 : 1 ≤ M) (h2 : M ≤ 12) (hd1 : 1 ≤ D)
    (hd2 : D ≤ (monthLens Y).getD (M - 1) 0) : dby Y ≤ dayNumber Y M D ∧ dayNumber Y M D < dby (Y + 1) := by
  rw [← monthLen_eq_spec Y (M - 1) (by omega)] at hd2
  have hs := dbm_succ (isLeap Y) (M - 1)
  have h12 := dbm_mono (isLeap Y) (show M - 1 + 1 ≤ 12 by omega)
  rw [dayNumber_eq, dby_succ, ← dbm_eq_spec Y (M - 1) (by omega)]
  omega

/-- an instant in [1960-01-01, 2060-01-01) has a year in 1960..2059: its day number lies between those of
    the first days of 1960 and 2060, and `dby` is monotone -/
theorem year_in_window (Y M D h m s : Nat) (hv : ValidDateTime Y M D h m s)
    (h0 : t1960 ≤ epochSeconds Y M D h m s) (h1 : epochSeconds Y M D h m s < t2060) : 1960 ≤ Y ∧ Y ≤ 2059 := by
  obtain ⟨_, hM1, hM2, hD1, hD2, hh, hm, hs⟩ := hv
  obtain ⟨hge, hn⟩ := dayNumber_bracket Y M D hM1 hM2 hD1 hD2
  have e1960 : dby 1960 = 715875 := by decide
  have e2060 : dby 2060 = 752400 := by decide
  unfold t1960 at h0; unfold t2060 at h1
  simp only [epochSeconds] at h0 h1
  exact ⟨Nat.le_of_lt_succ (lt_of_lt_mono dby dby_step (a := 1960) (by omega) hn),
    Nat.le_of_lt_succ (lt_of_lt_mono dby dby_step (b := 2060) hge (by omega))⟩

end Asn1c.Proofs.Time
