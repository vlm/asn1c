import Asn1cModel.Proofs.Unber
/-
  The nesting limit of `process_deeper` (`UNBER_MAX_NESTING_LEVEL`, `Impl.Unber.maxLevel`; the F41 repair):

  * `unberOuts_nest`   — the former crash witness: input that opens more than `maxLevel` nested indefinite-length
                         SEQUENCEs (`30 80 30 80 …`, whatever follows) ends with the diagnostic `tooDeep`;
  * `unberOuts_deep`   — every well-formed forest (within the other limits) nested deeper than `maxLevel`
                         ends with the diagnostic `tooDeep` (the second reading of `Unber.stream_run`);
  * `unberOuts_levels` — on arbitrary bytes, every element printed sits at a level ≤ `maxLevel`: no activation of
                         `process_deeper` ever runs above that level (bounded C stack).
-/
namespace Asn1c.Proofs.UnberDepth
open Asn1c Asn1c.Impl.UnberTlv Asn1c.Impl.Unber Asn1c.Spec.TlvForest Asn1c.Proofs.UnberTlv Asn1c.Proofs.UnberPass Asn1c.Proofs.Unber

/-- `30 80` (SEQUENCE, indefinite length) repeated `n` times -/
abbrev nest (n : Nat) : Bytes := (List.replicate n [0x30, 0x80]).flatten

/-- reading `30 80` at the head of the loop, no limit set -/
theorem pd_open_indef (f level : Nat) (eoc : Bool) (esize : Nat) (pdc : Pdc) (rest : Bytes) (off : Nat) :
    pd (f + 2) level eoc [] (-1) esize pdc (0x30 :: 0x80 :: rest) off
      = afterTL (pd f) level eoc [0x30, 0x80] (-1) esize pdc rest (off + 2) 64 (-1) true false :=
  pd_hdr (.indef 0 16 []) rfl rfl (f + 2) level eoc (-1) esize pdc rest off (Or.inl rfl) (Nat.le_add_left 2 f)

/-- `n` openings that reach beyond `maxLevel`: each starts a child activation one level up, until one is refused -/
theorem pd_nest_deep : ∀ (n level : Nat), maxLevel < level + n →
    ∀ (f : Nat) (eoc : Bool) (esize : Nat) (pdc : Pdc) (rest : Bytes) (off : Nat), level ≤ maxLevel → 2 * n ≤ f →
    ∃ out, pd f level eoc [] (-1) esize pdc (nest n ++ rest) off = .failed .tooDeep out
  | 0, level, hd, _, _, _, _, _, _, hl, _ => by omega
  | n + 1, level, hd, f, eoc, esize, pdc, rest, off, hl, hf => by
    obtain ⟨g, rfl⟩ : ∃ g, f = g + 2 := ⟨f - 2, by omega⟩
    rw [show nest (n + 1) ++ rest = 0x30 :: 0x80 :: (nest n ++ rest) from rfl, pd_open_indef,
      afterTL_indefinite _ _ _ _ _ _ _ _ _ _ (Or.inl rfl)]
    by_cases hlev : level + 1 > maxLevel
    · rw [if_pos hlev]; exact ⟨_, rfl⟩
    · obtain ⟨o2, h2⟩ := pd_nest_deep n (level + 1) (by omega) g true 2 .finished rest (off + 2) (by omega) (by omega)
      rw [if_neg hlev, show limSub (-1) ([0x30, 0x80] : Bytes).length = -1 from rfl,
        show ([0x30, 0x80] : Bytes).length = 2 from rfl, h2]
      exact ⟨_, rfl⟩

/-- **`30 80` repeated more than `maxLevel` times** (whatever follows): `unber -p` stops with the
    nesting diagnostic. -/
theorem unberOuts_nest (n : Nat) (rest : Bytes) (h : maxLevel < n) :
    (unberOuts (nest n ++ rest)).1 = .failed .tooDeep := by
  obtain ⟨out, ho⟩ := pd_nest_deep n 0 (by omega) ((nest n ++ rest).length + 1) false 0 .finished rest 0
    (Nat.zero_le _) (by simp; omega)
  rw [unberOuts, stream, ho]

/-- **`unber -p` on the encoding of a well-formed forest nested deeper than `maxLevel`** (within the other
    limits of the tool) stops with the nesting diagnostic. -/
theorem unberOuts_deep (ts : List Tlv) (hwf : wfList ts = true) (hdom : inDomainList ts = true)
    (hd : depthList ts > maxLevel) : (unberOuts (encodeList ts)).1 = .failed .tooDeep :=
  (stream_run ts hwf hdom _ 0 (Nat.succ_le_succ (encodeList_length_ge ts))).2 hd

/-- what an outcome has printed -/
def outs : R → List Out
  | .done _ _ _ _ out | .failed _ out | .oob out | .assertion out => out
  | .nofuel => []

/-- no printed element sits above the nesting limit (`Out.level`: the level of the activation that printed it) -/
def OutsOk (os : List Out) : Prop := ∀ o ∈ os, o.level ≤ maxLevel

/-- every event printed by (the rest of) an activation sits at a level ≤ `maxLevel` -/
def LevelsOk (r : R) : Prop := OutsOk (outs r)

theorem outsOk_nil : OutsOk [] := List.forall_mem_nil _

theorem outsOk_append {a b : List Out} : OutsOk (a ++ b) ↔ OutsOk a ∧ OutsOk b := List.forall_mem_append

theorem outsOk_cons {x : Out} {b : List Out} : OutsOk (x :: b) ↔ x.level ≤ maxLevel ∧ OutsOk b := List.forall_mem_cons

theorem LevelsOk.pre {r : R} (o : List Out) (ho : OutsOk o) (h : LevelsOk r) : LevelsOk (r.pre o) := by
  cases r with
  | nofuel => exact h
  | _ => exact outsOk_append.2 ⟨ho, h⟩

theorem LevelsOk.addFrame {r : R} (k : Nat) (h : LevelsOk r) : LevelsOk (r.addFrame k) := by
  cases r <;> exact h

/-- a property of both branches holds of the `if` (`iteInduction` where the test is not needed) -/
theorem ite_both {α : Sort _} {P : α → Prop} {c : Prop} [Decidable c] {a b : α} (ha : P a) (hb : P b) :
    P (if c then a else b) :=
  iteInduction (fun _ => ha) fun _ => hb

/-- what `afterTL` needs from `process_deeper` itself -/
def RecLevels (rec : Loop) : Prop :=
  ∀ (level : Nat) (eoc : Bool) (tagbuf : Bytes) (limit : Int) (esize : Nat) (pdc : Pdc) (inp : Bytes) (off : Nat),
    level ≤ maxLevel → LevelsOk (rec level eoc tagbuf limit esize pdc inp off)

theorem afterBody_levels (rec : Loop) (hrec : RecLevels rec) (level : Nat) (eoc : Bool) (hdr : Bytes) (limit1 : Int)
    (esize tag : Nat) (len : Int) (constr : Bool) (o1 : List Out) (r : R) (hl : level ≤ maxLevel)
    (ho1 : OutsOk o1) (hr : LevelsOk r) :
    LevelsOk (afterBody rec level eoc hdr limit1 esize tag len constr o1 r) := by
  cases r with
  | done cpdc dec inp2 off2 o2 =>
    have ho12 : OutsOk (o1 ++ o2) := outsOk_append.mpr ⟨ho1, hr⟩
    have ho123 : OutsOk (o1 ++ o2 ++ [Out.cls level constr off2 hdr.length tag len (hdr.length + dec)]) :=
      outsOk_append.mpr ⟨ho12, outsOk_cons.mpr ⟨hl, outsOk_nil⟩⟩
    -- every `continue` re-enters the loop at the same level
    have hnext : ∀ {o : List Out}, OutsOk o → LevelsOk
        (((rec level eoc [] (limSub limit1 dec) (esize + hdr.length + dec) cpdc inp2 off2).addFrame
          (hdr.length + dec)).pre o) :=
      fun ho => LevelsOk.pre _ ho (LevelsOk.addFrame _ (hrec _ _ _ _ _ _ _ _ hl))
    unfold afterBody
    exact ite_both ho12 (ite_both (ite_both ho12 (hnext ho12)) (ite_both ho123 (hnext ho123)))
  | _ => exact LevelsOk.pre _ ho1 hr

theorem afterTL_levels (rec : Loop) (hrec : RecLevels rec)
    (level : Nat) (eoc : Bool) (tagbuf : Bytes) (limit : Int) (esize : Nat) (pdc : Pdc) (inp : Bytes)
    (off tag : Nat) (len : Int) (constr isEoc : Bool) (hl : level ≤ maxLevel) :
    LevelsOk (afterTL rec level eoc tagbuf limit esize pdc inp off tag len constr isEoc) := by
  have hopn : ∀ k, OutsOk [Out.opn level k (off - tagbuf.length) tagbuf.length tag len] :=
    fun _ => outsOk_cons.mpr ⟨hl, outsOk_nil⟩
  -- `">\n"` and `print_V` take no level
  have h2 : ∀ k (x : Out), x.level = 0 → OutsOk [Out.opn level k (off - tagbuf.length) tagbuf.length tag len, x] :=
    fun _ x hx => outsOk_cons.mpr ⟨hl, outsOk_cons.mpr ⟨by omega, outsOk_nil⟩⟩
  cases isEoc with
  | true =>
    rw [afterTL_eoc]
    -- the end-of-contents element is printed with `level - 1`
    exact ite_both outsOk_nil (ite_both outsOk_nil
      (outsOk_cons.mpr ⟨by simp only [Out.level]; omega, outsOk_nil⟩))
  | false =>
    cases constr with
    | true =>
      rw [afterTL_constr]
      refine ite_both (hopn _) (ite_both (hopn _) (ite_both (h2 _ _ rfl)
        (iteInduction (fun _ => h2 _ _ rfl) fun cd => ?_)))
      -- the child activation runs at `level + 1 ≤ maxLevel`
      exact afterBody_levels rec hrec _ _ _ _ _ _ _ _ _ _ hl (h2 _ _ rfl) (hrec _ _ _ _ _ _ _ _ (by omega))
    | false =>
      rw [afterTL_primitive]
      exact ite_both (hopn _) (ite_both (hopn _) (ite_both (hopn _) (ite_both (h2 _ _ rfl)
        (afterBody_levels rec hrec _ _ _ _ _ _ _ _ _ _ hl (h2 _ _ rfl) outsOk_nil))))

/-- `process_deeper` entered at a level ≤ `maxLevel` prints nothing above `maxLevel` -/
theorem pd_levels : ∀ (fuel : Nat), RecLevels (pd fuel) := by
  intro fuel
  induction fuel with
  | zero => intro _ _ _ _ _ _ _ _ _; exact outsOk_nil
  | succ fuel ih =>
    intro level eoc tagbuf limit esize pdc inp off hl
    rw [pd_succ]
    refine ite_both outsOk_nil (ite_both outsOk_nil (ite_both outsOk_nil ?_))
    cases inp with
    | nil => exact ite_both outsOk_nil outsOk_nil
    | cons ch inp1 =>
      dsimp only
      cases readTL eoc (tagbuf ++ [ch]) with
      | more => exact ih level eoc _ limit esize pdc _ _ hl
      | bad e => exact outsOk_nil
      | ok tag len constr isEoc => exact afterTL_levels (pd fuel) ih level eoc _ limit esize pdc _ _ tag len constr isEoc hl

/-- the top-level loop of `unber_stream` only starts activations at level 0, so `pd_levels` covers all it prints -/
theorem stream_levels : ∀ (fuel : Nat) (inp : Bytes) (off : Nat), OutsOk (stream fuel inp off).2 := by
  intro fuel
  induction fuel with
  | zero => intro _ _; exact outsOk_nil
  | succ fuel ih =>
    intro inp off
    have h := pd_levels (inp.length + 1) 0 false [] (-1) 0 .finished inp off (Nat.zero_le _)
    rw [stream]
    generalize pd (inp.length + 1) 0 false [] (-1) 0 .finished inp off = r at h
    cases r with
    | done p _ _ _ out =>
      cases p
      · exact outsOk_append.mpr ⟨h, ih _ _⟩
      · exact h
    | nofuel => exact outsOk_nil
    | _ => exact h

/-- **bounded recursion on arbitrary bytes**: every element `unber -p` prints sits at a nesting level
    ≤ `maxLevel` — `process_deeper` never runs above that level. -/
theorem unberOuts_levels (inp : Bytes) : ∀ o ∈ (unberOuts inp).2, o.level ≤ maxLevel :=
  stream_levels _ inp 0

end Asn1c.Proofs.UnberDepth
