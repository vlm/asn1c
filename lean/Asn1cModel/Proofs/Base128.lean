import Asn1cModel.Spec.Oid
/- Base-128 digit strings with a continuation bit.  The sub-identifier of an OBJECT IDENTIFIER (X.690 §8.19.2), the
   long form of a tag number (§8.1.2.4) and the tag number of OER (X.696 §8.7) are one encoding: `base128hi` for the
   octets before the last one, all with bit 8 set (`AllHi`), read back by `subidVal`.  Every reader of the model is
   handled by one induction over a run of such octets, on which it accumulates `subidVal`; what is proved here about
   the digits then serves OBJECT_IDENTIFIER.c (Proofs/Oid), ber_tlv_tag.c (Proofs/BerTlv, Proofs/UnberTlv) and the OER
   reference codec (Proofs/L2Oer). -/
namespace Asn1c.Proofs.Oid
open Asn1c Asn1c.Spec.Oid

theorem base128hi_zero : base128hi 0 = [] := by
  rw [base128hi]; simp

theorem base128hi_pos (n : Nat) (h : n ≠ 0) :
    base128hi n = base128hi (n / 128) ++ [128 + n % 128] := by
  rw [base128hi]; simp [h]

/-- `base128hi` is the only function with its recursion equation: the copies of it in other parts of the model
    (`L2.Oer.b128hi`, `Spec.TlvForest.contOctets`) are equal to it -/
theorem eq_base128hi (f : Nat → Bytes)
    (hf : ∀ n, f n = if _h : n = 0 then [] else f (n / 128) ++ [128 + n % 128]) : f = base128hi := by
  funext n
  fun_induction base128hi n with
  | case1 => rw [hf, dif_pos rfl]
  | case2 n h ih => rw [hf, dif_neg h, ih]

/-- every octet has bit 8 set -/
def AllHi (bs : Bytes) : Prop := ∀ b ∈ bs, 128 ≤ b ∧ b < 256

theorem allHi_nil : AllHi [] := List.forall_mem_nil _

theorem allHi_cons {b : Nat} {bs : Bytes} : AllHi (b :: bs) ↔ (128 ≤ b ∧ b < 256) ∧ AllHi bs :=
  List.forall_mem_cons

theorem allHi_append {xs ys : Bytes} : AllHi (xs ++ ys) ↔ AllHi xs ∧ AllHi ys := List.forall_mem_append

theorem base128hi_allHi (n : Nat) : AllHi (base128hi n) := by
  fun_induction base128hi n with
  | case1 => exact allHi_nil
  | case2 n h ih =>
    rw [allHi_append]; refine ⟨ih, ?_⟩
    rw [allHi_cons]; exact ⟨by omega, allHi_nil⟩

theorem subidVal_append (acc : Nat) (xs ys : Bytes) :
    subidVal acc (xs ++ ys) = subidVal (subidVal acc xs) ys := by
  induction xs generalizing acc with
  | nil => rfl
  | cons x xs ih => simp only [List.cons_append, subidVal]; exact ih _

theorem subidVal_base128hi (n : Nat) : subidVal 0 (base128hi n) = n := by
  fun_induction base128hi n with
  | case1 => rfl
  | case2 n h ih =>
    rw [subidVal_append, ih]; simp only [subidVal]; omega

theorem subidVal_ge (acc : Nat) (bs : Bytes) : acc ≤ subidVal acc bs := by
  induction bs generalizing acc with
  | nil => simp [subidVal]
  | cons b bs ih =>
    simp only [subidVal]
    have := ih (acc * 128 + b % 128)
    omega

/-- the leading octet of `base128hi n` carries a non-zero digit: it is not `0x80` -/
theorem base128hi_head (n : Nat) : (base128hi n).head? ≠ some 128 := by
  fun_induction base128hi n with
  | case1 => nofun
  | case2 n hn ih =>
    by_cases h0 : n / 128 = 0
    · rw [h0, base128hi_zero]; simp; omega
    · obtain ⟨x, t, e⟩ := List.exists_cons_of_ne_nil (l := base128hi (n / 128)) (by rw [base128hi_pos _ h0]; simp)
      rw [e] at ih ⊢; exact ih

theorem base128hi_length_le (k n : Nat) (h : n < 128 ^ k) : (base128hi n).length ≤ k := by
  fun_induction base128hi n generalizing k with
  | case1 => exact Nat.zero_le _
  | case2 n hn ih =>
    cases k with
    | zero => rw [Nat.pow_zero] at h; omega
    | succ k =>
      rw [Nat.pow_succ] at h
      have := ih k (by omega)
      rw [List.length_append, List.length_singleton]; omega

end Asn1c.Proofs.Oid
