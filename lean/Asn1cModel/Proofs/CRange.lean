import Asn1cModel.Impl.CRange
import Asn1cModel.Proofs.Sort
import Asn1cModel.Spec.Constraint
/-
  Helper lemmas for C09: denotation of interval lists, correctness of the list algorithms of
  Impl.CRange (`splitIv`, `splitLoop`, `intersection`, `sortIvs`, `mergeLoop`, `canonicalize`)
  and uniqueness of the canonical form; then the relations between a range and the set it stands for (`Repr`: in
  canonical form; `ReprE`: or flagged empty; `Acc`: before `_range_canonicalize`) and `Flags` for its visibility marks.

  `_edge_compare` is a total order on MIN < … −1 < 0 < 1 … < MAX and an integer `y` is the point
  `.val y` of it (`leInt_iff`, `geInt_iff`).  Facts about leaves are derived from that order
  (`leInt_mono`, `geInt_mono`, `edgeCmp_le_of_mem`, `leInt_or_geInt`), not by looking at the
  constructors of the edges involved.
-/
namespace Asn1c.Impl.CRange
open Asn1c.Spec.Constraint (LowerBound UpperBound)

/-- `x` is at or above the edge used as a left bound -/
def Edge.leInt : Edge → Int → Bool
  | .min, _ => true
  | .val a, x => decide (a ≤ x)
  | .max, _ => false
/-- `x` is at or below the edge used as a right bound -/
def Edge.geInt : Edge → Int → Bool
  | .max, _ => true
  | .val a, x => decide (x ≤ a)
  | .min, _ => false

@[simp] theorem leInt_min (x : Int) : Edge.leInt .min x = true := rfl
@[simp] theorem leInt_max (x : Int) : Edge.leInt .max x = false := rfl
@[simp] theorem leInt_val (a x : Int) : Edge.leInt (.val a) x = decide (a ≤ x) := rfl
@[simp] theorem geInt_min (x : Int) : Edge.geInt .min x = false := rfl
@[simp] theorem geInt_max (x : Int) : Edge.geInt .max x = true := rfl
@[simp] theorem geInt_val (a x : Int) : Edge.geInt (.val a) x = decide (x ≤ a) := rfl

def Iv.mem (i : Iv) (x : Int) : Bool := Edge.leInt i.lo x && Edge.geInt i.hi x

/-- denotation of a list of leaf ranges -/
def den (l : List Iv) (x : Int) : Bool := l.any (Iv.mem · x)

@[simp] theorem den_nil (x : Int) : den [] x = false := rfl
@[simp] theorem den_cons (a : Iv) (l : List Iv) (x : Int) : den (a :: l) x = (Iv.mem a x || den l x) := rfl
theorem den_append (l₁ l₂ : List Iv) (x : Int) : den (l₁ ++ l₂) x = (den l₁ x || den l₂ x) := by
  simp [den]

theorem den_eq_true {l : List Iv} {x : Int} : den l x = true ↔ ∃ i ∈ l, Iv.mem i x = true := by
  simp [den]

theorem den_congr_mem {l₁ l₂ : List Iv} (h : ∀ p, p ∈ l₁ ↔ p ∈ l₂) (x : Int) : den l₁ x = den l₂ x := by
  rw [Bool.eq_iff_iff, den_eq_true, den_eq_true]
  exact exists_congr fun i => and_congr_left fun _ => h i

/-- a leaf that denotes a non-empty set of integers: left edge not MAX, right edge not MIN, left ≤ right -/
def Iv.wf (i : Iv) : Prop := i.lo ≠ .max ∧ i.hi ≠ .min ∧ edgeCmp i.lo i.hi ≤ 0

instance (i : Iv) : Decidable (Iv.wf i) := by unfold Iv.wf; infer_instance

theorem Iv.wf_ordered {i : Iv} (h : i.wf) : i.ordered = true := by
  simp [Iv.ordered, h.2.2]

/-! ### `_edge_compare` -/

@[simp] theorem edgeCmp_val_lt {a b : Int} : edgeCmp (.val a) (.val b) < 0 ↔ a < b := by
  simp only [edgeCmp]; repeat' split
  all_goals omega
@[simp] theorem edgeCmp_val_gt {a b : Int} : 0 < edgeCmp (.val a) (.val b) ↔ b < a := by
  simp only [edgeCmp]; repeat' split
  all_goals omega
@[simp] theorem edgeCmp_val_le {a b : Int} : edgeCmp (.val a) (.val b) ≤ 0 ↔ a ≤ b := by
  have := @edgeCmp_val_gt a b
  omega
@[simp] theorem edgeCmp_val_eq {a b : Int} : edgeCmp (.val a) (.val b) = 0 ↔ a = b := by
  have := @edgeCmp_val_lt a b
  have := @edgeCmp_val_gt a b
  omega
@[simp] theorem edgeCmp_min_min : edgeCmp .min .min = 0 := rfl
@[simp] theorem edgeCmp_min_max : edgeCmp .min .max = -1 := rfl
@[simp] theorem edgeCmp_min_val {a : Int} : edgeCmp .min (.val a) = -1 := rfl
@[simp] theorem edgeCmp_max_min : edgeCmp .max .min = 1 := rfl
@[simp] theorem edgeCmp_max_max : edgeCmp .max .max = 0 := rfl
@[simp] theorem edgeCmp_max_val {a : Int} : edgeCmp .max (.val a) = 1 := rfl
@[simp] theorem edgeCmp_val_min {a : Int} : edgeCmp (.val a) .min = 1 := rfl
@[simp] theorem edgeCmp_val_max {a : Int} : edgeCmp (.val a) .max = -1 := rfl

theorem edgeCmp_self (e : Edge) : edgeCmp e e = 0 := by cases e <;> simp

theorem edgeCmp_eq_zero {a b : Edge} : edgeCmp a b = 0 ↔ a = b := by
  cases a <;> cases b <;> simp

theorem edgeCmp_swap (a b : Edge) : edgeCmp b a = - edgeCmp a b := by
  cases a <;> cases b <;> simp [edgeCmp]
  repeat' split
  all_goals omega

theorem edgeCmp_le_trans {a b c : Edge} (h1 : edgeCmp a b ≤ 0) (h2 : edgeCmp b c ≤ 0) : edgeCmp a c ≤ 0 := by
  cases a <;> cases b <;> cases c <;> simp_all <;> omega

theorem edgeCmp_antisymm {a b : Edge} (h1 : edgeCmp a b ≤ 0) (h2 : edgeCmp b a ≤ 0) : a = b := by
  have := edgeCmp_swap a b
  exact edgeCmp_eq_zero.mp (by omega)

theorem leInt_iff {e : Edge} {y : Int} : e.leInt y = true ↔ edgeCmp e (.val y) ≤ 0 := by
  cases e <;> simp

theorem geInt_iff {e : Edge} {y : Int} : e.geInt y = true ↔ edgeCmp (.val y) e ≤ 0 := by
  cases e <;> simp

theorem leInt_mono {a b : Edge} (h : edgeCmp a b ≤ 0) {y : Int} (hb : b.leInt y = true) : a.leInt y = true :=
  leInt_iff.mpr (edgeCmp_le_trans h (leInt_iff.mp hb))

theorem geInt_mono {a b : Edge} (h : edgeCmp a b ≤ 0) {y : Int} (ha : a.geInt y = true) : b.geInt y = true :=
  geInt_iff.mpr (edgeCmp_le_trans (geInt_iff.mp ha) h)

theorem leInt_of_le {e : Edge} {y z : Int} (h : y ≤ z) (he : e.leInt y = true) : e.leInt z = true :=
  leInt_iff.mpr (edgeCmp_le_trans (leInt_iff.mp he) (edgeCmp_val_le.mpr h))

theorem geInt_of_le {e : Edge} {y z : Int} (h : y ≤ z) (he : e.geInt z = true) : e.geInt y = true :=
  geInt_iff.mpr (edgeCmp_le_trans (edgeCmp_val_le.mpr h) (geInt_iff.mp he))

theorem edgeCmp_le_of_mem {l h : Edge} {y : Int} (hl : l.leInt y = true) (hh : h.geInt y = true) :
    edgeCmp l h ≤ 0 :=
  edgeCmp_le_trans (leInt_iff.mp hl) (geInt_iff.mp hh)

theorem leInt_or_geInt {l h : Edge} (hlh : edgeCmp l h ≤ 0) (y : Int) : (l.leInt y || h.geInt y) = true := by
  rw [Bool.or_eq_true, leInt_iff, geInt_iff]
  have := edgeCmp_swap l (.val y)
  by_cases hl : edgeCmp l (.val y) ≤ 0
  · exact Or.inl hl
  · exact Or.inr (edgeCmp_le_trans (by omega) hlh)

/-- What the pieces of a split, the merge of two overlapping leaves and the merge of two adjacent ones have to do
    with their operands, as identities in the bits `x.lo ≤ y`, `w.lo ≤ y`, `y ≤ x.hi`, `y ≤ w.hi`; the hypotheses are
    `leInt_or_geInt` of what `_range_overlap` tested, or of `wf`. -/
theorem bits_split : ∀ lx lw hx hw : Bool, (lx || hw) = true → (lw || hx) = true →
    (lx && !lw || !hw && hx || lx && lw && (hx && hw)) = (lx && hx) := by decide

theorem bits_merge : ∀ la lb ha hb : Bool, (la || hb) = true → (lb || ha) = true →
    ((la || lb) && (ha || hb)) = (la && ha || lb && hb) := by decide

theorem bits_adj : ∀ la ha hb : Bool, (la || ha) = true → (!ha || hb) = true →
    (la && hb) = (la && ha || !ha && hb) := by decide

/-- the edge `_range_split` and `_range_union` pick with `_edge_compare` is the larger (smaller) of the two, so
    what it bounds is what both (either) bound: `leInt_mono` / `geInt_mono` on the side that was picked -/
theorem leInt_ite_max (a b : Edge) (y : Int) :
    (if edgeCmp a b < 0 then b else a).leInt y = (a.leInt y && b.leInt y) := by
  have := edgeCmp_swap a b
  split
  · exact Bool.eq_and_self.mpr (leInt_mono (by omega))
  · rw [Bool.and_comm]; exact Bool.eq_and_self.mpr (leInt_mono (by omega))

theorem geInt_ite_min (a b : Edge) (y : Int) :
    (if edgeCmp a b > 0 then b else a).geInt y = (a.geInt y && b.geInt y) := by
  have := edgeCmp_swap a b
  split
  · exact Bool.eq_and_self.mpr (geInt_mono (by omega))
  · rw [Bool.and_comm]; exact Bool.eq_and_self.mpr (geInt_mono (by omega))

theorem leInt_ite_min (a b : Edge) (y : Int) :
    (if edgeCmp a b < 0 then a else b).leInt y = (a.leInt y || b.leInt y) := by
  have := edgeCmp_swap a b
  split
  · exact Bool.eq_self_or.mpr (leInt_mono (by omega))
  · rw [Bool.or_comm]; exact Bool.eq_self_or.mpr (leInt_mono (by omega))

theorem geInt_ite_max (a b : Edge) (y : Int) :
    (if edgeCmp a b > 0 then a else b).geInt y = (a.geInt y || b.geInt y) := by
  have := edgeCmp_swap a b
  split
  · exact Bool.eq_self_or.mpr (geInt_mono (by omega))
  · rw [Bool.or_comm]; exact Bool.eq_self_or.mpr (geInt_mono (by omega))

/-- the neighbours of an edge: the limits stay where they are -/
def predE : Edge → Edge | .val v => .val (v - 1) | e => e
def succE : Edge → Edge | .val v => .val (v + 1) | e => e

theorem geInt_predE (e : Edge) (y : Int) : (predE e).geInt y = !e.leInt y := by
  cases e with
  | val v => simp only [predE, geInt_val, leInt_val, ← decide_not]; exact decide_eq_decide.mpr (by omega)
  | _ => rfl

theorem leInt_succE (e : Edge) (y : Int) : (succE e).leInt y = !e.geInt y := by
  cases e with
  | val v => simp only [succE, geInt_val, leInt_val, ← decide_not]; exact decide_eq_decide.mpr (by omega)
  | _ => rfl

theorem edgeCmp_predE {a b : Edge} (h : edgeCmp a b < 0) : edgeCmp a (predE b) ≤ 0 ∧ predE b ≠ .min := by
  cases a <;> cases b <;> simp_all [predE] <;> omega

theorem edgeCmp_succE {a b : Edge} (h : 0 < edgeCmp a b) : edgeCmp (succE b) a ≤ 0 ∧ succE b ≠ .max := by
  cases a <;> cases b <;> simp_all [succE] <;> omega

/-- the bound an edge stands for: a number, or none for MIN/MAX -/
def Edge.bound : Edge → Option Int
  | .val z => some z
  | _ => none

theorem lowerBound_unique {S : Int → Bool} {a b : Option Int} (ha : LowerBound S a) (hb : LowerBound S b) : a = b := by
  cases a with
  | none =>
    cases b with
    | none => rfl
    | some l => obtain ⟨x, hx, hlt⟩ := ha l; have := hb.2 x hx; omega
  | some l =>
    cases b with
    | none => obtain ⟨x, hx, hlt⟩ := hb l; have := ha.2 x hx; omega
    | some l' => have := ha.2 l' hb.1; have := hb.2 l ha.1; congr 1; omega

theorem upperBound_unique {S : Int → Bool} {a b : Option Int} (ha : UpperBound S a) (hb : UpperBound S b) : a = b := by
  cases a with
  | none =>
    cases b with
    | none => rfl
    | some l => obtain ⟨x, hx, hlt⟩ := ha l; have := hb.2 x hx; omega
  | some l =>
    cases b with
    | none => obtain ⟨x, hx, hlt⟩ := hb l; have := ha.2 x hx; omega
    | some l' => have := ha.2 l' hb.1; have := hb.2 l ha.1; congr 1; omega

theorem Edge.bound_inj_lo {a b : Edge} (ha : a ≠ .max) (hb : b ≠ .max) (h : a.bound = b.bound) : a = b := by
  cases a <;> cases b <;> simp_all [Edge.bound]

/-- the left edge of a non-empty leaf that holds the least members of `S` is the lower bound of `S` -/
theorem lowerBound_of_leaf {a : Iv} {S : Int → Bool} (ha : a.wf) (hs : ∀ y, a.mem y = true → S y = true)
    (hl : ∀ y, S y = true → a.lo.leInt y = true) : LowerBound S a.lo.bound := by
  obtain ⟨lo, hi⟩ := a
  obtain ⟨h1, h2, h3⟩ := ha
  cases lo with
  | max => exact absurd rfl h1
  | val l => exact ⟨hs l (by simpa [Iv.mem] using geInt_iff.mpr h3), fun x hx => by simpa using hl x hx⟩
  | min =>
    intro b
    cases hi with
    | min => exact absurd rfl h2
    | max => exact ⟨b - 1, hs _ rfl, by omega⟩
    | val u => exact ⟨min u (b - 1), hs _ (by simp [Iv.mem]; omega), by omega⟩

theorem upperBound_of_leaf {a : Iv} {S : Int → Bool} (ha : a.wf) (hs : ∀ y, a.mem y = true → S y = true)
    (hu : ∀ y, S y = true → a.hi.geInt y = true) : UpperBound S a.hi.bound := by
  obtain ⟨lo, hi⟩ := a
  obtain ⟨h1, h2, h3⟩ := ha
  cases hi with
  | min => exact absurd rfl h2
  | val u => exact ⟨hs u (by simpa [Iv.mem] using leInt_iff.mpr h3), fun x hx => by simpa using hu x hx⟩
  | max =>
    intro b
    cases lo with
    | max => exact absurd rfl h1
    | min => exact ⟨b + 1, hs _ rfl, by omega⟩
    | val l => exact ⟨max l (b + 1), hs _ (by simp [Iv.mem]; omega), by omega⟩

theorem Iv.wf_nonempty {i : Iv} (h : i.wf) : ∃ x, i.mem x = true :=
  -- the lower bound of the leaf's own members is one of them; if there is none, some member lies below 0
  match i.lo.bound, lowerBound_of_leaf h (fun _ => id) (fun _ hy => (Bool.and_eq_true_iff.mp hy).1) with
  | some l, hb => ⟨l, hb.1⟩
  | none, hb => (hb 0).imp fun _ => And.left

theorem Iv.mem_wf {i : Iv} {x : Int} (h : i.mem x = true) : i.wf := by
  simp only [Iv.mem, Bool.and_eq_true] at h
  refine ⟨fun e => ?_, fun e => ?_, edgeCmp_le_of_mem h.1 h.2⟩
  · rw [e] at h; exact absurd h.1 (by simp)
  · rw [e] at h; exact absurd h.2 (by simp)

theorem Iv.wf_of_sub {a m : Iv} (ha : a.wf) (h : ∀ y, a.mem y = true → m.mem y = true) : m.wf := by
  obtain ⟨y, hy⟩ := Iv.wf_nonempty ha
  exact Iv.mem_wf (h y hy)

theorem Iv.wf_cover {i : Iv} (h : i.wf) (y : Int) : (i.lo.leInt y || i.hi.geInt y) = true :=
  leInt_or_geInt h.2.2 y

/-! ### `_range_overlap` -/

theorem overlap_iff {a b : Iv} : overlap a b = true ↔ edgeCmp a.lo b.hi ≤ 0 ∧ edgeCmp b.lo a.hi ≤ 0 := by
  have := edgeCmp_swap a.hi b.lo
  simp only [overlap, Bool.and_eq_true, Bool.not_eq_true', decide_eq_false_iff_not]
  omega

theorem overlap_false_disjoint {a b : Iv} (h : overlap a b = false) (x : Int) :
    ¬ (a.mem x = true ∧ b.mem x = true) := by
  rintro ⟨ha, hb⟩
  simp only [Iv.mem, Bool.and_eq_true] at ha hb
  rw [← Bool.not_eq_true, overlap_iff] at h
  exact h ⟨edgeCmp_le_of_mem ha.1 hb.2, edgeCmp_le_of_mem hb.1 ha.2⟩

theorem contained_mem {x w : Iv} (h1 : 0 ≤ edgeCmp x.lo w.lo) (h2 : edgeCmp x.hi w.hi ≤ 0) {y : Int}
    (hy : x.mem y = true) : w.mem y = true := by
  simp only [Iv.mem, Bool.and_eq_true] at hy ⊢
  have := edgeCmp_swap x.lo w.lo
  exact ⟨leInt_mono (by omega) hy.1, geInt_mono h2 hy.2⟩

/-! ### `_range_partial_sort_elements` -/

theorem mem_insertByLo {x p : Iv} {l : List Iv} : p ∈ insertByLo x l ↔ p = x ∨ p ∈ l := by
  induction l with
  | nil => simp [insertByLo]
  | cons y ys ih =>
    simp only [insertByLo]; split
    · simp
    · rw [List.mem_cons, ih, List.mem_cons]; exact or_left_comm

theorem mem_foldl_insertByLo {p : Iv} (l acc : List Iv) :
    p ∈ l.foldl (fun acc x => insertByLo x acc) acc ↔ p ∈ acc ∨ p ∈ l := by
  induction l generalizing acc with
  | nil => simp
  | cons y ys ih => rw [List.foldl_cons, ih, mem_insertByLo, List.mem_cons, or_comm (a := p = y), or_assoc]

theorem mem_sortByLo {p : Iv} {l : List Iv} : p ∈ sortByLo l ↔ p ∈ l := by
  simp [sortByLo, mem_foldl_insertByLo]

/-! ### `_range_split` -/

/-- edges stay strictly inside the `asn1c_integer_t` range so that the two limit tests of `_range_split` never fire -/
def Iv.bnd (i : Iv) : Prop :=
  (∀ v, i.lo = .val v → ASN_INTEGER_MIN < v ∧ v ≤ ASN_INTEGER_MAX) ∧ (∀ v, i.hi = .val v → ASN_INTEGER_MIN ≤ v ∧ v < ASN_INTEGER_MAX)

/-- the bounds on literal edges (`Iv.bnd`) are made for the neighbours the split takes -/
theorem predE_bnd {e : Edge} (h : ∀ v, e = .val v → ASN_INTEGER_MIN < v ∧ v ≤ ASN_INTEGER_MAX) :
    ∀ v, predE e = .val v → ASN_INTEGER_MIN ≤ v ∧ v < ASN_INTEGER_MAX := by
  intro v hv
  cases e with
  | val u => cases hv; have := h u rfl; omega
  | _ => cases hv

theorem succE_bnd {e : Edge} (h : ∀ v, e = .val v → ASN_INTEGER_MIN ≤ v ∧ v < ASN_INTEGER_MAX) :
    ∀ v, succE e = .val v → ASN_INTEGER_MIN < v ∧ v ≤ ASN_INTEGER_MAX := by
  intro v hv
  cases e with
  | val u => cases hv; have := h u rfl; omega
  | _ => cases hv

/-- everything a leaf list must satisfy for the algorithms to be exact -/
def Good (l : List Iv) : Prop := ∀ p ∈ l, p.wf ∧ p.bnd

theorem Good.nil : Good [] := fun _ h => nomatch h

theorem Good.append {a b : List Iv} (ha : Good a) (hb : Good b) : Good (a ++ b) := by
  intro p hp; rcases List.mem_append.mp hp with h | h
  · exact ha p h
  · exact hb p h

theorem Good.cons {a : Iv} {l : List Iv} (ha : a.wf ∧ a.bnd) (hl : Good l) : Good (a :: l) :=
  List.forall_mem_cons.mpr ⟨ha, hl⟩

theorem Good.head {a : Iv} {t : List Iv} (h : Good (a :: t)) : a.wf ∧ a.bnd := h a (List.mem_cons_self ..)

theorem Good.tail {a : Iv} {t : List Iv} (h : Good (a :: t)) : Good t := fun p hp => h p (List.mem_cons_of_mem _ hp)

theorem Good.filter {l : List Iv} (h : Good l) (f : Iv → Bool) : Good (l.filter f) := by
  intro p hp; exact h p (List.mem_filter.mp hp).1

/-- the pieces `_range_split` sorts when its limit tests do not fire: the part of `ra` below `rb`, the part
    above it, and what they have in common -/
def splitPieces (ra rb : Iv) : List Iv :=
  (if edgeCmp ra.lo rb.lo < 0 then [⟨ra.lo, predE rb.lo⟩] else []) ++
  (if edgeCmp ra.hi rb.hi > 0 then [⟨succE rb.hi, ra.hi⟩] else []) ++
  [⟨if edgeCmp ra.lo rb.lo < 0 then rb.lo else ra.lo, if edgeCmp ra.hi rb.hi > 0 then rb.hi else ra.hi⟩]

theorem splitPieces_den {x w : Iv} (ho : overlap x w = true) (y : Int) :
    den (splitPieces x w) y = x.mem y := by
  obtain ⟨h1, h2⟩ := overlap_iff.mp ho
  -- the piece below `w` would be empty anyway when it is left out, and so the piece above
  have hL : den (if edgeCmp x.lo w.lo < 0 then [(⟨x.lo, predE w.lo⟩ : Iv)] else []) y =
      (x.lo.leInt y && !w.lo.leInt y) := by
    split
    · simp [Iv.mem, geInt_predE]
    · have := edgeCmp_swap x.lo w.lo
      have hm : x.lo.leInt y = true → w.lo.leInt y = true := leInt_mono (by omega)
      cases hx : x.lo.leInt y
      · rfl
      · rw [hm hx]; rfl
  have hR : den (if edgeCmp x.hi w.hi > 0 then [(⟨succE w.hi, x.hi⟩ : Iv)] else []) y =
      (!w.hi.geInt y && x.hi.geInt y) := by
    split
    · simp [Iv.mem, leInt_succE]
    · have hm : x.hi.geInt y = true → w.hi.geInt y = true := geInt_mono (by omega)
      cases hx : x.hi.geInt y
      · exact (Bool.and_false _).symm
      · rw [hm hx]; rfl
  rw [splitPieces, den_append, den_append, hL, hR]
  simp only [den_cons, den_nil, Iv.mem, leInt_ite_max, geInt_ite_min, Bool.or_false]
  exact bits_split _ _ _ _ (leInt_or_geInt h1 y) (leInt_or_geInt h2 y)

theorem splitPieces_good {x w : Iv} (hx : x.wf ∧ x.bnd) (hw : w.wf ∧ w.bnd) (ho : overlap x w = true) :
    Good (splitPieces x w) := by
  obtain ⟨h1, h2⟩ := overlap_iff.mp ho
  -- the common part takes each edge from `x` or from `w`
  have mid : ∀ lo hi, (lo = w.lo ∨ lo = x.lo) → (hi = w.hi ∨ hi = x.hi) →
      (⟨lo, hi⟩ : Iv).wf ∧ (⟨lo, hi⟩ : Iv).bnd := by
    rintro lo hi (rfl | rfl) (rfl | rfl)
    · exact hw
    · exact ⟨⟨hw.1.1, hx.1.2.1, h2⟩, hw.2.1, hx.2.2⟩
    · exact ⟨⟨hx.1.1, hw.1.2.1, h1⟩, hx.2.1, hw.2.2⟩
    · exact hx
  unfold splitPieces
  refine Good.append (Good.append ?_ ?_) (Good.cons ?_ Good.nil)
  · split
    · rename_i c
      exact Good.cons ⟨⟨hx.1.1, (edgeCmp_predE c).2, (edgeCmp_predE c).1⟩, hx.2.1, predE_bnd hw.2.1⟩ Good.nil
    · exact Good.nil
  · split
    · rename_i c
      exact Good.cons ⟨⟨(edgeCmp_succE c).2, hx.1.2.1, (edgeCmp_succE c).1⟩, succE_bnd hw.2.2, hx.2.2⟩ Good.nil
    · exact Good.nil
  · exact mid _ _ (by split <;> simp) (by split <;> simp)

/-- `_range_split` on a `with` leaf whose edges keep the limit tests from firing: nothing unless the leaves
    overlap and `x` sticks out of `w`, then the sorted pieces -/
theorem splitIv_eq {x w : Iv} (hb : w.bnd) :
    splitIv x w = if overlap x w = true ∧ ¬ (0 ≤ edgeCmp x.lo w.lo ∧ edgeCmp x.hi w.hi ≤ 0)
      then some (sortByLo (splitPieces x w)) else none := by
  have e1 : (match w.lo with
      | .val v => if v == ASN_INTEGER_MIN then [] else [(⟨x.lo, .val (v - 1)⟩ : Iv)]
      | e => [⟨x.lo, e⟩]) = [⟨x.lo, predE w.lo⟩] := by
    cases h : w.lo with
    | val v => have : ASN_INTEGER_MIN < v := (hb.1 v h).1; exact if_neg (by simp; omega)
    | _ => rfl
  have e2 : (match w.hi with
      | .val v => if v == ASN_INTEGER_MAX then [] else [(⟨.val (v + 1), x.hi⟩ : Iv)]
      | e => [⟨e, x.hi⟩]) = [⟨succE w.hi, x.hi⟩] := by
    cases h : w.hi with
    | val v => have : v < ASN_INTEGER_MAX := (hb.2 v h).2; exact if_neg (by simp; omega)
    | _ => rfl
  unfold splitIv splitPieces
  by_cases ho : overlap x w = true
  · by_cases hc : 0 ≤ edgeCmp x.lo w.lo ∧ edgeCmp x.hi w.hi ≤ 0
    · simp [ho, hc]
    · have hc' : (decide (edgeCmp x.lo w.lo ≥ 0) && decide (edgeCmp x.hi w.hi ≤ 0)) = false := by
        simpa using hc
      simp only [ho, hc, hc', Bool.not_true, Bool.false_eq_true, if_false, not_false_eq_true, and_self, if_true]
      -- the two `match`es of `splitIv` are `e1`, `e2` up to unfolding
      congr 5
  · simp [ho]

theorem splitIv_some_spec {x w : Iv} {ps : List Iv} (hx : x.wf ∧ x.bnd) (hw : w.wf ∧ w.bnd)
    (h : splitIv x w = some ps) : (∀ y, den ps y = x.mem y) ∧ Good ps := by
  rw [splitIv_eq hw.2] at h
  split at h
  · rename_i hc
    cases h
    exact ⟨fun y => by rw [den_congr_mem (fun p => mem_sortByLo) y]; exact splitPieces_den hc.1 y,
      fun p hp => splitPieces_good hx hw hc.1 p (mem_sortByLo.mp hp)⟩
  · cases h

/-- `_range_split` returns 0 when the leaves are apart or `ra` lies within `rb`, whatever the edges -/
theorem splitIv_none {ra rb : Iv} (h : splitIv ra rb = none) :
    overlap ra rb = false ∨ (0 ≤ edgeCmp ra.lo rb.lo ∧ edgeCmp ra.hi rb.hi ≤ 0) := by
  by_cases ho : (!overlap ra rb) = true
  · exact Or.inl (by simpa using ho)
  · by_cases hc : (decide (edgeCmp ra.lo rb.lo ≥ 0) && decide (edgeCmp ra.hi rb.hi ≤ 0)) = true
    · exact Or.inr (by simpa using hc)
    · -- both tests of `_range_split` fail: it returns pieces
      rw [splitIv, if_neg ho] at h
      exact absurd h (by dsimp only; rw [if_neg hc]; nofun)

/-! ### the split loop and `_range_intersection` -/

/-- the loop keeps the set and `Good`; what it retires to `done` no `with` leaf can split -/
theorem splitLoop_spec {W : List Iv} (hW : Good W) (fuel : Nat) (done todo : List Iv) :
    ∀ out, Good (done ++ todo) → (∀ p ∈ done, ∀ w ∈ W, splitIv p w = none) → splitLoop W fuel done todo = some out →
      (∀ y, den out y = den (done ++ todo) y) ∧ Good out ∧ ∀ p ∈ out, ∀ w ∈ W, splitIv p w = none := by
  induction fuel, done, todo using splitLoop.induct W with
  | case1 _ done =>
    intro out hg hu h
    rw [splitLoop, Option.some.injEq] at h; subst h
    rw [List.append_nil] at hg ⊢
    exact ⟨fun _ => rfl, hg, hu⟩
  | case2 => intro out _ _ h; simp [splitLoop] at h
  | case3 fuel done x rest hf ih =>
    intro out hg hu h
    rw [splitLoop, hf] at h
    obtain ⟨h1, h2, h3⟩ := ih out (by simpa using hg)
      (List.forall_mem_append.mpr ⟨hu, by simpa using List.findSome?_eq_none_iff.mp hf⟩) h
    exact ⟨fun y => by rw [h1 y]; simp, h2, h3⟩
  | case4 fuel done x rest pieces hf ih =>
    intro out hg hu h
    rw [splitLoop, hf] at h
    obtain ⟨w, hw, hs⟩ := List.exists_of_findSome?_eq_some hf
    obtain ⟨hg1, hg2⟩ := List.forall_mem_append.mp hg
    obtain ⟨hd, hgp⟩ := splitIv_some_spec (Good.head hg2) (hW w hw) hs
    obtain ⟨h1, h2, h3⟩ := ih out (Good.append hg1 (Good.append (Good.tail hg2) hgp)) hu h
    refine ⟨fun y => ?_, h2, h3⟩
    rw [h1 y]; simp only [den_append, den_cons, hd y]
    cases den done y <;> cases den rest y <;> cases x.mem y <;> rfl

/-- a leaf that `w` cannot split lies inside `w` or apart from it -/
theorem overlap_of_unsplit {p w : Iv} (hu : splitIv p w = none) {y : Int} (hy : p.mem y = true) :
    overlap p w = w.mem y := by
  cases ho : overlap p w with
  | true =>
    obtain ⟨h1, h2⟩ := (splitIv_none hu).resolve_left (by rw [ho]; nofun)
    exact (contained_mem h1 h2 hy).symm
  | false => exact (Bool.eq_false_iff.mpr fun hwy => overlap_false_disjoint ho y ⟨hy, hwy⟩).symm

theorem den_filter_overlap {W out : List Iv} (hu : ∀ p ∈ out, ∀ w ∈ W, splitIv p w = none) (y : Int) :
    den (out.filter fun p => W.any (overlap p)) y = (den out y && den W y) := by
  rw [Bool.eq_iff_iff, Bool.and_eq_true, den_eq_true, den_eq_true, den_eq_true]
  simp only [List.mem_filter, List.any_eq_true]
  constructor
  · rintro ⟨p, ⟨hp, w, hw, ho⟩, hy⟩
    exact ⟨⟨p, hp, hy⟩, w, hw, overlap_of_unsplit (hu p hp w hw) hy ▸ ho⟩
  · rintro ⟨⟨p, hp, hy⟩, w, hw, hwy⟩
    exact ⟨p, ⟨hp, w, hw, (overlap_of_unsplit (hu p hp w hw) hy).trans hwy⟩, hy⟩

/-- the flags `_range_intersection(range, with)` leaves on its result -/
structure InterFlags (range wth r : Range) (isOer : Bool) : Prop where
  incompat : r.incompat = false
  ext : r.ext = (range.ext || wth.ext)
  notPER : r.notPER = (range.notPER || (!isOer && wth.notPER))
  notOER : r.notOER = (range.notOER || wth.ext)

theorem interFlags_same (range wth : Range) (isOer : Bool) :
    (interFlags range wth isOer).leaves = range.leaves ∧ (interFlags range wth isOer).empty = range.empty ∧
    (interFlags range wth isOer).incompat = range.incompat := by
  unfold interFlags; split <;> exact ⟨rfl, rfl, rfl⟩

theorem ite_error_eq_ok {ε α : Type} {c : Prop} [Decidable c] {e : ε} {x : Except ε α} {r : α} :
    (if c then Except.error e else x) = .ok r ↔ ¬ c ∧ x = .ok r := by
  split <;> simp [*]

/-- `_range_intersection` when it returns: the flags are propagated; an operand flagged empty makes the result
    empty ("No use in intersecting empty constraints"); otherwise the strict edge check passed if it was asked for,
    the asserts of `_range_overlap` held, the split loop ended and the pieces that meet `with` are kept -/
theorem intersection_ok {range wth r : Range} {strict isOer : Bool}
    (h : intersection range wth strict isOer = .ok r) :
    InterFlags range wth r isOer ∧
    if range.empty = true ∨ wth.empty = true then r.empty = true else
      (strict = true → wth.leaves.all (edgesWithin range.leaves) = true) ∧ wth.leaves.all Iv.ordered = true ∧
      ∃ pieces, splitLoop wth.leaves (splitFuel range.leaves wth.leaves) [] range.leaves = some pieces ∧
        r.els = pieces.filter (fun p => wth.leaves.any (overlap p)) ∧ r.empty = r.els.isEmpty := by
  unfold intersection at h
  rw [ite_error_eq_ok, ite_error_eq_ok] at h
  obtain ⟨h1, h2, h⟩ := h
  obtain ⟨hl, he, hi⟩ := interFlags_same range wth isOer
  have hf : InterFlags range wth (interFlags range wth isOer) isOer := by
    have hinc : (interFlags range wth isOer).incompat = false := by rw [hi]; simpa using h1
    cases isOer with
    | false => exact ⟨hinc, rfl, rfl, rfl⟩
    | true =>
      -- OER mode copies the marks of `range`, and the assert `h2` says `with` has no marker to add
      have hw : wth.ext = false := by simp at h2; exact h2.1.2
      have e : ∀ b : Bool, b = (b || wth.ext) := fun b => by rw [hw, Bool.or_false]
      exact ⟨hinc, e _, (Bool.or_false _).symm, e _⟩
  -- the loop changes `els` and `empty` only
  generalize interFlags range wth isOer = F at h hf hl he
  have hl' : ∀ b, ({ F with empty := b } : Range).leaves = range.leaves := fun _ => hl
  unfold interCore at h
  rw [he] at h
  by_cases hE : range.empty = true ∨ wth.empty = true
  · rw [if_pos hE]
    rw [if_pos (by simpa using hE)] at h
    cases h
    exact ⟨⟨hf.incompat, hf.ext, hf.notPER, hf.notOER⟩, by simpa using hE⟩
  · rw [if_neg hE]
    rw [if_neg (by simpa using hE), hl'] at h
    dsimp only at h
    rw [ite_error_eq_ok, ite_error_eq_ok] at h
    obtain ⟨h3, h4, h⟩ := h
    split at h
    · cases h
    · rename_i pieces hs
      cases h
      have hstr : strict = true → wth.leaves.all (edgesWithin range.leaves) = true := fun hst =>
        Decidable.by_contra fun hx => h3 (by rw [hst, Bool.eq_false_iff.mpr hx]; rfl)
      exact ⟨⟨hf.incompat, hf.ext, hf.notPER, hf.notOER⟩, hstr, (Bool.and_eq_true_iff.mp
        (show (range.leaves.all Iv.ordered && wth.leaves.all Iv.ordered) = true by simpa using h4)).2, pieces, hs, rfl, rfl⟩

theorem intersection_spec {range wth r : Range} {strict isOer : Bool}
    (hg : Good range.leaves) (hw : Good wth.leaves)
    (he : range.empty = false) (hwe : wth.empty = false)
    (h : intersection range wth strict isOer = .ok r) :
    (∀ y, den r.els y = (den range.leaves y && den wth.leaves y)) ∧ Good r.els ∧ r.empty = r.els.isEmpty := by
  have hc := (intersection_ok h).2
  rw [if_neg (by simp [he, hwe])] at hc
  obtain ⟨_, _, pieces, hs, e1, e2⟩ := hc
  obtain ⟨d1, d2, d3⟩ := splitLoop_spec hw _ [] _ _ (by simpa using hg) (fun _ h => nomatch h) hs
  refine ⟨fun y => ?_, e1 ▸ Good.filter d2 _, e2⟩
  rw [e1, den_filter_overlap d3 y, d1 y]; simp

/-- the strict edge check (`_check_edges_within`) and the asserts of `_range_overlap` passed -/
theorem intersection_strict_ok {range wth r : Range} {isOer : Bool}
    (he : range.empty = false) (hwe : wth.empty = false)
    (h : intersection range wth true isOer = .ok r) :
    wth.leaves.all (edgesWithin range.leaves) = true ∧ wth.leaves.all Iv.ordered = true := by
  have hc := (intersection_ok h).2
  rw [if_neg (by simp [he, hwe])] at hc
  exact ⟨hc.1 rfl, hc.2.1⟩

/-! ### `_range_union` : sort + merge scan -/

theorem insertIv_eq (x : Iv) (l : List Iv) : insertIv x l = L2.insertBy ivLe x l := by
  induction l with
  | nil => rfl
  | cons y ys ih => simp only [insertIv, L2.insertBy, ih]

/-- the `qsort` of `_range_union` is the insertion sort of Proofs/Sort for the order `_range_compare` -/
theorem sortIvs_eq (l : List Iv) : sortIvs l = L2.sortBy ivLe l := by
  induction l with
  | nil => rfl
  | cons y ys ih => rw [L2.sortBy, ← ih, ← insertIv_eq]; rfl

theorem mem_sortIvs {p : Iv} {l : List Iv} : p ∈ sortIvs l ↔ p ∈ l := by
  rw [sortIvs_eq]; exact Proofs.Sort.mem_sortBy ivLe p l

def loLe (a b : Iv) : Prop := edgeCmp a.lo b.lo ≤ 0

theorem ivLe_loLe {x y : Iv} (h : ivLe x y = true) : loLe x y := by
  unfold loLe
  by_cases hc : 0 < edgeCmp x.lo y.lo
  · have : ¬ edgeCmp x.lo y.lo < 0 := by omega
    simp [ivLe, hc, this] at h
  · omega

theorem not_ivLe_loLe {x y : Iv} (h : ivLe x y = false) : loLe y x := by
  unfold loLe
  have := edgeCmp_swap x.lo y.lo
  by_cases hc : edgeCmp x.lo y.lo < 0
  · simp [ivLe, hc] at h
  · omega

/-- `_range_compare` orders by (left, right); the merge scan needs the order of the left edges only -/
theorem pairwise_sortIvs (l : List Iv) : (sortIvs l).Pairwise loLe := by
  rw [sortIvs_eq]
  exact Proofs.Sort.pairwise_sortBy_of ivLe (fun _ _ => ivLe_loLe) (fun _ _ => not_ivLe_loLe)
    (fun _ _ _ => edgeCmp_le_trans) l

/-- strictly separated, non-adjacent: `a.hi + 1 < b.lo` -/
def gapLt (a b : Iv) : Prop :=
  match a.hi, b.lo with
  | .val x, .val y => x + 1 < y
  | _, _ => False

theorem gapLt_iff {a b : Iv} : gapLt a b ↔ ∃ x z, a.hi = .val x ∧ b.lo = .val z ∧ x + 1 < z := by
  unfold gapLt
  split
  · rename_i x z h1 h2; simp [h1, h2]
  · rename_i h; exact ⟨False.elim, fun ⟨x, z, h1, h2, _⟩ => h x z h1 h2⟩

/-- canonical form of a leaf list: sorted, pairwise disjoint and non-adjacent -/
def Canon : List Iv → Prop
  | [] => True
  | [_] => True
  | a :: b :: r => gapLt a b ∧ Canon (b :: r)

/-- the leaf two overlapping neighbours are replaced by -/
def mergeOv (a b : Iv) : Iv :=
  ⟨if edgeCmp a.lo b.lo < 0 then a.lo else b.lo, if edgeCmp a.hi b.hi > 0 then a.hi else b.hi⟩

theorem mergeOv_lo {a b : Iv} (h : loLe a b) : (mergeOv a b).lo = a.lo := by
  unfold mergeOv loLe at *
  simp only
  split
  · rfl
  · exact (edgeCmp_eq_zero.mp (by omega)).symm

theorem mergeOv_hi (a b : Iv) : (mergeOv a b).hi = a.hi ∨ (mergeOv a b).hi = b.hi := by
  unfold mergeOv; dsimp only; split <;> simp

theorem mergeOv_mem {a b : Iv} (ho : overlap a b = true) (y : Int) :
    (mergeOv a b).mem y = (a.mem y || b.mem y) := by
  obtain ⟨h1, h2⟩ := overlap_iff.mp ho
  simp only [mergeOv, Iv.mem, leInt_ite_min, geInt_ite_max]
  exact bits_merge _ _ _ _ (leInt_or_geInt h1 y) (leInt_or_geInt h2 y)

theorem adjacent_iff {a b : Iv} : adjacent a b = true ↔ ∃ x, a.hi = .val x ∧ b.lo = .val (x + 1) := by
  unfold adjacent
  split
  · rename_i x z h1 h2
    simp only [h1, h2, beq_iff_eq, Edge.val.injEq, exists_eq_left']
    omega
  · rename_i h
    exact ⟨fun h' => Bool.noConfusion h', fun ⟨x, h1, h2⟩ => (h x _ h1 h2).elim⟩

theorem mergeAdj_mem {a b : Iv} (ha : a.wf) (hb : b.wf) (hadj : adjacent a b = true) (y : Int) :
    (⟨a.lo, b.hi⟩ : Iv).mem y = (a.mem y || b.mem y) := by
  obtain ⟨x, h1, h2⟩ := adjacent_iff.mp hadj
  have o2 := Iv.wf_cover hb y
  have e : b.lo.leInt y = !a.hi.geInt y := by rw [h2, h1, ← leInt_succE]; rfl
  simp only [Iv.mem]
  rw [e] at o2 ⊢
  exact bits_adj _ _ _ (Iv.wf_cover ha y) o2

theorem gap_of_not {a b : Iv} (hl : loLe a b) (ha : a.wf) (hb : b.wf) (ho : overlap a b = false)
    (hadj : adjacent a b = false) : gapLt a b := by
  have h1 : edgeCmp a.lo b.hi ≤ 0 := edgeCmp_le_trans hl hb.2.2
  have h2 : ¬ edgeCmp b.lo a.hi ≤ 0 := fun h => by rw [overlap_iff.mpr ⟨h1, h⟩] at ho; cases ho
  have h3 : a.hi ≠ .min := ha.2.1
  have h4 : b.lo ≠ .max := hb.1
  clear hl ha hb ho h1
  obtain ⟨al, ah⟩ := a; obtain ⟨bl, bh⟩ := b
  cases ah <;> cases bl <;> simp_all [gapLt, adjacent]
  omega

/-- what the merge scan started at `cur` delivers -/
def MergeOk (cur : Iv) (l out : List Iv) : Prop :=
  (∀ y, den out y = (cur.mem y || den l y)) ∧ Good out ∧
    ∃ h t, out = h :: t ∧ h.lo = cur.lo ∧ Canon (h :: t)

/-- `cur` and its neighbour `b` are replaced by `m`, which has the members of both, the left edge of `cur` and the right
    edge of one of them, and the scan goes on from there -/
theorem MergeOk.absorb {cur b m : Iv} {rest out : List Iv} (hg : Good (cur :: b :: rest))
    (hp : (cur :: b :: rest).Pairwise loLe) (hmem : ∀ y, m.mem y = (cur.mem y || b.mem y))
    (hlo : m.lo = cur.lo) (hhi : m.hi = cur.hi ∨ m.hi = b.hi)
    (ih : Good (m :: rest) → (m :: rest).Pairwise loLe → MergeOk m rest out) : MergeOk cur (b :: rest) out := by
  obtain ⟨h1, h2⟩ := List.pairwise_cons.mp hp
  have hwf : m.wf := Iv.wf_of_sub hg.head.1 fun y hy => by rw [hmem y, hy]; rfl
  have hb : m.bnd := by
    refine ⟨hlo ▸ hg.head.2.1, ?_⟩
    rcases hhi with e | e <;> rw [e]
    · exact hg.head.2.2
    · exact hg.tail.head.2.2
  have hp' : (m :: rest).Pairwise loLe :=
    List.pairwise_cons.mpr ⟨fun p hp => by unfold loLe; rw [hlo]; exact h1 p (List.mem_cons_of_mem _ hp),
      (List.pairwise_cons.mp h2).2⟩
  obtain ⟨d, g, hd, t, e1, e2, e3⟩ := ih (Good.cons ⟨hwf, hb⟩ hg.tail.tail) hp'
  exact ⟨fun y => by rw [d y, hmem y, den_cons, Bool.or_assoc], g, hd, t, e1, e2.trans hlo, e3⟩

theorem mergeAcc_spec (cur : Iv) (l : List Iv) : Good (cur :: l) → (cur :: l).Pairwise loLe →
    MergeOk cur l (mergeAcc cur l) := by
  induction cur, l using mergeAcc.induct with
  | case1 cur => intro hg _; exact ⟨fun y => by simp [mergeAcc], by simpa [mergeAcc] using hg, cur, [], rfl, rfl, trivial⟩
  | case2 cur b rest ho ih =>
    intro hg hp
    rw [mergeAcc, if_pos ho]
    exact MergeOk.absorb hg hp (mergeOv_mem ho) (mergeOv_lo ((List.pairwise_cons.mp hp).1 b (by simp)))
      (mergeOv_hi cur b) ih
  | case3 cur b rest ho hadj ih =>
    intro hg hp
    rw [mergeAcc, if_neg ho, if_pos hadj]
    exact MergeOk.absorb hg hp (mergeAdj_mem hg.head.1 hg.tail.head.1 hadj) rfl (Or.inr rfl) ih
  | case4 cur b rest ho hadj ih =>
    intro hg hp
    rw [mergeAcc, if_neg ho, if_neg hadj]
    obtain ⟨hp1, hp2⟩ := List.pairwise_cons.mp hp
    obtain ⟨d1, d2, h, t, e1, e2, e3⟩ := ih hg.tail hp2
    refine ⟨fun y => by simp [d1 y], Good.cons hg.head d2, cur, h :: t, by rw [e1], rfl, ?_, e3⟩
    have hgap := gap_of_not (hp1 b (by simp)) hg.head.1 hg.tail.head.1
      (by simpa using ho) (by simpa using hadj)
    unfold gapLt at hgap ⊢; rw [e2]; exact hgap

theorem unionIvs_spec {l : List Iv} (hg : Good l) (hne : l ≠ []) :
    (∀ y, den (unionIvs l) y = den l y) ∧ Good (unionIvs l) ∧ Canon (unionIvs l) ∧ ∃ h t, unionIvs l = h :: t := by
  unfold unionIvs
  have hs := pairwise_sortIvs l
  have hm : ∀ p, p ∈ sortIvs l ↔ p ∈ l := fun p => mem_sortIvs
  have hgs : Good (sortIvs l) := fun p hp => hg p ((hm p).mp hp)
  cases hsl : sortIvs l with
  | nil =>
    obtain ⟨a, t, rfl⟩ := List.exists_cons_of_ne_nil hne
    have : a ∈ sortIvs (a :: t) := (hm a).mpr (by simp)
    rw [hsl] at this; cases this
  | cons a t =>
    rw [hsl] at hs hgs
    obtain ⟨d1, d2, h, t', e1, _, e3⟩ := mergeAcc_spec a t hgs hs
    refine ⟨fun y => ?_, d2, ?_, ?_⟩
    · show den (mergeAcc a t) y = _
      rw [d1 y, ← den_cons, ← hsl]; exact den_congr_mem hm y
    · show Canon (mergeAcc a t); rw [e1]; exact e3
    · exact ⟨h, t', e1⟩

theorem Canon.tail {a : Iv} {t : List Iv} (h : Canon (a :: t)) : Canon t := by
  cases t with
  | nil => trivial
  | cons b r => exact h.2

theorem beyond_of_gap {a b : Iv} (h : gapLt a b) {y : Int} (hy : b.lo.leInt y = true) :
    ∃ x, a.hi = .val x ∧ x + 1 < y := by
  obtain ⟨x, z, h1, h2, hlt⟩ := gapLt_iff.mp h
  rw [h2, leInt_val, decide_eq_true_eq] at hy
  exact ⟨x, h1, by omega⟩

theorem canon_hull {a : Iv} {t : List Iv} (hg : Good (a :: t)) (hc : Canon (a :: t)) {y : Int}
    (hy : den (a :: t) y = true) :
    a.lo.leInt y = true ∧ ((a :: t).getLast (by simp)).hi.geInt y = true := by
  induction t generalizing a y with
  | nil => simpa [Iv.mem] using hy
  | cons b r ih =>
    rw [List.getLast_cons (by simp)]
    rw [den_cons, Bool.or_eq_true] at hy
    rcases hy with hy | hy
    · -- y ≤ a.hi < b.lo ≤ some member of b ≤ last.hi
      obtain ⟨yb, hyb⟩ := Iv.wf_nonempty hg.tail.head.1
      have hlast := (ih hg.tail hc.2 (y := yb) (by rw [den_cons, hyb]; rfl)).2
      obtain ⟨x, hx, hlt⟩ := beyond_of_gap hc.1 (Bool.and_eq_true_iff.mp hyb).1
      obtain ⟨hl, hh⟩ := Bool.and_eq_true_iff.mp hy
      rw [hx, geInt_val, decide_eq_true_eq] at hh
      exact ⟨hl, geInt_of_le (by omega) hlast⟩
    · -- a.lo ≤ a.hi < b.lo ≤ y
      obtain ⟨hl, hh⟩ := ih hg.tail hc.2 hy
      obtain ⟨x, hx, hlt⟩ := beyond_of_gap hc.1 hl
      have := Iv.wf_cover hg.head.1 y
      rw [hx, geInt_val, decide_eq_false (by omega), Bool.or_false] at this
      exact ⟨this, hh⟩

theorem canon_beyond {a : Iv} {t : List Iv} (hg : Good (a :: t)) (hc : Canon (a :: t)) {y : Int}
    (hy : den t y = true) : ∃ x, a.hi = .val x ∧ x + 1 < y := by
  cases t with
  | nil => cases hy
  | cons b r => exact beyond_of_gap hc.1 (canon_hull hg.tail hc.2 hy).1

/-- two leaves with the same left edge: if `b` went further right than `a = [.., x]` it would hold `x + 1` -/
theorem hi_le_of {a b : Iv} (hlo : a.lo = b.lo) (ha : a.wf)
    (h : ∀ y, b.mem y = true → a.mem y = true ∨ ∃ x, a.hi = .val x ∧ x + 1 < y) : edgeCmp b.hi a.hi ≤ 0 := by
  cases hah : a.hi with
  | min => exact absurd hah ha.2.1
  | max => cases b.hi <;> simp
  | val x =>
    refine Decidable.byContradiction fun hgt => ?_
    have hb1 : b.lo.leInt (x + 1) = true := by
      rw [← hlo]; exact leInt_of_le (by omega) (leInt_iff.mpr (hah ▸ ha.2.2))
    have hb2 : b.hi.geInt (x + 1) = true := geInt_iff.mpr (edgeCmp_succE (b := .val x) (by omega)).1
    rcases h (x + 1) (by simp [Iv.mem, hb1, hb2]) with h' | ⟨x', hx', hlt⟩
    · simp [Iv.mem, hah] at h'; omega
    · rw [hah] at hx'; cases hx'; omega

theorem canon_head_eq {a b : Iv} {t₁ t₂ : List Iv} (g₁ : Good (a :: t₁)) (g₂ : Good (b :: t₂))
    (c₁ : Canon (a :: t₁)) (c₂ : Canon (b :: t₂)) (h : ∀ y, den (a :: t₁) y = den (b :: t₂) y) : a = b := by
  have ha := g₁.head.1
  have hb := g₂.head.1
  have h₁ : ∀ y, b.mem y = true → den (a :: t₁) y = true := fun y hy => by rw [h y, den_cons, hy]; rfl
  have h₂ : ∀ y, a.mem y = true → den (b :: t₂) y = true := fun y hy => by rw [← h y, den_cons, hy]; rfl
  -- both left edges are the lower bound of the one set
  have hlo : a.lo = b.lo :=
    Edge.bound_inj_lo ha.1 hb.1 (lowerBound_unique
      (lowerBound_of_leaf ha (fun y hy => by rw [den_cons, hy]; rfl) fun y hy => (canon_hull g₁ c₁ hy).1)
      (lowerBound_of_leaf hb h₁ fun y hy => (canon_hull g₂ c₂ (h y ▸ hy)).1))
  have hhi : a.hi = b.hi :=
    edgeCmp_antisymm
      (hi_le_of hlo.symm hb fun y hy => (Bool.or_eq_true_iff.mp (h₂ y hy)).imp id (canon_beyond g₂ c₂))
      (hi_le_of hlo ha fun y hy => (Bool.or_eq_true_iff.mp (h₁ y hy)).imp id (canon_beyond g₁ c₁))
  obtain ⟨al, ah⟩ := a; obtain ⟨bl, bh⟩ := b
  simp only at hlo hhi
  rw [hlo, hhi]

theorem canon_tail_den {a : Iv} {t : List Iv} (g : Good (a :: t)) (c : Canon (a :: t)) (y : Int) :
    den t y = (den (a :: t) y && !a.mem y) := by
  rw [den_cons]
  cases h1 : a.mem y with
  | false => simp
  | true =>
    rw [Bool.not_true, Bool.and_false, Bool.eq_false_iff]
    intro h2
    obtain ⟨x, hx, hlt⟩ := canon_beyond g c h2
    have := (Bool.and_eq_true_iff.mp h1).2
    rw [hx, geInt_val, decide_eq_true_eq] at this
    omega

theorem den_eq_nil {l : List Iv} (g : Good l) (h : ∀ y, den l y = false) : l = [] := by
  cases l with
  | nil => rfl
  | cons a t =>
    obtain ⟨y, hy⟩ := Iv.wf_nonempty g.head.1
    have := h y; simp [hy] at this

/-- **the canonical form is a normal form**: sorted, disjoint, non-adjacent lists of well-formed
    leaves with the same denotation are equal -/
theorem canon_unique : ∀ (l₁ l₂ : List Iv), Good l₁ → Good l₂ → Canon l₁ → Canon l₂ →
    (∀ y, den l₁ y = den l₂ y) → l₁ = l₂ := by
  intro l₁
  induction l₁ with
  | nil => intro l₂ _ g₂ _ _ h; exact (den_eq_nil g₂ fun y => (h y).symm).symm
  | cons a t₁ ih =>
    intro l₂ g₁ g₂ c₁ c₂ h
    cases l₂ with
    | nil => exact den_eq_nil g₁ h
    | cons b t₂ =>
      obtain rfl := canon_head_eq g₁ g₂ c₁ c₂ h
      rw [ih t₂ g₁.tail g₂.tail c₁.tail c₂.tail fun y => by rw [canon_tail_den g₁ c₁, canon_tail_den g₂ c₂, h y]]

/-! ### `_range_canonicalize` and the representation invariant -/

theorem leaves_of_els_nil {r : Range} (h : r.els = []) : r.leaves = [⟨r.left, r.right⟩] := by
  simp [Range.leaves, h]

theorem leaves_of_els_ne {r : Range} (h : r.els ≠ []) : r.leaves = r.els := by
  unfold Range.leaves
  cases he : r.els with
  | nil => exact absurd he h
  | cons a t => simp

theorem els_sub_leaves (r : Range) : ∀ p ∈ r.els, p ∈ r.leaves := by
  intro p hp
  rw [leaves_of_els_ne (List.ne_nil_of_mem hp)]; exact hp

theorem leaves_ne_nil (r : Range) : r.leaves ≠ [] := by
  unfold Range.leaves; split
  · simp
  · rename_i h; intro h'; rw [h'] at h; simp at h

/-- `r` is in canonical form and denotes the non-empty set `S` -/
structure Repr (r : Range) (S : Int → Bool) : Prop where
  good : Good r.leaves
  canon : Canon r.leaves
  den : ∀ y, den r.leaves y = S y
  ends : ∃ h t, r.leaves = h :: t ∧ r.left = h.lo ∧ r.right = ((h :: t).getLast (by simp)).hi
  shape : r.els.length ≠ 1
  empty : r.empty = false
  incompat : r.incompat = false

theorem canonicalize_flags (r : Range) :
    (canonicalize r).empty = r.empty ∧ (canonicalize r).ext = r.ext ∧ (canonicalize r).incompat = r.incompat ∧
    (canonicalize r).notOER = r.notOER ∧ (canonicalize r).notPER = r.notPER := by
  unfold canonicalize
  split
  · split <;> simp
  · dsimp only
    split <;> simp

theorem canonicalize_ne {r : Range} (hne : r.els ≠ []) {f : Iv} {t : List Iv} (hu : unionIvs r.els = f :: t) :
    (canonicalize r).leaves = f :: t ∧ (canonicalize r).els.length ≠ 1 ∧
    (canonicalize r).left = f.lo ∧ (canonicalize r).right = ((f :: t).getLast (by simp)).hi := by
  unfold canonicalize
  have : r.els.isEmpty = false := by cases h : r.els <;> simp_all
  have hl : (f :: t).getLast? = some ((f :: t).getLast (by simp)) := List.getLast?_eq_some_getLast (by simp)
  simp only [this, Bool.false_eq_true, if_false, hu, hl, and_true]
  -- a single leaf is kept in `left`, `right` alone, with no elements
  cases t <;> simp [Range.leaves]

theorem repr_of_canonicalize {r : Range} {S : Int → Bool} (hne : r.els ≠ []) (hg : Good r.els)
    (hd : ∀ y, den r.els y = S y) (he : r.empty = false) (hi : r.incompat = false) :
    Repr (canonicalize r) S := by
  obtain ⟨u1, u2, u3, f, t, hu⟩ := unionIvs_spec hg hne
  obtain ⟨c1, c2, c3, c4⟩ := canonicalize_ne hne hu
  obtain ⟨f1, _, f3, _, _⟩ := canonicalize_flags r
  rw [← hu] at c1
  exact ⟨by rw [c1]; exact u2, by rw [c1]; exact u3, fun y => by rw [c1, u1 y, hd y],
    ⟨f, t, c1.trans hu, c3, c4⟩, c2, by rw [f1, he], by rw [f3, hi]⟩

/-- the set is empty and the range says so (`empty_constraint`; its edges and elements mean nothing) -/
def EmptyR (r : Range) (S : Int → Bool) : Prop := (∀ y, S y = false) ∧ r.empty = true ∧ r.incompat = false

/-- `r` represents `S`: canonical form of a non-empty set, or flagged empty -/
def ReprE (r : Range) (S : Int → Bool) : Prop := Repr r S ∨ EmptyR r S

theorem ReprE.incompat {r : Range} {S : Int → Bool} (h : ReprE r S) : r.incompat = false := by
  rcases h with h | h
  · exact h.incompat
  · exact h.2.2

theorem Repr.nonempty {r : Range} {S : Int → Bool} (h : Repr r S) : ∃ y, S y = true := by
  obtain ⟨hd, t, e1, _, _⟩ := h.ends
  obtain ⟨y, hy⟩ := Iv.wf_nonempty (h.good hd (by rw [e1]; simp)).1
  exact ⟨y, by rw [← h.den y, e1]; simp [hy]⟩

theorem ReprE.repr {r : Range} {S : Int → Bool} (h : ReprE r S) (hne : ∃ y, S y = true) : Repr r S := by
  rcases h with h | h
  · exact h
  · obtain ⟨y, hy⟩ := hne; rw [h.1 y] at hy; cases hy

theorem ReprE.empty_iff {r : Range} {S : Int → Bool} (h : ReprE r S) : r.empty = true ↔ ∀ y, S y = false := by
  rcases h with h | h
  · constructor
    · intro he; rw [h.empty] at he; cases he
    · intro hs; obtain ⟨y, hy⟩ := h.nonempty; rw [hs y] at hy; cases hy
  · exact ⟨fun _ => h.1, fun _ => h.2.1⟩

/-- a range as `_range_intersection` or the merging loop of the CSV/UNI case leaves it, before `_range_canonicalize`:
    its elements denote `S`, or it is flagged empty, `S` is empty and the elements mean nothing -/
def Acc (R : Range) (S : Int → Bool) : Prop :=
  R.incompat = false ∧
  ((R.empty = false ∧ R.els ≠ [] ∧ Good R.els ∧ ∀ y, den R.els y = S y) ∨ (R.empty = true ∧ ∀ y, S y = false))

theorem Acc.canonicalize {R : Range} {S : Int → Bool} (h : Acc R S) : ReprE (canonicalize R) S := by
  obtain ⟨f1, _, f3, _, _⟩ := canonicalize_flags R
  rcases h.2 with ⟨r1, r2, r3, r4⟩ | ⟨r1, r2⟩
  · exact Or.inl (repr_of_canonicalize r2 r3 r4 r1 h.1)
  · exact Or.inr ⟨r2, by rw [f1, r1], by rw [f3, h.1]⟩

/-- flags the PER/OER logic looks at are all clear -/
def Range.Clean (r : Range) : Prop := r.ext = false ∧ r.notOER = false ∧ r.notPER = false

/-- the visibility flags of the ranges the C09 theorems meet: marked extensible, and then not OER-visible
    (`e = true`), or not marked (`Flags r false` is `r.Clean`); PER-visible either way.  Intersection, `_range_merge_in`
    and the flag copies of the CSV/UNI case all leave the disjunction of the marks of what they combine. -/
def Flags (r : Range) (e : Bool) : Prop := r.ext = e ∧ r.notOER = e ∧ r.notPER = false

theorem Flags.or {r a b : Range} {e e' : Bool} (ha : Flags a e) (hb : Flags b e') (h1 : r.ext = (a.ext || b.ext))
    (h2 : r.notOER = (a.notOER || b.notOER)) (h3 : r.notPER = a.notPER) : Flags r (e || e') :=
  ⟨by rw [h1, ha.1, hb.1], by rw [h2, ha.2.1, hb.2.1], h3.trans ha.2.2⟩

theorem InterFlags.flags {range wth r : Range} {isOer : Bool} {e e' : Bool} (h : InterFlags range wth r isOer)
    (hr : Flags range e) (hw : Flags wth e') : Flags r (e || e') :=
  ⟨by rw [h.ext, hr.1, hw.1], by rw [h.notOER, hr.2.1, hw.1], by rw [h.notPER, hr.2.2, hw.2.2, Bool.and_false]; rfl⟩

theorem Flags.canonicalize {r : Range} {e : Bool} (h : Flags r e) : Flags (canonicalize r) e := by
  obtain ⟨_, f2, _, f4, f5⟩ := canonicalize_flags r
  exact ⟨f2.trans h.1, f4.trans h.2.1, f5.trans h.2.2⟩

/-- `_range_intersection` + `_range_canonicalize` on operands that may be (flagged) empty -/
theorem inter_E {range wth r : Range} {A B : Int → Bool} {strict isOer e e' : Bool}
    (hA : ReprE range A) (hB : ReprE wth B) (fA : Flags range e) (fB : Flags wth e')
    (h : intersection range wth strict isOer = .ok r) :
    ReprE (canonicalize r) (fun y => A y && B y) ∧ Flags (canonicalize r) (e || e') := by
  obtain ⟨hf, hc⟩ := intersection_ok h
  refine ⟨Acc.canonicalize ⟨hf.incompat, ?_⟩, (hf.flags fA fB).canonicalize⟩
  by_cases he : range.empty = true ∨ wth.empty = true
  · -- an operand flagged empty stands for the empty set
    rw [if_pos he] at hc
    refine Or.inr ⟨hc, fun y => ?_⟩
    show (A y && B y) = false
    rcases he with he | he
    · rw [hA.empty_iff.mp he y]; rfl
    · rw [hB.empty_iff.mp he y]; exact Bool.and_false _
  · have hA := hA.resolve_right fun e => he (Or.inl e.2.1)
    have hB := hB.resolve_right fun e => he (Or.inr e.2.1)
    obtain ⟨i1, i2, i3⟩ := intersection_spec hA.good hB.good hA.empty hB.empty h
    have hd : ∀ y, den r.els y = (A y && B y) := fun y => by rw [i1 y, hA.den y, hB.den y]
    cases hr : r.els with
    | nil => exact Or.inr ⟨by rw [i3, hr]; rfl, fun y => (hd y).symm.trans (by rw [hr]; rfl)⟩
    | cons p t => exact Or.inl ⟨by rw [i3, hr]; rfl, List.cons_ne_nil _ _, hr ▸ i2, hr ▸ hd⟩

end Asn1c.Impl.CRange
