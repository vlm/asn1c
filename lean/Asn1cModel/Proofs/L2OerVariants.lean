import Asn1cModel.Proofs.L2OerVariantsEqns
import Asn1cModel.Proofs.L2OerEqns
import Asn1cModel.Proofs.L2Oer
import Asn1cModel.Proofs.L2VarSel
/-
  The reference OER decoder `L2.Oer.decOER` accepts every output of the variant encoder `L2.OerVar.encV` — for every
  selector state — and returns the value (`rtv_all`: the one induction over the type that the OER codec needs).
  Without a variation `encV` is the canonical encoder (`nv_all`), so the round trip of Props/C02Oer.lean is a special
  case; Props/C03Oer.lean states the rest.
-/
namespace Asn1c.Proofs.L2OerVariants
open Asn1c Asn1c.Impl.BerTlv Asn1c.L2 Asn1c.L2.Oer Asn1c.L2.OerVar Asn1c.Spec
open Asn1c.Proofs.L2Der Asn1c.Proofs.L2Oer

/-- §8.6.5: the long form with any number of leading zero octets is read back as the length -/
theorem decLen_lenLong (pad n : Nat) (rest : Bytes) : decLen (lenLong pad n ++ rest) = .ok n rest := by
  unfold lenLong
  rw [List.cons_append, decLen_long _ _ (by simp [unsOctets_ne_nil]), Real.ofBE_leading_zeros, ← unsVal,
    unsVal_unsOctets]

theorem decLen_lenV (n : Nat) (s : VSt) (rest : Bytes) : decLen ((lenV n s).1 ++ rest) = .ok n rest := by
  unfold lenV
  simp only []
  split
  · exact decLen_lenLong _ _ _
  · exact decLen_lenDet _ _

theorem decLenBody_lenBody (c : Bytes) (s : VSt) (rest : Bytes) :
    decLenBody ((lenBody c s).1 ++ rest) = .ok c rest := by
  unfold decLenBody lenBody
  simp only [List.append_assoc]
  rw [decLen_lenV]
  simp only []
  exact takeN_append c rest _ rfl

theorem decLenBody_lenV (c : Bytes) (s : VSt) (rest : Bytes) :
    decLenBody ((lenV c.length s).1 ++ c ++ rest) = .ok c rest := decLenBody_lenBody c s rest

theorem decLenBody_lenV' (c : Bytes) (s : VSt) (rest : Bytes) :
    decLenBody ((lenV c.length s).1 ++ (c ++ rest)) = .ok c rest := by
  rw [← List.append_assoc]; exact decLenBody_lenBody c s rest

theorem decOpen_lenBody (d : Bytes → PRes Val) (x : Bytes) (s : VSt) (v : Val) (rest : Bytes)
    (hd : d x = .ok v []) : decOpen d ((lenBody x s).1 ++ rest) = .ok v rest := by
  unfold decOpen
  rw [decLenBody_lenBody]
  simp only [hd]

theorem decEnum_encEnumV (z : Int) (s s' : VSt) (out rest : Bytes) (h : encEnumV z s = some (out, s')) :
    decEnum (out ++ rest) = .ok z rest := by
  unfold encEnumV at h
  simp only [] at h
  split at h
  · rename_i hs
    simp only [Option.some.injEq, Prod.mk.injEq] at h
    obtain ⟨rfl, _⟩ := h
    have hz : 0 ≤ z ∧ z ≤ 127 := by simpa using site_true _ _ _ hs
    have h1 : z.toNat < 128 := by omega
    have h2 : (z.toNat : Int) = z := Int.toNat_of_nonneg hz.1
    rw [show [129, z.toNat] ++ rest = (128 + [z.toNat].length) :: ([z.toNat] ++ rest) from rfl,
      decEnum_long _ _ (List.cons_ne_nil _ _)]
    simp [twosVal, ofBE, h1, h2]
  · simp only [Option.map_eq_some_iff, Prod.mk.injEq] at h
    obtain ⟨x, he, rfl, _⟩ := h
    exact decEnum_encEnum z x rest he

theorem decInt_encIntV (sh : IntShape) (z : Int) (s s' : VSt) (out rest : Bytes)
    (h : encIntV sh z s = some (out, s')) : decInt sh (out ++ rest) = .ok z rest := by
  cases sh with
  | fixedU w | fixedS w =>
    simp only [encIntV, Option.map_eq_some_iff, Prod.mk.injEq] at h
    obtain ⟨x, he, rfl, _⟩ := h
    exact decInt_encInt _ z x rest he
  | varU =>
    simp only [encIntV, Option.ite_none_right_eq_some, Option.some.injEq] at h
    obtain ⟨hz, rfl, _⟩ := h
    simp only [decInt, decLenBody_lenV]
    rw [if_neg (unsOctets_ne_nil _), unsVal_unsOctets, Int.toNat_of_nonneg hz]
  | varS =>
    simp only [encIntV, Option.some.injEq] at h
    obtain ⟨rfl, _⟩ := h
    simp only [decInt, decLenBody_lenV]
    rw [if_neg (intOctets_ne_nil _), twosVal_intOctets]

mutual
def ucanonB : OTy → Val → Bool
  | .real, .real b => decide (RealOk b)
  | .bits _, .bits bs u => decide (u ≤ 7 ∧ (bs = [] → u = 0) ∧ maskLast bs u = bs)
  | .seq root rattrs _ adds aattrs, .seq vs =>
    ucanonComps root rattrs (vs.take root.length) && ucanonComps adds aattrs (vs.drop root.length)
  | .choice _ alts _, .choice i v => ucanonAlt alts i v
  | .seqOf e, .list vs => vs.all (fun v => ucanonB e v)
  | .setOf e, .list vs => vs.all (fun v => ucanonB e v)
  | _, _ => true
def ucanonComps : List OTy → List Attr → List Val → Bool
  | m :: ms, a :: as, v :: vs =>
    (if isAbsent v then true else (!isDefault a v && ucanonB m v)) && ucanonComps ms as vs
  | _, _, _ => true
def ucanonAlt : List OTy → Nat → Val → Bool
  | [], _, _ => true
  | a :: _, 0, v => ucanonB a v
  | _ :: as, i + 1, v => ucanonAlt as i v
end

/-- **abstract value in normal form, SET OF lists in any order**: `OCanon` (present components are not the DEFAULT
    value, BIT STRING values normalised, REAL values in `RealOk`) without the requirement that SET OF lists are
    sorted by element encoding. -/
def UCanon (t : OTy) (v : Val) : Prop := ucanonB t v = true
instance (t : OTy) (v : Val) : Decidable (UCanon t v) := by unfold UCanon; infer_instance

/-- by the recursion of `ocanonB` itself: its cases are those of `ucanonB`, and only the SET OF case drops a conjunct -/
theorem ucanon_of_ocanon : ∀ (t : OTy) (v : Val), OCanon t v → UCanon t v := by
  refine (ocanonB.mutual_induct (fun t v => ocanonB t v = true → ucanonB t v = true)
    (fun alts i v => ocanonAlt alts i v = true → ucanonAlt alts i v = true)
    (fun ms as vs => ocanonComps ms as vs = true → ucanonComps ms as vs = true)
    ?_ ?_ ?_ ?_ ?_ ?_ ?_ ?_ ?_ ?_ ?_ ?_).1
  · intro b; simp only [ocanonB, ucanonB]; exact id
  · intro f bs u; simp only [ocanonB, ucanonB]; exact id
  · intro root rattrs ext adds aattrs vs ih1 ih2
    simp only [ocanonB, ucanonB, Bool.and_eq_true]
    exact fun h => ⟨ih1 h.1, ih2 h.2⟩
  · intro tags alts n i v ih; simp only [ocanonB, ucanonB]; exact ih
  · intro e vs ih
    simp only [ocanonB, ucanonB, List.all_eq_true]
    exact fun h x hx => ih x (h x hx)
  · intro e vs ih
    simp only [ocanonB, ucanonB, List.all_eq_true, Bool.and_eq_true]
    exact fun h x hx => ih x (h.1 x hx)
  -- the remaining pairs of type and value: `ucanonB` is `true` by its last equation
  · intro t x _ _ _ _ _ _ _; rw [ucanonB]; all_goals assumption
  · intro i v _; rw [ucanonAlt]
  · intro a tl v ih; simp only [ocanonAlt, ucanonAlt]; exact ih
  · intro a tl i v ih; simp only [ocanonAlt, ucanonAlt]; exact ih
  · intro m ms a as v vs ih1 ih2
    simp only [ocanonComps, ucanonComps, Bool.and_eq_true]
    intro h
    refine ⟨?_, ih2 h.2⟩
    have h1 := h.1
    by_cases ha : isAbsent v = true
    · simp [ha]
    · simp only [ha, Bool.false_eq_true, if_false, Bool.and_eq_true] at h1 ⊢
      exact ⟨h1.1, ih1 h1.2⟩
  · intro ms as vs _ _; rw [ucanonComps]; all_goals assumption

/-- the statement of `rtv_all` for one type: the composite types take it as hypothesis on their components -/
def RTV (t : OTy) : Prop :=
  OTyWf t → ∀ (v : Val) (s s' : VSt) (out rest : Bytes), UCanon t v → encV t v s = some (out, s') →
    decOER t (out ++ rest) = .ok v rest

theorem decRoot_encRootV (ms : List OTy) (ih : ∀ m ∈ ms, RTV m) (hw : ∀ m ∈ ms, OTyWf m) :
    ∀ (as : List Attr) (vs : List Val) (s s' : VSt) (bits : Bits) (body : Bytes) (tail : Bits) (rest : Bytes),
      ucanonComps ms as vs = true → encRootV ms as vs s = some (bits, body, s') →
      decRoot ms as (bits ++ tail) (body ++ rest) = .ok vs rest ∧ bits.length = (as.filter (·.optional)).length := by
  induction ms with
  | nil =>
    intro as vs s s' bits body tail rest _ h
    cases as <;> cases vs <;> simp [encRootV] at h
    obtain ⟨rfl, rfl, _⟩ := h
    simp [decRoot_nil]
  | cons m ms ihms =>
    intro as vs s s' bits body tail rest hc
    have ih' := ihms (fun x hx => ih x (by simp [hx])) (fun x hx => hw x (by simp [hx]))
    have ihm := ih m (by simp) (hw m (by simp))
    -- by the cases of `encRootV` itself: it wants a variable for the list, and `hM` ties the cases back to `m :: ms`
    generalize hM : m :: ms = M
    fun_cases encRootV M as vs s
    case case1 => cases hM
    -- the branches that fail, and the ragged list shapes
    case case2 | case3 | case6 | case7 | case8 => intro h; cases h
    -- the component is encoded
    case case4 _ _ a as v vs hp x s1 bits' body' s2 h2 h1 =>
      intro h
      cases hM; cases h
      simp only [ucanonComps, Bool.and_eq_true] at hc
      obtain ⟨hd, hl⟩ := ih' as vs s1 s' bits' body' tail rest hc.2 h2
      have hm := ihm v s s1 x (body' ++ rest) (canon_of_present a v _ hc.1 hp) h1
      cases ho : a.optional <;> simp [decRoot, ho, hm, hd, hl]
    -- the component is OPTIONAL and not encoded
    case case5 _ _ a as v vs hp ho bits' body' s2 h2 =>
      intro h
      cases hM; cases h
      simp only [ucanonComps, Bool.and_eq_true] at hc
      obtain ⟨hd, hl⟩ := ih' as vs s s' bits' _ tail rest hc.2 h2
      obtain rfl := absent_of_not_present a v _ hc.1 hp
      simp [decRoot, ho, hd, hl]

theorem decAdds_encAddsV (ms : List OTy) (ih : ∀ m ∈ ms, RTV m) (hw : ∀ m ∈ ms, OTyWf m) :
    ∀ (as : List Attr) (vs : List Val) (s s' : VSt) (bits : Bits) (body : Bytes) (B : Bits) (rest : Bytes),
      ucanonComps ms as vs = true → encAddsV ms as vs s = some (bits, body, s') → Compat bits B →
      decAdds ms as B (body ++ rest) = .ok vs rest ∧ bits.length = ms.length := by
  induction ms with
  | nil =>
    intro as vs s s' bits body B rest _ h _
    cases as <;> cases vs <;> simp [encAddsV] at h
    obtain ⟨rfl, rfl, _⟩ := h
    simp [decAdds_nil_types]
  | cons m ms ihms =>
    intro as vs s s' bits body B rest hc
    have ih' := ihms (fun x hx => ih x (by simp [hx])) (fun x hx => hw x (by simp [hx]))
    have ihm := ih m (by simp) (hw m (by simp))
    generalize hM : m :: ms = M
    fun_cases encAddsV M as vs s
    case case1 => cases hM
    case case2 | case3 | case6 | case7 => intro h; cases h
    -- the addition is encoded: the sender's bitmap has this bit, and it is set
    case case4 _ _ a as v vs hp x s1 bits' body' s2 h2 h1 =>
      intro h hB
      cases hM; cases h
      simp only [ucanonComps, Bool.and_eq_true] at hc
      cases B with
      | nil => exact absurd hB.1 (by simp)
      | cons c B =>
      obtain ⟨rfl, hB'⟩ := hB
      obtain ⟨hd, hl⟩ := ih' as vs _ s' bits' body' B rest hc.2 h2 hB'
      have hm := ihm v s s1 x [] (canon_of_present a v _ hc.1 hp) h1
      rw [List.append_nil] at hm
      simp [decAdds, decOpen_lenBody (decOER m) x s1 v (body' ++ rest) hm, hd, hl]
    -- the addition is not encoded: the sender's bitmap has a zero bit here, or has ended
    case case5 _ _ a as v vs hp bits' body' s2 h2 =>
      intro h hB
      cases hM; cases h
      simp only [ucanonComps, Bool.and_eq_true] at hc
      obtain rfl := absent_of_not_present a v _ hc.1 hp
      cases B with
      | nil =>
        obtain ⟨hd, hl⟩ := ih' as vs s s' bits' _ [] rest hc.2 h2 hB.2
        simp [decAdds, hd, hl]
      | cons c B =>
        obtain ⟨rfl, hB'⟩ := hB
        obtain ⟨hd, hl⟩ := ih' as vs s s' bits' _ B rest hc.2 h2 hB'
        simp [decAdds, hd, hl]

theorem decAdds_nil (ms : List OTy) : ∀ (as : List Attr) (bs : Bytes) (vs : List Val) (rest : Bytes),
    decAdds ms as [] bs = .ok vs rest → vs = ms.map (fun _ => Val.absent) ∧ rest = bs := by
  induction ms with
  | nil => intro as bs vs rest h; simp only [decAdds, PRes.ok.injEq] at h; simp [h]
  | cons m ms ih =>
    intro as bs vs rest h
    cases as with
    | nil => simp [decAdds] at h
    | cons a as =>
      simp only [decAdds, List.drop_nil] at h
      cases hd : decAdds ms as [] bs with
      | ok vs' rest' =>
        simp only [hd, PRes.ok.injEq] at h
        obtain ⟨hv, hr⟩ := ih as bs vs' rest' hd
        simp [← h.1, ← h.2, hv, hr]
      | more => simp [hd] at h
      | fail => simp [hd] at h

theorem skipOpen_extra (extra : List (Option Bytes)) (rest : Bytes) :
    skipOpen (extraBits extra) (extraBody extra ++ rest) = .ok () rest := by
  fun_induction extraBits extra with
  | case1 => rfl
  | case2 r ih => simpa [extraBody, skipOpen] using ih
  | case3 p r ih =>
    simp only [extraBody, skipOpen, openType, List.append_assoc]
    rw [← List.append_assoc, decLenBody_append]
    simpa using ih

/-- what the receiver needs to know about the bitmap `bm` and the extra octets `xb` sent instead of `abits`:
    it agrees with `abits` on the known additions, it is all-zero only if `abits` is, and the bits beyond the
    known additions describe exactly the open types `xb` -/
theorem versionV_spec (ext : Bool) (abits : Bits) (s : VSt) (rest : Bytes) :
    Compat abits (versionV ext abits s).1 ∧
    ((versionV ext abits s).1.any id = false → abits.any id = false) ∧
    skipOpen ((versionV ext abits s).1.drop abits.length) ((versionV ext abits s).2.1 ++ rest) = .ok () rest := by
  unfold versionV
  simp only []
  split
  · obtain ⟨h1, h2, h3⟩ := shorten_spec (needLen abits + s.param % (abits.length - needLen abits)) abits
    exact ⟨h1, h3, by rw [List.drop_eq_nil_of_le h2]; simp [skipOpen]⟩
  · split
    · refine ⟨compat_append _ _, ?_, ?_⟩
      · intro h; rw [List.any_append] at h; simp only [Bool.or_eq_false_iff] at h; exact h.1
      · rw [List.drop_left]; exact skipOpen_extra _ _
    · refine ⟨by simpa using compat_append abits [], id, ?_⟩
      simp [skipOpen]

theorem decAlt_encAltV (alts : List OTy) (ih : ∀ m ∈ alts, RTV m) (hw : ∀ m ∈ alts, OTyWf m) :
    ∀ (i : Nat) (v : Val) (s s1 s2 : VSt) (body : Bytes) (nroot : Nat) (rest : Bytes),
      ucanonAlt alts i v = true → encAltV alts i v s = some (body, s1) →
      decAlt alts i nroot ((if i < nroot then body else (lenBody body s2).1) ++ rest) = .ok v rest := by
  induction alts with
  | nil => intro i v s s1 s2 body nroot rest _ h; simp [encAltV_nil] at h
  | cons a as ihas =>
    intro i v s s1 s2 body nroot rest hc h
    cases i with
    | zero =>
      simp only [encAltV] at h
      simp only [ucanonAlt] at hc
      have iha := ih a (by simp) (hw a (by simp))
      simp only [decAlt]
      by_cases hn : 0 < nroot
      · rw [if_pos hn, if_pos hn]; exact iha v s s1 body rest hc h
      · rw [if_neg hn, if_neg hn]
        have := iha v s s1 body [] hc h
        rw [List.append_nil] at this
        exact decOpen_lenBody _ body s2 v rest this
    | succ i =>
      simp only [encAltV] at h
      simp only [ucanonAlt] at hc
      simp only [decAlt]
      have := ihas (fun x hx => ih x (by simp [hx])) (fun x hx => hw x (by simp [hx])) i v s s1 s2 body (nroot - 1) rest hc h
      have hiff : (i + 1 < nroot) ↔ (i < nroot - 1) := by omega
      simp only [hiff]; exact this

theorem decInt_quantityV (n : Nat) (s : VSt) (rest : Bytes) :
    decInt .varU ((lenBody (unsOctets n) s).1 ++ rest) = .ok (n : Int) rest := by
  simp only [decInt, decLenBody_lenBody]
  rw [if_neg (unsOctets_ne_nil _), unsVal_unsOctets]

theorem decRep_mapEncV (e : OTy) (ih : RTV e) (hw : OTyWf e) :
    ∀ (vs : List Val) (s s' : VSt) (els : List Bytes) (rest : Bytes), (vs.all (fun v => ucanonB e v)) = true →
      mapEncV (encV e) vs s = some (els, s') → decRep (decOER e) vs.length (flatten els ++ rest) = .ok vs rest := by
  intro vs s s' els rest hc h
  fun_induction mapEncV (encV e) vs s generalizing els with
  | case1 s => cases h; simp [decRep, flatten]
  | case2 | case3 => cases h
  | case4 v vs s x s1 h1 xs s2 h2 ihvs =>
    cases h
    simp only [List.all_cons, Bool.and_eq_true] at hc
    simp only [flatten, List.length_cons, decRep, List.append_assoc]
    rw [ih hw v s s1 x _ hc.1 h1]
    simp only []
    rw [ihvs xs hc.2 h2]

theorem rtv_boolean : RTV .boolean := by
  intro _ v s s' out rest _ h
  cases v with
  | bool b =>
    simp only [encV] at h
    cases b with
    | false =>
      simp only [Bool.false_eq_true, if_false, Option.some.injEq, Prod.mk.injEq] at h
      obtain ⟨rfl, _⟩ := h
      simp [decOER]
    | true =>
      simp only [if_true, Option.some.injEq, Prod.mk.injEq] at h
      obtain ⟨rfl, _⟩ := h
      have : (boolV s).1 ≠ 0 := by
        unfold boolV; simp only []; split <;> omega
      simp [decOER, this]
  | _ => cases h

theorem rtv_null : RTV .null := by
  intro _ v s s' out rest _ h
  cases v <;> simp [encV] at h
  obtain ⟨rfl, _⟩ := h
  exact dec_null rest

theorem rtv_integer (sh : IntShape) : RTV (.integer sh) := by
  intro _ v s s' out rest _ h
  cases v with
  | int z => ?_
  | _ => cases h
  simp only [encV] at h
  simp only [decOER, decInt_encIntV sh z s s' out rest h]

theorem rtv_enumerated : RTV .enumerated := by
  intro _ v s s' out rest _ h
  cases v with
  | int z => ?_
  | _ => cases h
  simp only [encV] at h
  simp only [decOER, decEnum_encEnumV z s s' out rest h]

theorem rtv_real : RTV .real := by
  intro _ v s s' out rest hc h
  cases v with
  | real b => ?_
  | _ => cases h
  simp only [encV, Option.some.injEq] at h
  obtain ⟨rfl, _⟩ := h
  simp only [UCanon, ucanonB, decide_eq_true_eq] at hc
  simp only [decOER, decLenBody_lenV, real_roundtrip b hc]

theorem rtv_octets (f : Option Nat) : RTV (.octets f) := by
  intro _ v s s' out rest _ h
  cases f with
  | none =>
    cases v <;> simp [encV] at h
    obtain ⟨rfl, _⟩ := h
    simp only [decOER, decLenBody_lenV]
  | some n =>
    cases v <;> simp [encV] at h
    obtain ⟨hl, rfl, _⟩ := h
    simp only [decOER, takeN_append _ _ _ hl.symm]

theorem rtv_bits (f : Option Nat) : RTV (.bits f) := by
  intro _ v s s' out rest hc h
  cases v with
  | bits bs u => ?_
  | _ => cases f <;> cases h
  simp only [UCanon, ucanonB, decide_eq_true_eq] at hc
  obtain ⟨h1, h2, h3⟩ := hc
  cases f with
  | none =>
    simp only [encV, if_pos (And.intro h1 h2), Option.some.injEq] at h
    obtain ⟨rfl, _⟩ := h
    simp only [decOER, decLenBody_lenV, h3, if_pos (And.intro h1 h2)]
  | some n =>
    simp only [encV, Option.ite_none_right_eq_some, Option.some.injEq, Prod.mk.injEq] at h
    obtain ⟨⟨_, hl, hu⟩, rfl, _⟩ := h
    simp only [decOER, h3, takeN_append _ _ _ hl.symm, ← hu]

theorem rtv_seqOf (e : OTy) (ih : RTV e) : RTV (.seqOf e) := by
  intro hw v s s' out rest hc h
  cases v with
  | list vs => ?_
  | _ => cases h
  simp only [encV] at h
  simp only [UCanon, ucanonB] at hc
  cases h1 : mapEncV (encV e) vs s with
  | none => simp [h1] at h
  | some p =>
  obtain ⟨els, s1⟩ := p
  simp only [h1, Option.some.injEq, Prod.mk.injEq] at h
  obtain ⟨rfl, _⟩ := h
  simp only [decOER, List.append_assoc, decInt_quantityV, Int.toNat_natCast]
  rw [decRep_mapEncV e ih hw vs s s1 els rest hc h1]

theorem rtv_setOf (e : OTy) (ih : RTV e) : RTV (.setOf e) := by
  intro hw v s s' out rest hc h
  cases v with
  | list vs =>
    -- `decOER`, `OTyWf` and `UCanon` unfold to the same on `.setOf e` and on `.seqOf e`; `encV` by `encV_setOf`
    exact rtv_seqOf e ih hw (.list vs) s s' out rest hc ((encV_setOf e vs s).symm.trans h)
  | _ => cases h

theorem rtv_choice (tags : List Tag) (alts : List OTy) (n : Nat) (ih : ∀ m ∈ alts, RTV m) : RTV (.choice tags alts n) := by
  intro hw v s s' out rest hc h
  cases v with
  | choice i v => ?_
  | _ => cases h
  simp only [encV] at h
  simp only [OTyWf, otyWfB, Bool.and_eq_true, decide_eq_true_eq] at hw
  obtain ⟨hwa, hnd⟩ := hw
  have hwa' := (otyWfList_iff alts).mp hwa
  simp only [UCanon, ucanonB] at hc
  cases h1 : tags[i]? with
  | none => simp [h1] at h
  | some t =>
  cases h2 : encAltV alts i v s with
  | none => simp [h1, h2] at h
  | some p =>
  obtain ⟨body, s1⟩ := p
  simp only [h1, h2] at h
  have hout : out = Oer.tagOctets t ++ (if i < n then body else (lenBody body s1).1) := by
    by_cases hi : i < n
    · rw [if_pos hi] at h ⊢; exact (Prod.mk.inj (Option.some.inj h)).1.symm
    · rw [if_neg hi] at h ⊢; exact (Prod.mk.inj (Option.some.inj h)).1.symm
  rw [hout]
  simp only [decOER, List.append_assoc, decTag_tagOctets, findTag_of_getElem t tags i 0 hnd h1, Nat.zero_add]
  rw [decAlt_encAltV alts ih hwa' i v s s1 s1 body n rest hc h2]

theorem bits_ne_nil_of_any (bm : Bits) (h : bm.any id = true) : bitsToBytes bm ≠ [] := by
  intro he
  have := PerSupport.bitsToBytes_eq_nil bm he
  subst this; simp at h

theorem rtv_seq (root : List OTy) (rattrs : List Attr) (ext : Bool) (adds : List OTy) (aattrs : List Attr)
    (ihr : ∀ m ∈ root, RTV m) (iha : ∀ m ∈ adds, RTV m) : RTV (.seq root rattrs ext adds aattrs) := by
  intro hw v s s' out rest hc h
  cases v with
  | seq vs => ?_
  | _ => cases h
  simp only [encV] at h
  simp only [OTyWf, otyWfB, Bool.and_eq_true] at hw
  simp only [UCanon, ucanonB, Bool.and_eq_true] at hc
  cases h1 : encRootV root rattrs (vs.take root.length) s with
  | none => simp [h1] at h
  | some p1 =>
  obtain ⟨rbits, rbody, s1⟩ := p1
  cases h2 : encAddsV adds aattrs (vs.drop root.length) s1 with
  | none => simp [h1, h2] at h
  | some p2 =>
  obtain ⟨abits, abody, s2⟩ := p2
  simp only [h1, h2] at h
  -- what the two list encoders wrote is read back, whatever follows and against whatever compatible bitmap
  have hR := fun tail rest =>
    decRoot_encRootV root ihr ((otyWfList_iff root).mp hw.1) rattrs _ s s1 rbits rbody tail rest hc.1 h1
  have hA := fun B rest =>
    decAdds_encAddsV adds iha ((otyWfList_iff adds).mp hw.2) aattrs _ s1 s2 abits abody B rest hc.2 h2
  have hlr := (hR [] []).2
  have hvs : vs.take root.length ++ vs.drop root.length = vs := List.take_append_drop _ _
  obtain ⟨hcompat, hnone, hskip⟩ := versionV_spec ext abits s2 rest
  generalize hbm : (versionV ext abits s2).1 = bm at h hcompat hnone hskip
  generalize hxb : (versionV ext abits s2).2.1 = xb at h hskip
  generalize (versionV ext abits s2).2.2 = s3 at h
  by_cases hany : bm.any id = true
  · -- a bitmap is sent
    rw [if_pos hany] at h
    cases ext with
    | false => simp at h
    | true =>
    simp only [if_true, Option.some.injEq, Prod.mk.injEq] at h
    obtain ⟨rfl, _⟩ := h
    obtain ⟨hda, hla⟩ := hA bm (xb ++ rest) hcompat
    have hne := bits_ne_nil_of_any bm hany
    have hpre := preamble_spec true true rbits _ hlr
      (rbody ++ ((lenBody (padBits bm.length :: bitsToBytes bm) s3).1 ++ (abody ++ (xb ++ rest))))
    simp only [if_true, List.cons_append, List.nil_append] at hpre
    simp only [decOER, if_true, List.append_assoc, hpre.1, hpre.2.1, hpre.2.2, Bool.and_self, (hR _ _).1,
      decLenBody_lenBody, bitmap_bits]
    rw [if_pos ⟨padBits_le _, fun he => absurd he hne⟩, hda]
    simp only [hvs]
    rw [← hla, hskip]
  · -- no bitmap: no extension addition is present
    have hany' : bm.any id = false := by simpa using hany
    -- all presence bits are zero: decoded against the empty bitmap, the additions are all absent
    have hz : abits.all (· == false) = true := by simpa [List.all_eq_true] using hnone hany'
    obtain ⟨hva, _⟩ := decAdds_nil adds aattrs _ _ _ (hA [] [] (compat_nil abits hz)).1
    rw [if_neg hany] at h
    simp only [Option.some.injEq, Prod.mk.injEq] at h
    obtain ⟨rfl, _⟩ := h
    obtain ⟨ht, hh, hd⟩ := preamble_spec ext false rbits _ hlr (rbody ++ rest)
    simp only [decOER, List.append_assoc, ht, hh, hd, Bool.and_false, Bool.false_eq_true, if_false, (hR _ _).1, ← hva,
      hvs]

/-- the reference decoder accepts every output of the variant encoder, for every selector state -/
theorem rtv_all : ∀ t, RTV t := fun t =>
  OTy.rec (motive_1 := RTV) (motive_2 := fun ms => ∀ m ∈ ms, RTV m) rtv_boolean rtv_null rtv_integer rtv_enumerated
    rtv_real rtv_octets rtv_bits rtv_seq rtv_choice rtv_seqOf rtv_setOf (fun _ h => nomatch h)
    (fun _ _ h1 h2 => List.forall_mem_cons.mpr ⟨h1, h2⟩) t

theorem lenV_none (n : Nat) (s : VSt) (hs : s.kind = .none) : lenV n s = (lenDet n, s) := by
  unfold lenV; simp only [site_none s hs .lenLong (by decide)]; simp

theorem lenBody_none (c : Bytes) (s : VSt) (hs : s.kind = .none) : lenBody c s = (lenDet c.length ++ c, s) := by
  unfold lenBody; rw [lenV_none _ s hs]

theorem boolV_none (s : VSt) (hs : s.kind = .none) : boolV s = (255, s) := by
  unfold boolV; simp only [site_none s hs .boolTrue (by decide)]; simp

theorem encEnumV_none (z : Int) (s : VSt) (hs : s.kind = .none) : encEnumV z s = (encEnum z).map fun x => (x, s) := by
  unfold encEnumV; simp only [site_none s hs .enumLong (by decide)]; simp

theorem encIntV_none (sh : IntShape) (z : Int) (s : VSt) (hs : s.kind = .none) :
    encIntV sh z s = (encInt sh z).map fun x => (x, s) := by
  cases sh with
  | fixedU w => simp [encIntV]
  | fixedS w => simp [encIntV]
  | varU => simp only [encIntV, encInt, lenBody_none _ s hs]; split <;> simp
  | varS => simp only [encIntV, encInt, lenBody_none _ s hs]; simp

theorem versionV_none (ext : Bool) (abits : Bits) (s : VSt) (hs : s.kind = .none) :
    versionV ext abits s = (abits, [], s) := by
  unfold versionV
  simp only [site_none s hs .older (by decide), site_none s hs .newer (by decide)]
  simp

/-- the statement of `nv_all` for one type: without a variation `encV` is the canonical encoder and leaves the
    selector state alone -/
def NV (t : OTy) : Prop :=
  ∀ (v : Val) (s : VSt), s.kind = .none → OCanon t v → encV t v s = (encOER t v).map fun x => (x, s)

/-- `NV` at one selector state: without a variation the state is handed on unchanged, so the induction fixes it -/
def NVat (s : VSt) (t : OTy) : Prop := ∀ v, OCanon t v → encV t v s = (encOER t v).map fun x => (x, s)

/-- `NVat` for a list of types, as root components and extension additions and as alternatives: the motive of
    `OTy.rec` for lists, so that the three list encoders need no induction of their own -/
def NVs (s : VSt) (ms : List OTy) : Prop :=
  (∀ as vs, ocanonComps ms as vs = true →
    encRootV ms as vs s = ((encRoot ms as vs).map fun p => (p.1, p.2, s)) ∧
    encAddsV ms as vs s = ((encAdds ms as vs).map fun p => (p.1, p.2, s))) ∧
  ∀ i v, ocanonAlt ms i v = true → encAltV ms i v s = (encAlt ms i v).map fun x => (x, s)

theorem nvs_cons (s : VSt) (hs : s.kind = .none) (m : OTy) (ms : List OTy)
    (hm : NVat s m) (hms : NVs s ms) : NVs s (m :: ms) := by
  refine ⟨fun as vs hc => ?_, fun i v hc => ?_⟩
  · rcases as with _ | ⟨a, as⟩
    · cases vs <;> simp [encRootV, encRoot, encAddsV, encAdds]
    rcases vs with _ | ⟨v, vs⟩
    · simp [encRootV, encRoot, encAddsV, encAdds]
    simp only [ocanonComps, Bool.and_eq_true] at hc
    obtain ⟨ihr, iha⟩ := hms.1 as vs hc.2
    simp only [encRootV, encRoot, encAddsV, encAdds]
    by_cases hp : isPresent a v = true
    · simp only [hp, if_true, hm v (canon_of_present a v _ hc.1 hp)]
      cases encOER m v with
      | none => simp
      | some x =>
        simp only [Option.map_some, lenBody_none x s hs, ihr, iha]
        cases encRoot ms as vs <;> cases encAdds ms as vs <;> simp [openType]
    · obtain rfl := absent_of_not_present a v _ hc.1 hp
      simp only [isPresent_absent, Bool.false_eq_true, if_false, ihr, iha]
      cases encRoot ms as vs <;> cases encAdds ms as vs <;> cases a.optional <;> simp
  · cases i with
    | zero => exact hm v hc
    | succ i => exact hms.2 i v hc

theorem mapEncV_none (e : OTy) (s : VSt) (ih : NVat s e) :
    ∀ vs : List Val, (vs.all fun v => ocanonB e v) = true →
      mapEncV (encV e) vs s = (mapEnc (encOER e) vs).map fun x => (x, s) := by
  intro vs
  induction vs with
  | nil => intro _; simp [mapEncV, mapEnc]
  | cons v vs ihvs =>
    intro hc
    simp only [List.all_cons, Bool.and_eq_true] at hc
    simp only [mapEncV, mapEnc, ih v hc.1]
    cases encOER e v with
    | none => simp
    | some x =>
      simp only [Option.map_some, ihvs hc.2]
      cases mapEnc (encOER e) vs <;> simp

theorem nv_seq (s : VSt) (hs : s.kind = .none) (root : List OTy) (rattrs : List Attr) (ext : Bool) (adds : List OTy)
    (aattrs : List Attr) (hr : NVs s root) (ha : NVs s adds) : NVat s (.seq root rattrs ext adds aattrs) := by
  intro v hc
  cases v with
  | seq vs => ?_
  | _ => simp [encV, encOER]
  simp only [OCanon, ocanonB, Bool.and_eq_true] at hc
  simp only [encV, encOER, (hr.1 _ _ hc.1).1]
  cases encRoot root rattrs (vs.take root.length) with
  | none => simp
  | some p1 =>
  simp only [Option.map_some, (ha.1 _ _ hc.2).2]
  cases encAdds adds aattrs (vs.drop root.length) with
  | none => simp
  | some p2 =>
  simp only [Option.map_some, versionV_none ext p2.1 s hs]
  by_cases hany : p2.1.any id = true
  · cases ext with
    | false => simp [hany]
    | true => simp [hany, lenBody_none _ s hs, bitmapField, Nat.add_comm]
  · have hany' : p2.1.any id = false := by simpa using hany
    cases ext <;> simp [hany']

theorem nv_fixed (s : VSt) (hs : s.kind = .none) : ∀ t, NVat s t := by
  intro t
  refine OTy.rec (motive_1 := NVat s) (motive_2 := NVs s) ?boolean ?null ?integer ?enumerated ?real ?octets ?bits
    (nv_seq s hs) ?choice ?seqOf ?setOf ?nil (nvs_cons s hs) t
  -- a value of another kind has no encoding in either encoder: `rfl`
  case boolean =>
    intro v _
    cases v with
    | bool b => cases b <;> simp [encV, enc_boolean, boolV_none s hs]
    | _ => rfl
  case null => intro v _; cases v <;> rfl
  case integer =>
    intro sh v _
    cases v with
    | int z => exact encIntV_none sh z s hs
    | _ => rfl
  case enumerated =>
    intro v _
    cases v with
    | int z => exact encEnumV_none z s hs
    | _ => rfl
  case real =>
    intro v _
    cases v with
    | real b => simp only [encV, encOER, lenBody_none _ s hs, Option.map_some]
    | _ => rfl
  case octets =>
    intro f v _
    cases v with
    | octets bs => cases f <;> simp [encV, encOER, lenBody_none _ s hs]
    | _ => cases f <;> rfl
  case bits =>
    intro f v hc
    cases v with
    | bits bs u =>
      simp only [OCanon, ocanonB, decide_eq_true_eq] at hc
      cases f with
      | none =>
        simp only [encV, encOER, lenBody_none _ s hs]
        split
        · simp [hc.2.2, Nat.add_comm]
        · simp
      | some n =>
        simp only [encV, encOER]
        split <;> simp
    | _ => cases f <;> rfl
  case choice =>
    intro tags alts n ih v hc
    cases v with
    | choice i x =>
      simp only [OCanon, ocanonB] at hc
      simp only [encV, encOER, ih.2 i x hc]
      cases tags[i]? with
      | none => simp
      | some t =>
        cases encAlt alts i x with
        | none => simp
        | some body =>
          simp only [Option.map_some, lenBody_none body s hs]
          split <;> simp [openType]
    | _ => rfl
  case seqOf =>
    intro e ih v hc
    cases v with
    | list vs =>
      simp only [OCanon, ocanonB] at hc
      simp only [encV, encOER, mapEncV_none e s ih vs hc]
      cases mapEnc (encOER e) vs with
      | none => simp
      | some els => simp [lenBody_none _ s hs, quantity]
    | _ => rfl
  case setOf =>
    intro e ih v hc
    cases v with
    | list vs =>
      simp only [OCanon, ocanonB, Bool.and_eq_true] at hc
      simp only [encV, encOER, mapEncV_none e s ih vs hc.1]
      have hsorted := hc.2
      simp only [sortedEncO, encElems] at hsorted
      cases hm : mapEnc (encOER e) vs with
      | none => simp
      | some els =>
        rw [hm] at hsorted
        simp [lenBody_none _ s hs, quantity, sortBy_of_chain bytesLe els hsorted]
    | _ => rfl
  case nil =>
    exact ⟨fun as vs _ => by cases as <;> cases vs <;> simp [encRootV, encRoot, encAddsV, encAdds],
      fun i v _ => by simp [encAltV_nil, encAlt_nil]⟩

theorem nv_all : ∀ t, NV t := fun t v s hs => nv_fixed s hs t v

end Asn1c.Proofs.L2OerVariants
