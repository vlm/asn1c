import Asn1cModel.Impl.BerTlv
import Asn1cModel.Spec.Ber
import Asn1cModel.Proofs.Bits
import Asn1cModel.Proofs.BerFetch
import Asn1cModel.Proofs.Base128
/-
  `ber_fetch_tag` / `ber_fetch_length` against `ber_tlv_tag_serialize` / `der_tlv_length_serialize`
  (ber_tlv_tag.c, ber_tlv_length.c), and the serializers against X.690 §8.1.2 / §8.1.3.
  Each fetch loop is handled once, by induction over what it reads: `fetchLenLoop_ofBE` (the length octets
  accumulate `ofBE`; `fetchLength_digits` is the long form with any digits) and `fetchTagLoop_allHi` (continuation
  octets accumulate `subidVal`; `fetchTag_long` is the long form of an identifier, either P/C bit).  The unrolled
  `required_size` loops of the serializers are one loop (`sizeLoop_spec`; `lenOctets_spec`, `tagGroups_spec`).  A long
  tag number is written as the sub-identifier of an OBJECT IDENTIFIER is (`tagGroupOctets_eq_base128`; digit lemmas:
  Proofs/Base128).  The widths of the C types (2^30 for a tag number, 2^62 / 2^64 for a length) appear as hypotheses
  of the round-trip and agreement statements.  What the fetch functions answer on any octets, and when octets are
  appended, is in Proofs/BerFetch.lean.
-/
namespace Asn1c.Proofs.BerTlv
open Asn1c Asn1c.Impl.BerTlv

/-- Both serializers count units of `w` bits with `for(i = w; i < …; i += w) if(v >> i) n++; else break;`, which the
    model unrolls into a chain of tests `v / 2 ^ (w * i) = 0`: the loop, entered with `i` units counted and `fuel`
    rounds to go -/
def sizeLoop (w v : Nat) : Nat → Nat → Nat
  | 0, i => i
  | fuel + 1, i => if v / 2 ^ (w * i) = 0 then i else sizeLoop w v fuel (i + 1)

theorem shift_eq_zero (w i n : Nat) : n / 2 ^ (w * i) = 0 ↔ n < (2 ^ w) ^ i := by
  rw [Nat.pow_mul]
  exact Nat.div_eq_zero_iff_lt (Nat.pow_pos (Nat.pow_pos (by decide)))

/-- the loop counts the units of `v` exactly, as long as the value fits the units it can count -/
theorem sizeLoop_spec (w v fuel j : Nat) (hlo : (2 ^ w) ^ j ≤ v) (hhi : v < (2 ^ w) ^ (j + 1 + fuel)) :
    ∃ k, (2 ^ w) ^ k ≤ v ∧ v < (2 ^ w) ^ (k + 1) ∧ sizeLoop w v fuel (j + 1) = k + 1 := by
  induction fuel generalizing j with
  | zero => exact ⟨j, hlo, hhi, rfl⟩
  | succ fuel ih =>
    rw [sizeLoop]
    by_cases c : v / 2 ^ (w * (j + 1)) = 0
    · exact ⟨j, hlo, (shift_eq_zero w _ v).1 c, if_pos c⟩
    · rw [if_neg c]
      exact ih (j + 1) (Nat.le_of_not_lt (mt (shift_eq_zero w _ v).2 c))
        ((by omega : j + 1 + (fuel + 1) = j + 1 + 1 + fuel) ▸ hhi)

theorem sizeLoop_le (w v fuel i : Nat) : sizeLoop w v fuel i ≤ i + fuel := by
  induction fuel generalizing i with
  | zero => exact Nat.le_refl i
  | succ fuel ih =>
    rw [sizeLoop]
    split
    · exact Nat.le_add_right i _
    · exact Nat.le_trans (ih (i + 1)) (by omega)

theorem lenOctets_spec (n : Nat) (h64 : n < 2 ^ 64) (h1 : 1 ≤ n) :
    ∃ k, 256 ^ k ≤ n ∧ n < 256 ^ (k + 1) ∧ lenOctets n = k + 1 :=
  sizeLoop_spec 8 n 7 0 h1 h64

/-- `ber_tlv_tag_serialize` counts the base-128 groups of a tag number exactly (`2^35` is where the unrolled
    loop stops counting; `ber_tlv_tag_t` itself holds 30 bits) -/
theorem tagGroups_spec (n : Nat) (h35 : n < 2 ^ 35) (h1 : 1 ≤ n) :
    ∃ k, 128 ^ k ≤ n ∧ n < 128 ^ (k + 1) ∧ tagGroups n = k + 1 :=
  sizeLoop_spec 7 n 4 0 h1 h35

/-- The octet loop of `ber_fetch_length` accumulates `ofBE`.  Its overflow guard looks at the value
    before each shift, so it stays quiet whenever the final value is below `2^63`. -/
theorem fetchLenLoop_ofBE (bs rest : Bytes) (len s j : Nat) (h : ofBE len bs < 2 ^ 63) :
    fetchLenLoop len s (bs.length + j) (bs ++ rest)
      = fetchLenLoop (ofBE len bs) (s + bs.length) j rest := by
  induction bs generalizing len s with
  | nil => rw [List.length_nil, Nat.zero_add, List.nil_append, ofBE, Nat.add_zero]
  | cons b bs ih =>
    have h : ofBE (len * 256 + b) bs < 2 ^ 63 := h
    have hb : len * 256 + b ≤ ofBE (len * 256 + b) bs := Integer.le_ofBE _ bs
    rw [List.length_cons, Nat.add_right_comm, List.cons_append, fetchLenLoop, if_neg (by omega),
      ih _ _ h, ofBE, Nat.add_assoc, Nat.add_comm 1]

/-- a first octet `0x80 + k` announces `k` length octets (`0x80` itself is the indefinite form or,
    in a primitive encoding, a zero length; `0xFF` is reserved) -/
theorem fetchLength_long (c : Bool) (k : Nat) (bs : Bytes) (h1 : 1 ≤ k) (h2 : k ≤ 126) :
    fetchLength c ((128 + k) :: bs) = fetchLenLoop 0 1 k bs := by
  have e1 : (128 + k == 128) = false := by simp; omega
  have e2 : (128 + k == 255) = false := by simp; omega
  rw [fetchLength, if_neg (by omega), e1, e2, Bool.and_false, if_neg Bool.false_ne_true,
    if_neg Bool.false_ne_true, Nat.add_mod_left, Nat.mod_eq_of_lt (by omega)]

/-- the long form with any digits `bs` (leading zero octets allowed) is read back as their big-endian value,
    whatever follows -/
theorem fetchLength_digits (c : Bool) (bs rest : Bytes) (h1 : 1 ≤ bs.length) (h2 : bs.length ≤ 126)
    (hv : ofBE 0 bs ≤ 2 ^ 62 - 1) :
    fetchLength c ((128 + bs.length) :: bs ++ rest) = .ok (ofBE 0 bs) (bs.length + 1) := by
  have := fetchLenLoop_ofBE bs rest 0 1 0 (by omega)
  rw [Nat.add_zero] at this
  rw [List.cons_append, fetchLength_long c _ _ h1 h2, this, fetchLenLoop, if_neg (by omega), Nat.add_comm]

/-- with the octet count of `der_tlv_length_serialize` the fixed-width digits are the minimal ones -/
theorem toBEn_lenOctets (n : Nat) (h : n < 2 ^ 64) (h1 : 1 ≤ n) : toBEn (lenOctets n) n = toBE n := by
  obtain ⟨k, a, b, c⟩ := lenOctets_spec n h h1
  rw [c, Real.toBE_eq_toBEn k n a b]

theorem toBE_length_lenOctets (n : Nat) (h : n < 2 ^ 64) (h1 : 1 ≤ n) : (toBE n).length = lenOctets n := by
  rw [← toBEn_lenOctets n h h1, Integer.toBEn_length]

theorem ite_le {c : Prop} [Decidable c] {a b k : Nat} (ha : a ≤ k) (hb : b ≤ k) :
    (if c then a else b) ≤ k := by
  split <;> assumption

theorem lenOctets_le (n : Nat) : lenOctets n ≤ 8 := sizeLoop_le 8 n 7 1

theorem lenSerialize_length (n : Nat) :
    (lenSerialize n).length = if n ≤ 127 then 1 else 1 + lenOctets n := by
  unfold lenSerialize
  split
  · rfl
  · simp [Integer.toBEn_length]; omega

/-- `ber_fetch_length` inverts `der_tlv_length_serialize` for every sane length -/
theorem fetchLength_serialize (n : Nat) (c : Bool) (rest : Bytes) (hn : n ≤ 2 ^ 62 - 1) :
    fetchLength c (lenSerialize n ++ rest) = .ok n (lenSerialize n).length := by
  unfold lenSerialize
  split
  · next h => rw [List.singleton_append, fetchLength, if_pos (by omega)]; rfl
  · next h =>
    have hl : (toBE n).length = lenOctets n := toBE_length_lenOctets n (by omega) (by omega)
    have h1 : 0 < (toBE n).length := List.length_pos_iff.2 (Real.toBE_ne_nil n (by omega))
    have h8 : lenOctets n ≤ 8 := lenOctets_le n
    rw [toBEn_lenOctets n (by omega) (by omega), ← hl, fetchLength_digits c _ rest (by omega) (by omega)
      (by rw [Real.ofBE_toBE]; omega), Real.ofBE_toBE, List.length_cons]

/-- the `k` octets before the last one of a long-form tag number `m * 128 + d`: `k` base-128
    digits of `m`, bit 8 set -/
def contGroups : Nat → Nat → Bytes
  | 0, _ => []
  | k + 1, m => contGroups k (m / 128) ++ [128 + m % 128]

theorem contGroups_length (k m : Nat) : (contGroups k m).length = k := by
  induction k generalizing m with
  | zero => rfl
  | succ k ih => rw [contGroups, List.length_append, ih]; rfl

theorem contGroups_cons (k m : Nat) :
    contGroups (k + 1) m = (128 + m / 128 ^ k % 128) :: contGroups k m := by
  induction k generalizing m with
  | zero => simp [contGroups]
  | succ k ih =>
    rw [contGroups, ih, List.cons_append, Nat.div_div_eq_div_mul, ← Nat.pow_succ']
    rfl

/-- the fill loop of `ber_tlv_tag_serialize` writes the groups most significant first -/
theorem tagGroupOctets_succ (k n : Nat) :
    tagGroupOctets (k + 1) n = contGroups k (n / 128) ++ [n % 128] := by
  induction k with
  | zero => rfl
  | succ k ih =>
    rw [tagGroupOctets, ih, contGroups_cons, List.cons_append, Nat.div_div_eq_div_mul,
      ← Nat.pow_succ', Nat.pow_mul]

section Base128
open Asn1c.Spec.Oid Asn1c.Proofs.Oid

/-- with as many groups as the number has digits, no leading zero group appears -/
theorem contGroups_eq_base128hi (k m : Nat) (hlo : 128 ^ k ≤ m) (hhi : m < 128 ^ (k + 1)) :
    contGroups (k + 1) m = base128hi m := by
  induction k generalizing m with
  | zero =>
    rw [base128hi_pos m (by omega), (Nat.div_eq_of_lt hhi : m / 128 = 0), base128hi_zero]
    rfl
  | succ k ih =>
    have hP : 0 < 128 ^ k := Nat.pow_pos (by decide)
    rw [Nat.pow_succ] at hlo hhi
    rw [contGroups, base128hi_pos m (by omega), ih (m / 128) (by omega) (by omega)]

/-- the unrolled group count and fill loop of `ber_tlv_tag_serialize` write the number as a sub-identifier -/
theorem tagGroupOctets_eq_base128 (n : Nat) (h : n < 2 ^ 35) : tagGroupOctets (tagGroups n) n = base128 n := by
  unfold base128
  by_cases h128 : n < 128
  · rw [tagGroups, if_pos (Nat.div_eq_of_lt h128), (Nat.div_eq_of_lt h128 : n / 128 = 0), base128hi_zero]
    rfl
  · obtain ⟨k, hlo, hhi, hk⟩ := tagGroups_spec n h (by omega)
    rw [hk, tagGroupOctets_succ]
    cases k with
    | zero => omega
    | succ k =>
      rw [Nat.pow_succ] at hlo hhi
      rw [contGroups_eq_base128hi k (n / 128) (by omega) (by omega)]

/-- the loop of `ber_fetch_tag` on a run of continuation octets accumulates `subidVal`; the guard `val >> 23`
    (tag numbers are 30 bits wide) is looked at after each octet -/
theorem fetchTagLoop_allHi (cls : Nat) (hs rest : Bytes) (h : AllHi hs) (val s : Nat)
    (hv : subidVal val hs < 2 ^ 23) :
    fetchTagLoop cls val s (hs ++ rest) = fetchTagLoop cls (subidVal val hs) (s + hs.length) rest := by
  induction hs generalizing val s with
  | nil => rfl
  | cons b hs ih =>
    obtain ⟨hb, h⟩ := allHi_cons.mp h
    have hge : val * 128 + b % 128 ≤ subidVal (val * 128 + b % 128) hs := subidVal_ge _ hs
    rw [subidVal] at hv ⊢
    rw [List.cons_append, fetchTagLoop, if_pos (by omega), if_neg (by omega), ih h _ _ hv, List.length_cons,
      Nat.add_assoc, Nat.add_comm 1]

/-- the long form: `11111` in the five low bits of the first octet (class and P/C bit are the three others), then
    the number as a sub-identifier -/
theorem fetchTag_long (b n : Nat) (rest : Bytes) (hb : b % 32 = 31) (hn : n < 2 ^ 30) :
    fetchTag (b :: base128 n ++ rest) = .ok ⟨b / 64, n⟩ ((base128 n).length + 1) := by
  have hv : subidVal 0 (base128hi (n / 128)) = n / 128 := subidVal_base128hi _
  rw [base128, List.cons_append, fetchTag, if_neg (by omega), List.append_assoc,
    fetchTagLoop_allHi _ _ _ (base128hi_allHi _) 0 1 (by omega), hv, List.singleton_append, fetchTagLoop,
    if_neg (by omega), List.length_append, List.length_singleton]
  congr 2 <;> omega

/-- the class needs no bound: the model keeps it apart from the number, the way `ber_fetch_tag`
    takes it from the two top bits -/
theorem fetchTag_tagSerialize (t : Tag) (rest : Bytes) (hn : t.num < 2 ^ 30) :
    fetchTag (tagSerialize t ++ rest) = .ok t (tagSerialize t).length := by
  obtain ⟨cls, num⟩ := t
  simp only at hn
  unfold tagSerialize
  dsimp only
  split
  · next h =>
    rw [List.singleton_append, fetchTag, if_pos (by omega)]
    congr 2 <;> omega
  · next h =>
    rw [tagGroupOctets_eq_base128 num (by omega), fetchTag_long (cls * 64 + 31) num rest (by omega) hn,
      List.length_cons]
    congr 2; omega

open Asn1c.Spec

theorem b128digits_lt (n : Nat) (h : n < 128) : b128digits n = [n] := by
  rw [b128digits, dif_pos h]
theorem b128digits_ge (n : Nat) (h : ¬ n < 128) : b128digits n = b128digits (n / 128) ++ [n % 128] := by
  rw [b128digits, dif_neg h]

theorem contBits_snoc (ds : List Nat) (d : Nat) : contBits (ds ++ [d]) = ds.map (128 + ·) ++ [d] := by
  induction ds with
  | nil => rfl
  | cons a ds ih =>
    -- the tail `ds ++ [d]` is not empty, so `contBits` sets bit 8 of `a` and goes on
    cases ds with
    | nil => rfl
    | cons b ds => exact congrArg ((128 + a) :: ·) ih

theorem b128digits_map (m : Nat) (h : m ≠ 0) : (b128digits m).map (128 + ·) = base128hi m := by
  induction m using Nat.strongRecOn with
  | _ m ih =>
    by_cases hlt : m < 128
    · rw [b128digits_lt m hlt, base128hi_pos m h, (Nat.div_eq_of_lt hlt : m / 128 = 0), base128hi_zero,
        Nat.mod_eq_of_lt hlt]
      rfl
    · rw [b128digits_ge m hlt, base128hi_pos m h, List.map_append, ih (m / 128) (by omega) (by omega)]
      rfl

/-- X.690 §8.1.2.4 writes a long tag number as §8.19.2 writes a sub-identifier -/
theorem contBits_b128digits (n : Nat) : contBits (b128digits n) = base128 n := by
  unfold base128
  by_cases h : n < 128
  · rw [b128digits_lt n h, (Nat.div_eq_of_lt h : n / 128 = 0), base128hi_zero, Nat.mod_eq_of_lt h]
    rfl
  · rw [b128digits_ge n h, contBits_snoc, b128digits_map _ (by omega)]

theorem tagGroupOctets_eq_spec (n : Nat) (h : n < 2 ^ 35) :
    tagGroupOctets (tagGroups n) n = contBits (b128digits n) := by
  rw [tagGroupOctets_eq_base128 n h, contBits_b128digits]

end Base128

/-- `ber_tlv_tag_serialize` writes at least one octet, the first with the P/C bit clear -/
theorem tagSerialize_shape (t : Tag) : ∃ b bs, tagSerialize t = b :: bs ∧ b % 64 < 32 := by
  unfold tagSerialize
  split
  · exact ⟨_, [], rfl, by omega⟩
  · exact ⟨_, _, rfl, by omega⟩

/-- `ber_fetch_tag` does not look at the P/C bit -/
theorem fetchTag_add32 (b : Nat) (l : Bytes) (h : b % 64 < 32) :
    fetchTag ((b + 32) :: l) = fetchTag (b :: l) := by
  rw [fetchTag, fetchTag, (by omega : (b + 32) / 64 = b / 64), (by omega : (b + 32) % 32 = b % 32)]

end Asn1c.Proofs.BerTlv
