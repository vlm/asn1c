import Asn1cModel.L2.Oer
import Asn1cModel.Proofs.L2Contents
import Asn1cModel.Proofs.Base128
import Asn1cModel.Proofs.Bits
/-
  The L2 OER reference codec (`L2/Oer.lean`): every building block of the decoder inverts that of the encoder
  (length determinant, INTEGER, ENUMERATED, tags, bit packing), and the domain of the round trip (`OTyWf`, `OCanon`).
  The induction over the type is done once, for the variant encoder, in Proofs/L2OerVariants.lean;
  property theorems live in Props/C02Oer.lean.
-/
namespace Asn1c.Proofs.L2Oer
open Asn1c Asn1c.Impl.BerTlv Asn1c.L2 Asn1c.L2.Oer Asn1c.Spec
open Asn1c.Proofs.Integer Asn1c.Proofs.L2Der
open Asn1c.Proofs.PerSupport (bitsToBytes_length)

theorem takeN_append (c rest : Bytes) (n : Nat) (h : n = c.length) : takeN n (c ++ rest) = .ok c rest := by
  subst h
  simp [takeN]

/-- §8.6.5: the long form — 0x80 | k, then k octets — is read whatever the k octets are: the decoder asks neither
    for the fewest octets nor for a length above 127 -/
theorem decLen_long (c rest : Bytes) (h : c ≠ []) : decLen ((128 + c.length) :: (c ++ rest)) = .ok (ofBE 0 c) rest := by
  have hk : 0 < c.length := List.length_pos_iff.mpr h
  rw [decLen, if_neg (by omega)]
  simp only [Nat.add_sub_cancel_left]
  rw [if_neg (by omega), if_neg (by simp), List.take_left' rfl, List.drop_left' rfl]

theorem decLen_lenDet (n : Nat) (rest : Bytes) : decLen (lenDet n ++ rest) = .ok n rest := by
  unfold lenDet Asn1c.Spec.Oer.length
  by_cases h : n ≤ 127
  · simp only [h, if_true, List.cons_append, List.nil_append, decLen]
    rw [if_pos (by omega)]
  · simp only [h, if_false, List.cons_append]
    rw [decLen_long _ _ (Real.toBE_ne_nil n (by omega)), Real.ofBE_toBE]

theorem decLenBody_append (c rest : Bytes) : decLenBody (lenDet c.length ++ c ++ rest) = .ok c rest := by
  unfold decLenBody
  rw [List.append_assoc, decLen_lenDet]
  simp only []
  exact takeN_append c rest _ rfl

theorem decOpen_openType (d : Bytes → PRes Val) (x : Bytes) (v : Val) (rest : Bytes)
    (hd : d x = .ok v []) : decOpen d (openType x ++ rest) = .ok v rest := by
  unfold decOpen openType
  rw [decLenBody_append]
  simp only [hd]

theorem unsOctets_ne_nil (n : Nat) : unsOctets n ≠ [] := by
  unfold unsOctets
  by_cases h : n = 0
  · simp [h]
  · simp only [h, if_false]; exact Real.toBE_ne_nil n h

theorem unsVal_unsOctets (n : Nat) : unsVal (unsOctets n) = n := by
  unfold unsOctets unsVal
  by_cases h : n = 0
  · simp [h, ofBE]
  · simp only [h, if_false]; exact Real.ofBE_toBE n

theorem unsOctets_wf (n : Nat) : Bytes.wf (unsOctets n) := by
  unfold unsOctets
  by_cases h : n = 0
  · simp only [h, if_true]; intro b hb; simp at hb; omega
  · simp only [h, if_false]; exact Real.toBE_wf n

/-- X.696 §10.4 a: the octets of an unsigned variable-size INTEGER have no redundant leading zero -/
theorem unsOctets_minimal (n : Nat) : Spec.Oer.MinimalUns (unsOctets n) := by
  unfold unsOctets
  split
  · trivial
  · cases hq : toBE n with
    | nil => trivial
    | cons b bs =>
      cases b with
      | zero => exact absurd rfl (Real.toBE_head_ne_zero n 0 bs hq)
      | succ b => simp [Spec.Oer.MinimalUns]

/-- §10.2: `w` octets hold every `0 ≤ z < 256^w` as an unsigned number -/
theorem unsVal_toBEn (w : Nat) (z : Int) (h0 : 0 ≤ z) (h1 : z < 256 ^ w) : (unsVal (toBEn w z.toNat) : Int) = z := by
  have : z.toNat < 256 ^ w := (Int.toNat_lt h0).mpr h1
  rw [unsVal, Integer.ofBE_toBEn_lt this, Int.toNat_of_nonneg h0]

theorem decInt_encInt (sh : IntShape) (z : Int) (out rest : Bytes)
    (h : encInt sh z = some out) : decInt sh (out ++ rest) = .ok z rest := by
  cases sh <;> simp only [encInt, Option.ite_none_right_eq_some, Option.some.injEq] at h
  case fixedU w =>
    obtain ⟨hc, rfl⟩ := h
    simp only [decInt, takeN_append _ _ _ (toBEn_length w _).symm, unsVal_toBEn w z hc.1 hc.2]
  case fixedS w =>
    obtain ⟨hc, rfl⟩ := h
    simp only [decInt, takeN_append _ _ _ (toBEn_length w _).symm, twosVal_toBEn w z hc.1 hc.2]
  case varU =>
    obtain ⟨hc, rfl⟩ := h
    simp only [decInt, decLenBody_append, unsOctets_ne_nil, if_false, unsVal_unsOctets, Int.toNat_of_nonneg hc]
  case varS =>
    subst h
    simp only [decInt, decLenBody_append, intOctets_ne_nil, if_false, twosVal_intOctets]

/-- §11.3: the long form — 0x80 | n, then n octets of two's complement — is read whatever the value is -/
theorem decEnum_long (c rest : Bytes) (h : c ≠ []) :
    decEnum ((128 + c.length) :: (c ++ rest)) = .ok (twosVal c) rest := by
  have hk : 0 < c.length := List.length_pos_iff.mpr h
  rw [decEnum, if_neg (by omega), if_neg (by omega), Nat.add_sub_cancel_left, takeN_append _ _ _ rfl]

theorem decEnum_encEnum (z : Int) (out rest : Bytes) (h : encEnum z = some out) :
    decEnum (out ++ rest) = .ok z rest := by
  unfold encEnum at h
  split at h
  · rename_i hc
    obtain rfl := Option.some.inj h
    simp only [List.cons_append, List.nil_append, decEnum]
    rw [if_pos (by omega), Int.toNat_of_nonneg hc.1]
  · simp only [Option.ite_none_right_eq_some, Option.some.injEq] at h
    obtain ⟨_, rfl⟩ := h
    rw [List.cons_append, decEnum_long _ _ (intOctets_ne_nil z), twosVal_intOctets]

/-- a fixed-size signed INTEGER has at least one octet -/
def shapeOk : IntShape → Bool
  | .fixedS w => w != 0
  | _ => true

mutual
def otyWfB : OTy → Bool
  | .integer sh => shapeOk sh
  | .seq root _ _ adds _ =>
    otyWfListB root && otyWfListB adds
  | .choice tags alts _ => otyWfListB alts && decide tags.Nodup
  | .seqOf e => otyWfB e
  | .setOf e => otyWfB e
  | _ => true
def otyWfListB : List OTy → Bool
  | [] => true
  | m :: ms => otyWfB m && otyWfListB ms
end

/-- **well-formed OER view**: a signed fixed-size INTEGER has at least one octet, the
    alternatives of a CHOICE carry distinct tags (X.680 §29.3). -/
def OTyWf (t : OTy) : Prop := otyWfB t = true
instance (t : OTy) : Decidable (OTyWf t) := by unfold OTyWf; infer_instance

/-- SET OF: the element encodings are in ascending order (X.696 §19 / X.690 §11.6) -/
def sortedEncO (e : OTy) (vs : List Val) : Bool :=
  match encElems e vs with
  | some els => chainB bytesLe els
  | none => false

mutual
def ocanonB : OTy → Val → Bool
  | .real, .real b => decide (RealOk b)
  | .bits _, .bits bs u => decide (u ≤ 7 ∧ (bs = [] → u = 0) ∧ maskLast bs u = bs)
  | .seq root rattrs _ adds aattrs, .seq vs =>
    ocanonComps root rattrs (vs.take root.length) && ocanonComps adds aattrs (vs.drop root.length)
  | .choice _ alts _, .choice i v => ocanonAlt alts i v
  | .seqOf e, .list vs => vs.all (fun v => ocanonB e v)
  | .setOf e, .list vs => vs.all (fun v => ocanonB e v) && sortedEncO e vs
  | _, _ => true
def ocanonComps : List OTy → List Attr → List Val → Bool
  | m :: ms, a :: as, v :: vs =>
    (if isAbsent v then true else (!isDefault a v && ocanonB m v)) && ocanonComps ms as vs
  | _, _, _ => true
def ocanonAlt : List OTy → Nat → Val → Bool
  | [], _, _ => true
  | a :: _, 0, v => ocanonB a v
  | _ :: as, i + 1, v => ocanonAlt as i v
end

/-- **canonical abstract value** (of a type that can encode it): present components are not the
    DEFAULT value; BIT STRING values are normalised (unused ≤ 7, unused bits zero); REAL values are in
    `RealOk`; SET OF lists are sorted by element encoding. -/
def OCanon (t : OTy) (v : Val) : Prop := ocanonB t v = true
instance (t : OTy) (v : Val) : Decidable (OCanon t v) := by unfold OCanon; infer_instance

theorem otyWfList_iff (ms : List OTy) : otyWfListB ms = true ↔ ∀ m ∈ ms, OTyWf m :=
  forall_mem_of_eqns rfl (fun _ _ => rfl) ms

theorem isPresent_absent (a : Attr) : isPresent a .absent = false := rfl

theorem isPresent_eq (a : Attr) (v : Val) : isPresent a v = (!isAbsent v && !isDefault a v) := by cases v <;> rfl

/-- a component that satisfies the condition of `ocanonComps` (with `c` for the canonicity of a present value) and
    is encoded has a canonical value -/
theorem canon_of_present (a : Attr) (v : Val) (c : Bool)
    (h : (if isAbsent v then true else (!isDefault a v && c)) = true) (hp : isPresent a v = true) : c = true := by
  simp_all [isPresent_eq]

/-- a component that satisfies that condition and is not encoded is `absent`: a stored DEFAULT value fails it -/
theorem absent_of_not_present (a : Attr) (v : Val) (c : Bool)
    (h : (if isAbsent v then true else (!isDefault a v && c)) = true) (hp : ¬isPresent a v = true) : v = .absent := by
  refine (isAbsent_iff v).mp ?_
  cases ha : isAbsent v <;> simp_all [isPresent_eq]

open Asn1c.Spec.Oid Asn1c.Proofs.Oid in
/-- the digits of a long tag number are those of an OBJECT IDENTIFIER sub-identifier (X.690 §8.19.2) -/
theorem b128hi_eq : b128hi = base128hi := eq_base128hi _ b128hi.eq_1

theorem decTagLoop_hi (acc x : Nat) (tl : Bytes) (h : 128 ≤ x) :
    decTagLoop acc (x :: tl) = decTagLoop (acc * 128 + (x - 128)) tl := by
  rw [decTagLoop, if_neg (by omega)]

theorem decTagLoop_lo (acc x : Nat) (tl : Bytes) (h : x < 128) :
    decTagLoop acc (x :: tl) = .ok (acc * 128 + x) tl := by
  rw [decTagLoop, if_pos h]

open Asn1c.Spec.Oid Asn1c.Proofs.Oid in
theorem decTagLoop_allHi (hs tl : Bytes) (h : AllHi hs) (acc : Nat) :
    decTagLoop acc (hs ++ tl) = decTagLoop (subidVal acc hs) tl := by
  induction hs generalizing acc with
  | nil => rfl
  | cons b hs ih =>
    obtain ⟨hb, h⟩ := allHi_cons.mp h
    rw [List.cons_append, decTagLoop_hi _ _ _ hb.1, ih h, subidVal, show b - 128 = b % 128 by omega]

open Asn1c.Spec.Oid Asn1c.Proofs.Oid in
theorem decTag_tagOctets (t : Tag) (rest : Bytes) : decTag (Oer.tagOctets t ++ rest) = .ok t rest := by
  obtain ⟨cls, num⟩ := t
  unfold Oer.tagOctets
  by_cases h : num < 63
  · simp only [h, if_true, List.cons_append, List.nil_append, decTag]
    have h1 : (cls * 64 + num) % 64 = num := by omega
    have h2 : (cls * 64 + num) / 64 = cls := by omega
    rw [h1, h2, if_pos h]
  · simp only [h, if_false, List.cons_append, decTag]
    have h1 : (cls * 64 + 63) % 64 = 63 := by omega
    have h2 : (cls * 64 + 63) / 64 = cls := by omega
    rw [h1, h2, if_neg (by omega), List.append_assoc, b128hi_eq, decTagLoop_allHi _ _ (base128hi_allHi _),
      subidVal_base128hi, List.singleton_append, decTagLoop_lo _ _ _ (Nat.mod_lt _ (by omega)),
      Nat.div_add_mod']

theorem findTag_of_getElem (t : Tag) (tags : List Tag) (i k : Nat) (hn : tags.Nodup) (h : tags[i]? = some t) :
    findTag t tags k = some (k + i) := by
  fun_induction findTag t tags k generalizing i with
  | case1 => simp at h
  | case2 xs k =>
    cases i with
    | zero => rfl
    | succ i => exact absurd (List.mem_of_getElem? (l := xs) h) (List.nodup_cons.mp hn).1
  | case3 x xs k hx ih =>
    cases i with
    | zero => exact absurd (Option.some.inj h) hx
    | succ i => rw [ih i (List.nodup_cons.mp hn).2 h, Nat.add_right_comm, Nat.add_assoc]

theorem bytesToBits_bitsToBytes (bs : Bits) :
    bytesToBits (bitsToBytes bs) = bs ++ List.replicate (padBits bs.length) false :=
  PerSupport.bytesToBits_bitsToBytes bs

/-- §16.2: the preamble — the extension bit `e` of an extensible type, then the presence bits — is taken off the
    front, and read back followed by the padding of its last octet -/
theorem preamble_spec (ext e : Bool) (rbits : Bits) (n : Nat) (hn : rbits.length = n) (r : Bytes) :
    takeN (((if ext then 1 else 0) + n + 7) / 8) (bitsToBytes ((if ext then [e] else []) ++ rbits) ++ r)
      = .ok (bitsToBytes ((if ext then [e] else []) ++ rbits)) r ∧
    (ext && (bytesToBits (bitsToBytes ((if ext then [e] else []) ++ rbits))).headD false) = (ext && e) ∧
    (bytesToBits (bitsToBytes ((if ext then [e] else []) ++ rbits))).drop (if ext then 1 else 0)
      = rbits ++ List.replicate (padBits ((if ext then [e] else []) ++ rbits).length) false := by
  refine ⟨takeN_append _ _ _ ?_, ?_, ?_⟩
  · rw [bitsToBytes_length]; cases ext <;> simp [hn, Nat.add_comm]
  · rw [bytesToBits_bitsToBytes]; cases ext <;> simp
  · rw [bytesToBits_bitsToBytes]; cases ext <;> simp

theorem padBits_le (n : Nat) : padBits n ≤ 7 := by unfold padBits; omega

theorem bitmap_bits (abits : Bits) :
    (bytesToBits (bitsToBytes abits)).take ((bitsToBytes abits).length * 8 - padBits abits.length) = abits := by
  rw [bytesToBits_bitsToBytes, bitsToBytes_length]
  have : (abits.length + 7) / 8 * 8 - padBits abits.length = abits.length := by unfold padBits; omega
  rw [this]; simp

/-- `mapEnc` is all or nothing: the encodings of all elements, or `none` as soon as one has none -/
theorem mapEnc_eq (f : Val → Option Bytes) (vs : List Val) :
    mapEnc f vs = if vs.all (fun v => (f v).isSome) then some (vs.filterMap f) else none := by
  induction vs with
  | nil => rfl
  | cons v vs ih =>
    cases h : f v <;> by_cases h2 : (vs.all fun v => (f v).isSome) = true <;> simp [mapEnc, ih, h, h2]

end Asn1c.Proofs.L2Oer
