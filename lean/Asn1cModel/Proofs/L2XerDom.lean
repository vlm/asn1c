import Asn1cModel.Proofs.L2XerBody
import Mathlib.Algebra.Group.Int.Defs
/-
  XER: the domain of the round trip of Proofs/L2Xer, `rtTy` (types) and `rtVal` (values, per variant), with the
  first facts about them (`rtTys_iff`, `rtVal_absent`).  A module of its own upstream of the round trip, so that the
  equation lemmas of the two predicates, which nearly every proof there asks for, are derived once.
-/
namespace Asn1c.Proofs.L2Xer
open Asn1c Asn1c.L2 Asn1c.L2.Xer

/-- element tags that cannot be used for an XMLValueList of this type: the elements of `SEQUENCE OF BOOLEAN` are
    written `<true/><false/>` and each is decoded with the tag `n` of the element type expected, so `<n/>` is the
    empty element itself there.  (No ASN.1 module gets here: `n` is `BOOLEAN` / `ENUMERATED` or a type reference
    name, which starts with a capital letter, the value tags start with a small one.)  Inside `<n>...</n>` a value
    tag may be called like the element since finding F153 is repaired. -/
def clash (t : XTy) (n : Bytes) : Bool :=
  match t with
  | .boolean => n == litTrue || n == litFalse
  | .enumerated ns _ => ns.contains n
  | _ => false

/-- `enumOk`, decidably (for `rtTy`) -/
def enumOkB (ns : List Bytes) (vs : List Int) : Bool :=
  ns.length == vs.length && decide ns.Nodup && ns.all nameOk && vs.all fun v => decide (-(2 ^ 63) ≤ v ∧ v < 2 ^ 63)

theorem enumOk_of_B {ns : List Bytes} {vs : List Int} (h : enumOkB ns vs = true) : enumOk ns vs := by
  simp only [enumOkB, Bool.and_eq_true, beq_iff_eq, decide_eq_true_eq, List.all_eq_true] at h
  exact ⟨h.1.1.1, h.1.1.2, h.1.2, h.2⟩

/-- the element types of an XMLValueList (X.680 §25.5): BOOLEAN, ENUMERATED, NULL -/
def isVL : XTy → Bool
  | .boolean | .null | .enumerated _ _ => true
  | _ => false

/-- a CHOICE, the one type that can be a list element without a tag of its own (`RT0`) -/
def isChoice : XTy → Bool
  | .choice _ _ _ => true
  | _ => false

mutual
/-- the types covered by the round-trip theorem -/
def rtTy : XTy → Bool
  | .boolean => true
  | .null => true
  | .integer _ => true
  | .enumerated ns vs => enumOkB ns vs
  | .hexstr => true
  | .bitstr => true
  | .utf8str => true
  | .timestr _ => true
  | .bmpstr => true
  | .unistr => true
  | .seq names ms attrs _ =>
    names.length == ms.length && attrs.length == ms.length && names.all nameOk && decide names.Nodup && rtTys ms
  | .choice names alts _ =>
    names.length == alts.length && names.all nameOk && decide names.Nodup && rtTys alts
  | .seqOf mode en e =>
    (((mode == 0 || (mode == 1 && isVL e && !clash e en)) && nameOk en) || (mode == 2 && en == [] && isChoice e)) && rtTy e
  | _ => false
def rtTys : List XTy → Bool
  | [] => true
  | m :: ms => rtTy m && rtTys ms
end

theorem rtTys_iff (ms : List XTy) : rtTys ms = true ↔ ∀ m ∈ ms, rtTy m = true :=
  Integer.forall_mem_of_eqns rfl (fun _ _ => rfl) ms

theorem rtTys_get : ∀ (ms : List XTy) (i : Nat) (m : XTy), rtTys ms = true → ms[i]? = some m → rtTy m = true :=
  fun ms _ m h hm => (rtTys_iff ms).mp h m (List.mem_of_getElem? hm)

mutual
/-- the values covered by the round trip in the variant `c` (CANONICAL-XER when `c`): of the right shape, INTEGER
    within `long` - `unsigned long` for the unsigned native representation (`intRange`) -, ENUMERATED one of the
    items; a component may be absent only when it is OPTIONAL / an extension addition / DEFAULT, and
    * BASIC-XER (the encoder substitutes the default value for an absent DEFAULT component): a DEFAULT component
      with a value the encoder substitutes is stored explicitly;
    * CANONICAL-XER (default values are not encoded): a DEFAULT component is absent or holds another value -/
def rtVal (c : Bool) : XTy → Val → Bool
  | .boolean, .bool _ => true
  | .null, .null => true
  | .integer r, .int z => decide (intRange r z)
  | .enumerated ns vs, .int z => (lookupName ns vs z).isSome
  | .hexstr, .octets bs => bs.all (· < 256)
  | .bitstr, .bits bs u => bitsOk bs u
  | .utf8str, .octets _ => true
  | .timestr _, .octets _ => true
  | .bmpstr, .octets bs => bmpOk bs
  | .unistr, .octets bs => uniOk bs
  | .seq _ ms attrs _, .seq vs => rtVals c ms attrs vs
  | .choice _ alts _, .choice i v => rtAlt c alts i v
  | .seqOf _ _ e, .list vs => vs.all (rtVal c e)
  | _, _ => false
def rtVals (c : Bool) : List XTy → List Attr → List Val → Bool
  | [], [], [] => true
  | m :: ms, a :: as, v :: vs =>
    (match v with
     | .absent => (c || (dfltVal a).isNone) && omitable a
     | v => rtVal c m v && !(c && isDefault a v)) && rtVals c ms as vs
  | _, _, _ => false
def rtAlt (c : Bool) : List XTy → Nat → Val → Bool
  | m :: _, 0, v => rtVal c m v
  | _ :: ms, i + 1, v => rtAlt c ms i v
  | [], _, _ => false
end

theorem rtVal_absent (c : Bool) (m : XTy) : rtVal c m .absent = false := by
  cases m <;> simp [rtVal]

theorem rtVals_of_ne {v : Val} (hv : v ≠ .absent) (c : Bool) (m : XTy) (ms : List XTy) (a : Attr) (as : List Attr)
    (vs : List Val) :
    rtVals c (m :: ms) (a :: as) (v :: vs) = ((rtVal c m v && !(c && isDefault a v)) && rtVals c ms as vs) := by
  cases v with
  | absent => exact absurd rfl hv
  | _ => rfl

theorem ne_absent_of_rtVal {c : Bool} {m : XTy} {v : Val} (h : rtVal c m v = true) : v ≠ .absent := by
  rintro rfl; rw [rtVal_absent] at h; cases h

end Asn1c.Proofs.L2Xer
