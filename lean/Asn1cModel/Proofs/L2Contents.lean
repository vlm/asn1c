import Asn1cModel.L2.Der
import Asn1cModel.Proofs.Real
import Asn1cModel.Proofs.Sort
import Mathlib.Algebra.Group.Nat.Defs
/-
  What the four L2 reference codecs (DER, OER, UPER, XER) share: the canonical orders (what `sortBy` does for a
  total order, `chainB`, and for a total, transitive, antisymmetric one, `sortBy_perm_eq`; the generic facts about
  `sortBy` are in Proofs/Sort.lean), the contents octets of INTEGER (`intOctets`) and REAL (`RealOk`,
  `real_roundtrip`), absent and DEFAULT-valued components, and the order on octet strings `bytesLe`.  The namespace
  is that of Proofs/L2Der.lean, the DER tree builder, which continues this module.
-/
namespace Asn1c.Proofs.L2Der
open Asn1c Asn1c.Impl.BerTlv Asn1c.L2 Asn1c.Spec Asn1c.Proofs.Integer Asn1c.Proofs.Sort

/-- an order that is total, transitive and antisymmetric **on the keys** `f` sorts permuted inputs to outputs
    with identical key sequences: both are pairwise ordered permutations of each other -/
theorem sortBy_perm_keys {α β : Type} (r : β → β → Bool) (f : α → β)
    (htot : ∀ a b, r a b = true ∨ r b a = true)
    (htr : ∀ a b c, r a b = true → r b c = true → r a c = true)
    (hanti : ∀ a b, r a b = true → r b a = true → a = b)
    (l₁ l₂ : List α) (hp : l₁.Perm l₂) :
    (sortBy (fun a b => r (f a) (f b)) l₁).map f = (sortBy (fun a b => r (f a) (f b)) l₂).map f :=
  have hs (l : List α) : ((sortBy (fun a b => r (f a) (f b)) l).map f).Pairwise (fun a b => r a b = true) :=
    List.pairwise_map.mpr (pairwise_sortBy (fun a b => r (f a) (f b)) (fun a b => htot (f a) (f b))
      (fun a b c => htr (f a) (f b) (f c)) l)
  List.Perm.eq_of_pairwise (fun a b _ _ => hanti a b) (hs l₁) (hs l₂)
    ((((perm_sortBy _ l₁).trans hp).trans (perm_sortBy _ l₂).symm).map f)

section SortLemmas
variable {α : Type} (le : α → α → Bool)

/-- adjacent elements are in order -/
def chainB : List α → Bool
  | [] => true
  | [_] => true
  | x :: y :: l => le x y && chainB (y :: l)

theorem chainB_cons_cons (x y : α) (l : List α) :
    chainB le (x :: y :: l) = true ↔ le x y = true ∧ chainB le (y :: l) = true := by
  simp only [chainB, Bool.and_eq_true]

theorem sortBy_of_chain (l : List α) (h : chainB le l = true) : sortBy le l = l := by
  induction l with
  | nil => rfl
  | cons x xs ih =>
    cases xs with
    | nil => rfl
    | cons y ys =>
      obtain ⟨h1, h2⟩ := (chainB_cons_cons le x y ys).mp h
      rw [sortBy, ih h2, insertBy, if_pos h1]

theorem pairwise_of_chain (htr : ∀ a b c, le a b = true → le b c = true → le a c = true) (l : List α)
    (h : chainB le l = true) : l.Pairwise (fun a b => le a b = true) := by
  induction l with
  | nil => exact List.Pairwise.nil
  | cons x xs ih =>
    cases xs with
    | nil => exact List.pairwise_singleton _ _
    | cons y ys =>
      obtain ⟨hxy, h⟩ := (chainB_cons_cons le x y ys).mp h
      have ih' := ih h
      refine List.pairwise_cons.mpr ⟨fun z hz => ?_, ih'⟩
      rcases List.mem_cons.mp hz with rfl | hz
      · exact hxy
      · exact htr _ _ _ hxy ((List.pairwise_cons.mp ih').1 z hz)

theorem chain_insertBy (htot : ∀ a b, le a b = true ∨ le b a = true) (x : α) (l : List α)
    (h : chainB le l = true) : chainB le (insertBy le x l) = true := by
  induction l with
  | nil => rfl
  | cons y ys ih =>
    rw [insertBy]
    split
    · exact (chainB_cons_cons le x y ys).mpr ⟨‹_›, h⟩
    · have hyx : le y x = true := (htot x y).resolve_left ‹_›
      cases ys with
      | nil => exact (chainB_cons_cons le y x []).mpr ⟨hyx, rfl⟩
      | cons z zs =>
        obtain ⟨hyz, hz⟩ := (chainB_cons_cons le y z zs).mp h
        have ih' := ih hz
        rw [insertBy] at ih' ⊢
        split at ih'
        · rw [if_pos ‹_›]; exact (chainB_cons_cons le y x _).mpr ⟨hyx, ih'⟩
        · rw [if_neg ‹_›]; exact (chainB_cons_cons le y z _).mpr ⟨hyz, ih'⟩

theorem chain_sortBy (htot : ∀ a b, le a b = true ∨ le b a = true) (l : List α) :
    chainB le (sortBy le l) = true := by
  induction l with
  | nil => rfl
  | cons x xs ih => exact chain_insertBy le htot x _ ih

/-- **sorting is idempotent** -/
theorem sortBy_idem (htot : ∀ a b, le a b = true ∨ le b a = true) (l : List α) :
    sortBy le (sortBy le l) = sortBy le l :=
  sortBy_of_chain le _ (chain_sortBy le htot l)

/-- **the sorted list depends only on the multiset**: for a total, transitive, antisymmetric
    order, permuted inputs give identical outputs -/
theorem sortBy_perm_eq (htot : ∀ a b, le a b = true ∨ le b a = true)
    (htr : ∀ a b c, le a b = true → le b c = true → le a c = true)
    (hanti : ∀ a b, le a b = true → le b a = true → a = b)
    (l₁ l₂ : List α) (hp : l₁.Perm l₂) : sortBy le l₁ = sortBy le l₂ := by
  simpa only [id_eq, List.map_id] using sortBy_perm_keys le id htot htr hanti l₁ l₂ hp

end SortLemmas

theorem natOctets_props (n : Nat) :
    ∃ b bs, natOctets n = b :: bs ∧ b < 128 ∧ Bytes.wf (b :: bs) ∧ ofBE 0 (b :: bs) = n ∧
      (b = 0 → ∀ c cs, bs = c :: cs → ¬ c < 128) := by
  unfold natOctets
  have hw := Real.toBE_wf n
  have hv := Real.ofBE_toBE n
  cases hq : toBE n with
  | nil =>
    rw [hq] at hv
    refine ⟨0, [], rfl, by omega, ?_, ?_, ?_⟩
    · intro b hb; simp at hb; omega
    · simp [ofBE] at hv ⊢; exact hv
    · intro _ c cs h; cases h
  | cons b bs =>
    rw [hq] at hv hw
    have hb0 := Real.toBE_head_ne_zero n b bs hq
    simp only []
    split
    · rename_i hge
      refine ⟨0, b :: bs, rfl, by omega, ?_, ?_, ?_⟩
      · intro x hx
        rcases List.mem_cons.mp hx with hx | hx
        · omega
        · exact hw x hx
      · rw [ofBE]; exact hv
      · intro _ c cs h; injection h with h1 h2; omega
    · rename_i hlt
      exact ⟨b, bs, rfl, by omega, hw, hv, fun h => absurd h hb0⟩

theorem ofBE_compl (l : Bytes) (h : Bytes.wf l) :
    ofBE 0 (l.map (255 - ·)) + ofBE 0 l + 1 = 256 ^ l.length := by
  induction l using snoc_induction with
  | nil => simp [ofBE]
  | snoc l d ih =>
    have hd : d < 256 := h d (by simp)
    have hl : Bytes.wf l := fun x hx => h x (by simp [hx])
    have := ih hl
    rw [List.map_append, List.map_singleton, Real.ofBE_append_single, Real.ofBE_append_single, List.length_append, List.length_singleton,
      Nat.pow_succ]
    omega

theorem minimalTwos_of (b : Nat) (bs : Bytes)
    (h0 : b = 0 → ∀ c cs, bs = c :: cs → ¬ c < 128)
    (h255 : b = 255 → ∀ c cs, bs = c :: cs → ¬ c ≥ 128) : MinimalTwos (b :: bs) := by
  cases bs with
  | nil => simp [MinimalTwos]
  | cons c cs => exact (minimalTwos_cons_cons b c cs).mpr ⟨fun h => h0 h.1 c cs rfl h.2, fun h => h255 h.1 c cs rfl h.2⟩

/-- the contents octets written for an INTEGER are a well-formed two's complement numeral of it, the
    shortest one (X.690 §8.3.2) -/
theorem intOctets_spec (z : Int) :
    intOctets z ≠ [] ∧ Bytes.wf (intOctets z) ∧ MinimalTwos (intOctets z) ∧ twosVal (intOctets z) = z := by
  unfold intOctets
  split
  · obtain ⟨b, bs, he, hb, hw, hv, hm⟩ := natOctets_props z.toNat
    rw [he]
    refine ⟨nofun, hw, minimalTwos_of b bs hm (fun h => by omega), ?_⟩
    rw [twosVal, if_pos hb, hv]
    omega
  · obtain ⟨b, bs, he, hb, hw, hv, hm⟩ := natOctets_props (-z - 1).toNat
    rw [he, List.map_cons]
    refine ⟨nofun, ?_, minimalTwos_of _ _ (fun h => by omega) fun h c cs hc => ?_, ?_⟩
    · intro x hx
      obtain ⟨y, _, rfl⟩ := List.mem_map.mp (List.map_cons ▸ hx)
      omega
    · cases bs with
      | nil => cases hc
      | cons d ds =>
        simp only [List.map_cons] at hc
        injection hc with h1 h2
        have : ¬ d < 128 := hm (by omega) d ds rfl
        omega
    · have hc := ofBE_compl (b :: bs) hw
      rw [List.map_cons, List.length_cons, hv] at hc
      rw [twosVal, if_neg (by omega), List.length_map]
      have : ((256 ^ (bs.length + 1) : Nat) : Int) = 256 ^ (bs.length + 1) := Int.natCast_pow 256 _
      omega

theorem intOctets_ne_nil (z : Int) : intOctets z ≠ [] := (intOctets_spec z).1
theorem intOctets_wf (z : Int) : Bytes.wf (intOctets z) := (intOctets_spec z).2.1
theorem intOctets_minimal (z : Int) : MinimalTwos (intOctets z) := (intOctets_spec z).2.2.1
theorem twosVal_intOctets (z : Int) : twosVal (intOctets z) = z := (intOctets_spec z).2.2.2

/-- the doubles that `asn_double2REAL`/`asn_REAL2double` carry through bit for bit
    (C16: every double that is not a NaN — normal, subnormal, ±0, ±∞; NaN payloads are not preserved) -/
def RealOk (b : Nat) : Prop :=
  b < 2 ^ 64 ∧ ¬ Asn1c.Spec.f64IsNaN b

instance (b : Nat) : Decidable (RealOk b) := by unfold RealOk; infer_instance

theorem real_roundtrip (b : Nat) (h : RealOk b) :
    Asn1c.Impl.Real.REAL2double (Asn1c.Impl.Real.double2REAL b) = .ok b :=
  Asn1c.Proofs.Real.REAL2double_double2REAL b h.1 h.2

/-- the REAL contents written by the reference codecs (`Impl.Real.double2REAL`, shared by L2/Der, L2/Oer
    and L2/Uper) are the X.690 DER contents (§8.5 + §11.3.1) of the double, for every bit pattern -/
theorem primContent_real_eq_derReal (b : Nat) :
    primContent .real (.real b) = some (Asn1c.Spec.derReal b) := by
  simp only [primContent, Asn1c.Proofs.Real.double2REAL_eq_derReal]

def isAbsent : Val → Bool
  | .absent => true
  | _ => false

theorem isAbsent_iff (v : Val) : isAbsent v = true ↔ v = .absent := by
  cases v <;> simp [isAbsent]

theorem absent_or (v : Val) : v = .absent ∨ isAbsent v = false := by
  cases v <;> simp [isAbsent]

theorem isDefault_dflt {a : Attr} {v : Val} (h : isDefault a v = true) : a.dflt.isSome = true := by
  unfold isDefault at h
  cases hd : a.dflt with
  | none => simp [hd] at h
  | some d => rfl

/-- `bytesLe` is core's lexicographic order on `List Nat` (the instance is named because Mathlib puts
    another `≤` on lists in scope) -/
theorem bytesLe_iff (a b : Bytes) : bytesLe a b = true ↔ @LE.le (List Nat) List.instLE a b := by
  induction a generalizing b with
  | nil => simp [bytesLe, List.nil_le]
  | cons x xs ih =>
    cases b with
    | nil => simp [bytesLe]
    | cons y ys => simp [bytesLe, List.cons_le_cons_iff, ih]

theorem bytesLe_total (a b : Bytes) : bytesLe a b = true ∨ bytesLe b a = true := by
  simp only [bytesLe_iff]; exact List.le_total a b

theorem bytesLe_trans (a b c : Bytes) (h1 : bytesLe a b = true) (h2 : bytesLe b c = true) :
    bytesLe a c = true :=
  (bytesLe_iff a c).mpr (List.le_trans ((bytesLe_iff a b).mp h1) ((bytesLe_iff b c).mp h2))

theorem bytesLe_antisymm (a b : Bytes) (h1 : bytesLe a b = true) (h2 : bytesLe b a = true) : a = b :=
  List.le_antisymm ((bytesLe_iff a b).mp h1) ((bytesLe_iff b a).mp h2)

end Asn1c.Proofs.L2Der
