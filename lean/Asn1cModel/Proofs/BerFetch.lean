import Asn1cModel.Impl.BerTlv
import Asn1cModel.Impl.UnberTlv
/-
  `ber_fetch_tag` / `ber_fetch_length` (ber_tlv_tag.c, ber_tlv_length.c) on any octets, for the two models the
  development has of them.  Core Lean only.

  Namespace `Asn1c.Proofs.BerTlv`, about `Impl.BerTlv` (the functions on the list of the octets that may be read): an
  answer other than "more" stands when octets are appended, and what was accepted lies inside the octets presented
  (`Fetch.ExtP`, `fetchTag_ext`, `fetchLength_ext`).  The TLV parser, the streaming decoder and unber rest on these.

  Namespace `Asn1c.Proofs.UnberTlv`, about `Impl.UnberTlv` (the same two functions with a buffer and its size, every
  read a partial lookup with the outcome `oob`): `unber` and `enber` pass as size the number of octets stored in the
  buffer, and with that size the second model answers as the first (`ofBer`, `fetchTag_eq`, `fetchLength_eq`).  So
  `oob` does not occur, and what is known of the first model (above and in Proofs/BerTlv.lean) carries over.
-/
namespace Asn1c.Proofs.BerTlv
open Asn1c Asn1c.Impl.BerTlv

/-- `b` is what the answer `a` becomes when octets are appended to the input (`ok` and `fail` are final, `more` may
    turn into anything), and where `a` is `ok` its value and octet count satisfy `P` -/
def Fetch.ExtP {α : Type} (P : α → Nat → Prop) : Fetch α → Fetch α → Prop
  | .ok v u, b => b = .ok v u ∧ P v u
  | .fail, b => b = .fail
  | .more, _ => True

section ExtP
variable {α : Type} {P P' : α → Nat → Prop} {a b : Fetch α} {v : α} {u : Nat}

theorem Fetch.ExtP.ok (h : P v u) : Fetch.ExtP P (.ok v u) (.ok v u) := ⟨rfl, h⟩
theorem Fetch.ExtP.fail : Fetch.ExtP P (.fail : Fetch α) .fail := rfl
theorem Fetch.ExtP.more : Fetch.ExtP P .more b := trivial
theorem Fetch.ExtP.of_ok (h : Fetch.ExtP P a b) (e : a = .ok v u) : b = .ok v u := by subst e; exact h.1
theorem Fetch.ExtP.of_fail (h : Fetch.ExtP P a b) (e : a = .fail) : b = .fail := by subst e; exact h
theorem Fetch.ExtP.out (h : Fetch.ExtP P a b) (e : a = .ok v u) : P v u := by subst e; exact h.2

/-- case analysis on an answer and what it becomes (`elab_as_elim`: the two answers are abstracted from the goal) -/
@[elab_as_elim] theorem Fetch.ExtP.elim {motive : Fetch α → Fetch α → Prop} (h : Fetch.ExtP P a b)
    (more : ∀ b, motive .more b) (fail : motive .fail .fail) (ok : ∀ v u, P v u → motive (.ok v u) (.ok v u)) :
    motive a b := by
  cases a with
  | more => exact more b
  | fail => exact h.of_fail rfl ▸ fail
  | ok v u => exact h.of_ok rfl ▸ ok v u (h.out rfl)

theorem Fetch.ExtP.mono (h : Fetch.ExtP P a b) (hP : ∀ v u, P v u → P' v u) : Fetch.ExtP P' a b :=
  h.elim (fun _ => .more) .fail fun _ _ hp => .ok (hP _ _ hp)

end ExtP

theorem fetchTagLoop_ext (cls : Nat) (p q : Bytes) (val s : Nat) :
    Fetch.ExtP (fun _ u => s < u ∧ u ≤ s + p.length) (fetchTagLoop cls val s p) (fetchTagLoop cls val s (p ++ q)) := by
  induction p generalizing val s with
  | nil => exact .more
  | cons b bs ih =>
    simp only [List.cons_append, fetchTagLoop, List.length_cons]
    split
    · split
      · exact .fail
      · exact (ih _ (s + 1)).mono fun _ u h => by omega
    · exact .ok (by omega)

/-- the P/C bit is read off the first octet, which stays where it is when octets are appended -/
theorem headD_append {α} (l1 l2 : List α) (d : α) (h : 1 ≤ l1.length) : (l1 ++ l2).headD d = l1.headD d := by
  cases l1 with
  | nil => simp at h
  | cons a t => rfl

theorem fetchTag_ext (p q : Bytes) :
    Fetch.ExtP (fun _ u => 1 ≤ u ∧ u ≤ p.length) (fetchTag p) (fetchTag (p ++ q)) := by
  cases p with
  | nil => exact .more
  | cons b bs =>
    simp only [List.cons_append, fetchTag, List.length_cons]
    split
    · exact .ok (by omega)
    · exact (fetchTagLoop_ext (b / 64) bs q 0 1).mono fun _ u h => by omega

theorem fetchLenLoop_ext (p q : Bytes) (len s oct : Nat) :
    Fetch.ExtP (fun v u => s ≤ u ∧ u ≤ s + p.length ∧ 0 ≤ v) (fetchLenLoop len s oct p)
      (fetchLenLoop len s oct (p ++ q)) := by
  induction oct generalizing p len s with
  | zero =>
    simp only [fetchLenLoop]
    split
    · exact .fail
    · exact .ok ⟨Nat.le_refl _, by omega, Int.natCast_nonneg _⟩
  | succ oct ih =>
    cases p with
    | nil => exact .more
    | cons b bs =>
      simp only [List.cons_append, fetchLenLoop, List.length_cons]
      split
      · exact .fail
      · exact (ih bs (len * 256 + b) (s + 1)).mono fun _ u h => by omega

/-- the length accepted is `-1` (the indefinite form, constructed encodings only) or not negative -/
theorem fetchLength_ext (c : Bool) (p q : Bytes) :
    Fetch.ExtP (fun v u => 1 ≤ u ∧ u ≤ p.length ∧ -1 ≤ v ∧ (c = false → 0 ≤ v))
      (fetchLength c p) (fetchLength c (p ++ q)) := by
  cases p with
  | nil => exact .more
  | cons b bs =>
    simp only [List.cons_append, fetchLength, List.length_cons]
    split
    · exact .ok ⟨Nat.le_refl _, by omega, by omega, fun _ => Int.natCast_nonneg _⟩
    · split
      · next h => exact .ok ⟨Nat.le_refl _, by omega, by omega, fun hc => by simp [hc] at h⟩
      · split
        · exact .fail
        · exact (fetchLenLoop_ext bs q 0 1 (b % 128)).mono fun _ u h =>
            ⟨by omega, by omega, by omega, fun _ => h.2.2⟩

end Asn1c.Proofs.BerTlv

namespace Asn1c.Proofs.UnberTlv
open Asn1c Asn1c.Impl.UnberTlv

/-- the answer of a fetch function of `Impl.BerTlv` as the one of `Impl.UnberTlv` gives it (`f` turns the value) -/
def ofBer {α β : Type} (f : α → β) : Impl.BerTlv.Fetch α → Fetch β
  | .ok v n => .ok (f v) n
  | .more => .more
  | .fail => .fail

/-- `ber_tlv_tag_t` of a tag: `(number << 2) | class` in 32 bits -/
def tagWord (t : Impl.BerTlv.Tag) : Nat := t.num * 4 % 2 ^ 32 + t.cls

theorem fetchTagLoop_eq (cls : Nat) (rest : Bytes) (val s : Nat) :
    fetchTagLoop cls rest val (s + 1) (s + rest.length) = ofBer tagWord (Impl.BerTlv.fetchTagLoop cls val s rest) := by
  induction rest generalizing val s with
  | nil => exact if_neg (Nat.not_succ_le_self s)
  | cons oct rest ih =>
    rw [List.length_cons, ← Nat.add_assoc, Nat.add_right_comm, fetchTagLoop, if_pos (Nat.le_add_right _ _),
      Impl.BerTlv.fetchTagLoop]
    dsimp only
    split
    · split
      · rfl
      · exact ih _ (s + 1)
    · rfl

theorem fetchTag_eq (buf : Bytes) : fetchTag buf buf.length = ofBer tagWord (Impl.BerTlv.fetchTag buf) := by
  cases buf with
  | nil => rfl
  | cons b rest =>
    rw [fetchTag, List.length_cons, if_neg (Nat.add_one_ne_zero _), Impl.BerTlv.fetchTag, Nat.add_comm rest.length 1]
    dsimp only
    split
    · simp only [ofBer, tagWord]; congr 1; omega
    · exact fetchTagLoop_eq _ rest 0 1

theorem fetchLenLoop_eq (rest : Bytes) (oct len s : Nat) :
    fetchLenLoop rest oct len s (s + rest.length) = ofBer id (Impl.BerTlv.fetchLenLoop len s oct rest) := by
  induction oct generalizing rest len s with
  | zero => simp only [fetchLenLoop, Impl.BerTlv.fetchLenLoop]; split <;> rfl
  | succ oct ih =>
    cases rest with
    | nil => exact if_neg (Nat.not_succ_le_self s)
    | cons b rest =>
      rw [List.length_cons, ← Nat.add_assoc, Nat.add_right_comm, fetchLenLoop, if_pos (Nat.le_add_right _ _),
        Impl.BerTlv.fetchLenLoop]
      by_cases hg : len / 2 ^ 55 = 0
      · rw [if_pos hg, if_neg (fun hn => hn hg)]
        exact ih rest _ (s + 1)
      · rw [if_neg hg, if_pos hg]; rfl

theorem fetchLength_eq (c : Bool) (buf : Bytes) :
    fetchLength c buf buf.length = ofBer id (Impl.BerTlv.fetchLength c buf) := by
  cases buf with
  | nil => rfl
  | cons b rest =>
    rw [fetchLength, List.length_cons, if_neg (Nat.add_one_ne_zero _), Impl.BerTlv.fetchLength,
      Nat.add_comm rest.length 1]
    split
    · rfl
    · split
      · rfl
      · split
        · rfl
        · exact fetchLenLoop_eq rest _ 0 1

end Asn1c.Proofs.UnberTlv
