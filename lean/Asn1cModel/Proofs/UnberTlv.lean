import Asn1cModel.Impl.UnberTlv
import Asn1cModel.Spec.TlvForest
import Asn1cModel.Proofs.BerTlv
/-
  The TL primitives of `Impl.UnberTlv` (`ber_fetch_tag`, `ber_fetch_length` and the two serializers as unber / enber
  call them, with an explicit buffer size) on the X.690 octets of `Spec.TlvForest`.  Nothing is proved about them from
  scratch: handed a buffer and the number of octets in it they are the functions of `Impl.BerTlv` (`fetchTag_eq`,
  `fetchLength_eq` of Proofs/BerFetch.lean; `tagGroupOctets_eq`, `lenSerialize_eq` here), and the facts come from
  Proofs/BerTlv.lean: a complete identifier / length field fetched by the decoders of `Impl.BerTlv`
  (`fetchTag_ident_list`, `fetchLength_lenOctets_list`: the form `UnberPass.readTL` is written in) and by the sized ones
  (`fetchTag_ident`, `fetchLength_lenOctets`), then the serializers (`tagSerialize_ident`, `lenSerialize_minimal`).
  In front of these the `cons` equations and `∀ t ∈ ts` forms of the list predicates of a forest (proofs over a `Tlv`
  and its child list are `mutual` theorems along the recursion of `Tlv.encode` / `encodeList`); at the end a `Tlv` seen
  as header ++ body.
-/
namespace Asn1c.Proofs.UnberTlv
open Asn1c Asn1c.Impl.UnberTlv Asn1c.Spec.TlvForest

theorem tagOk_iff (c n : Nat) : tagOk c n = true ↔ c < 4 ∧ ¬ (c = 0 ∧ n = 0) := by
  simp [tagOk]; intro _; omega

theorem wfList_cons (t : Tlv) (ts : List Tlv) : wfList (t :: ts) = true ↔ t.wf = true ∧ wfList ts = true := by
  simp [wfList]

theorem inDomainList_cons (t : Tlv) (ts : List Tlv) :
    inDomainList (t :: ts) = true ↔ t.inDomain = true ∧ inDomainList ts = true := by
  simp [inDomainList]

theorem minimalList_cons (t : Tlv) (ts : List Tlv) :
    minimalList (t :: ts) = true ↔ t.minimalLengths = true ∧ minimalList ts = true := by
  simp [minimalList]

theorem inDomainList_iff (ts : List Tlv) : inDomainList ts = true ↔ ∀ t ∈ ts, t.inDomain = true :=
  Integer.forall_mem_of_eqns rfl (fun _ _ => rfl) ts

theorem inRangeList_iff (ts : List Tlv) : inRangeList ts = true ↔ ∀ t ∈ ts, t.inRange = true :=
  Integer.forall_mem_of_eqns rfl (fun _ _ => rfl) ts

theorem minimalList_iff (ts : List Tlv) : minimalList ts = true ↔ ∀ t ∈ ts, t.minimalLengths = true :=
  Integer.forall_mem_of_eqns rfl (fun _ _ => rfl) ts

theorem depthList_cons (t : Tlv) (ts : List Tlv) : depthList (t :: ts) = max t.depth (depthList ts) := by
  simp [depthList]

open Asn1c.Spec.Oid Asn1c.Proofs.Oid in
/-- the continuation octets of a long tag number are those of an OBJECT IDENTIFIER sub-identifier (X.690 §8.19.2) -/
theorem contOctets_eq : contOctets = base128hi := eq_base128hi _ contOctets.eq_1

theorem identOctets_short {c : Nat} {k : Bool} {n : Nat} (h : n ≤ 30) :
    identOctets c k n = [c * 64 + (if k = true then 32 else 0) + n] := by
  simp [identOctets, h]

theorem identOctets_long {c : Nat} {k : Bool} {n : Nat} (h : ¬ n ≤ 30) :
    identOctets c k n = (c * 64 + (if k = true then 32 else 0) + 31) :: (contOctets (n / 128) ++ [n % 128]) := by
  simp [identOctets, h]

/-- first identifier octet -/
def identHead (c : Nat) (k : Bool) (n : Nat) : Nat :=
  c * 64 + (if k = true then 32 else 0) + (if n ≤ 30 then n else 31)

/-- the P/C bit shows in the first identifier octet only -/
theorem identOctets_head (c n : Nat) : ∃ tl, ∀ k, identOctets c k n = identHead c k n :: tl := by
  unfold identHead
  by_cases h : n ≤ 30
  · exact ⟨[], fun k => by rw [identOctets_short h, if_pos h]⟩
  · exact ⟨_, fun k => by rw [identOctets_long h, if_neg h]⟩

theorem identHead_constr (c : Nat) (k : Bool) (n : Nat) : (identHead c k n / 32 % 2 == 1) = k := by
  have : (if n ≤ 30 then n else 31) < 32 := by split <;> omega
  unfold identHead
  generalize (if n ≤ 30 then n else 31) = m at this
  cases k <;> simp <;> omega

theorem identHead_ne_zero (c : Nat) (k : Bool) (n : Nat) (h : tagOk c n = true) : identHead c k n ≠ 0 := by
  rw [tagOk_iff] at h
  unfold identHead
  by_cases hn : n ≤ 30
  · rw [if_pos hn]; omega
  · rw [if_neg hn]; omega

theorem identOctets_length_pos (c : Nat) (k : Bool) (n : Nat) : 0 < (identOctets c k n).length := by
  obtain ⟨tl, h⟩ := identOctets_head c n
  rw [h]; exact Nat.succ_pos _

theorem identOctets_length_constr (c n : Nat) :
    (identOctets c true n).length = (identOctets c false n).length := by
  obtain ⟨tl, h⟩ := identOctets_head c n
  rw [h, h]; rfl

theorem contOctets_length_le (k m : Nat) (h : m < 128 ^ k) : (contOctets m).length ≤ k :=
  contOctets_eq ▸ Oid.base128hi_length_le k m h

/-- a tag number below `2^30` (the width of `ber_tlv_tag_t`) takes at most six identifier octets -/
theorem identOctets_length_le (c : Nat) (k : Bool) (n : Nat) (hn : n < 2 ^ 30) :
    (identOctets c k n).length ≤ 6 := by
  by_cases h : n ≤ 30
  · rw [identOctets_short h]; exact (by decide : 1 ≤ 6)
  · have := contOctets_length_le 4 (n / 128) (by omega)
    rw [identOctets_long h]
    simp only [List.length_cons, List.length_append, List.length_nil]
    omega

open Asn1c.Spec.Oid in
theorem fetchTag_ident_list (c : Nat) (k : Bool) (n : Nat) (rest : Bytes) (hn : n < 2 ^ 30) :
    Impl.BerTlv.fetchTag (identOctets c k n ++ rest) = .ok ⟨c, n⟩ (identOctets c k n).length := by
  have hpc : (if k = true then 32 else 0) = 0 ∨ (if k = true then 32 else 0) = 32 := by
    cases k <;> simp
  by_cases h : n ≤ 30
  · rw [identOctets_short h]
    generalize (if k = true then 32 else 0) = pc at hpc
    rw [List.singleton_append, Impl.BerTlv.fetchTag, if_pos (by omega)]
    congr 2 <;> omega
  · rw [identOctets_long h, contOctets_eq]
    generalize (if k = true then 32 else 0) = pc at hpc
    rw [show base128hi (n / 128) ++ [n % 128] = base128 n from rfl,
      BerTlv.fetchTag_long (c * 64 + pc + 31) n rest (by omega) hn, List.length_cons]
    congr 2; omega

/-- `ber_fetch_tag` on a buffer that starts with a complete identifier -/
theorem fetchTag_ident (c : Nat) (k : Bool) (n : Nat) (rest : Bytes) (hn : n < 2 ^ 30) :
    fetchTag (identOctets c k n ++ rest) (identOctets c k n ++ rest).length
      = .ok (tagOf c n) (identOctets c k n).length := by
  rw [fetchTag_eq, fetchTag_ident_list c k n _ hn]
  simp only [ofBer, tagWord, tagOf]
  congr 1; omega

theorem lenOctets_length (lf : LenForm) (n : Nat) :
    (lenOctets lf n).length = match lf with | .short => 1 | .long k => k + 1 := by
  cases lf <;> simp [lenOctets, Integer.toBEn_length]

theorem lenOctets_minimal_le (lf : LenForm) (v : Nat) (hmin : lf.minimal v = true) (hv : v < 2 ^ 62) :
    1 ≤ (lenOctets lf v).length ∧ (lenOctets lf v).length ≤ 9 := by
  rw [lenOctets_length]
  cases lf with
  | short => exact ⟨Nat.le_refl _, by decide⟩
  | long k =>
    simp only [LenForm.minimal, Bool.and_eq_true, decide_eq_true_eq] at hmin
    have : k - 1 < 8 :=
      (Nat.pow_lt_pow_iff_right (by decide)).1 (Nat.lt_of_le_of_lt hmin.1.2 (by omega))
    exact ⟨Nat.le_add_left 1 k, Nat.succ_le_succ (by omega)⟩

theorem fetchLength_lenOctets_list (lf : LenForm) (n : Nat) (c : Bool) (rest : Bytes)
    (hv : lf.valid n = true) (hn : n < 2 ^ 62) :
    Impl.BerTlv.fetchLength c (lenOctets lf n ++ rest) = .ok (Int.ofNat n) (lenOctets lf n).length := by
  cases lf with
  | short =>
    simp only [LenForm.valid, decide_eq_true_eq] at hv
    simp only [lenOctets, List.cons_append, List.nil_append, Impl.BerTlv.fetchLength, if_pos (Nat.lt_succ_of_le hv)]
    rfl
  | long k =>
    simp only [LenForm.valid, Bool.and_eq_true, decide_eq_true_eq] at hv
    have e : ofBE 0 (toBEn k n) = n := Integer.ofBE_toBEn_lt hv.2
    have := BerTlv.fetchLength_digits c (toBEn k n) rest (by rw [Integer.toBEn_length]; exact hv.1.1)
      (by rw [Integer.toBEn_length]; exact hv.1.2) (by omega)
    rw [Integer.toBEn_length, e] at this
    rw [lenOctets, this, List.length_cons, Integer.toBEn_length]; rfl

/-- `ber_fetch_length` on a buffer that starts with a complete definite length field -/
theorem fetchLength_lenOctets (lf : LenForm) (n : Nat) (constr : Bool) (rest : Bytes)
    (hv : lf.valid n = true) (hn : n < 2 ^ 62) :
    fetchLength constr (lenOctets lf n ++ rest) (lenOctets lf n ++ rest).length
      = .ok (Int.ofNat n) (lenOctets lf n).length := by
  rw [fetchLength_eq, fetchLength_lenOctets_list lf n constr _ hv hn]; rfl

/-- the indefinite form `80` of a constructed TLV -/
theorem fetchLength_indef (rest : Bytes) (size : Nat) (hs : 1 ≤ size) :
    fetchLength true (128 :: rest) size = .ok (-1) 1 := by
  simp only [fetchLength]
  rw [if_neg (by omega), if_neg (by omega)]
  simp

theorem tagGroupOctets_eq (k n : Nat) : tagGroupOctets k n = Impl.BerTlv.tagGroupOctets k n := by
  fun_induction tagGroupOctets k n with
  | case1 => rfl
  | case2 => rfl
  | case3 k n ih => rw [Impl.BerTlv.tagGroupOctets, ih]

theorem lenRequired_spec (n : Nat) (h64 : n < 2 ^ 64) (h1 : 1 ≤ n) :
    ∃ k, 256 ^ k ≤ n ∧ n < 256 ^ (k + 1) ∧ lenRequired n = k + 1 :=
  BerTlv.lenOctets_spec n h64 h1

open Asn1c.Spec.Oid in
/-- `ber_tlv_tag_serialize` produces the X.690 identifier octets (P/C bit clear) -/
theorem tagSerialize_ident (c n : Nat) (hc : c < 4) (hn : n < 2 ^ 30) :
    tagSerialize (n * 4 + c) 32 = (identOctets c false n, (identOctets c false n).length) := by
  unfold tagSerialize tagClass tagValue
  have e1 : (n * 4 + c) % 4 = c := by omega
  have e2 : (n * 4 + c) / 4 = n := by omega
  simp only [e1, e2]
  by_cases h : n ≤ 30
  · rw [identOctets_short h, if_pos h]; simp
  · obtain ⟨k, hlo, hhi, hk⟩ := BerTlv.tagGroups_spec n (by omega) (by omega)
    have hk5 : k < 5 := (Nat.pow_lt_pow_iff_right (by decide)).1 (Nat.lt_of_le_of_lt hlo (by omega))
    have hreq : tagRequired n = k + 1 := hk
    have hlen : (base128 n).length = k + 1 := by
      rw [← BerTlv.tagGroupOctets_eq_base128 n (by omega), hk, BerTlv.tagGroupOctets_succ, List.length_append,
        BerTlv.contGroups_length]
      rfl
    rw [identOctets_long h, contOctets_eq, show base128hi (n / 128) ++ [n % 128] = base128 n from rfl, if_neg h,
      hreq, if_neg (by omega), tagGroupOctets_eq, ← hk, BerTlv.tagGroupOctets_eq_base128 n (by omega)]
    simp [hlen, hk]

theorem lenSerialize_eq (n size : Nat) (hs : 10 ≤ size) :
    lenSerialize n size = (Impl.BerTlv.lenSerialize n, (Impl.BerTlv.lenSerialize n).length) := by
  have := BerTlv.lenOctets_le n
  rw [BerTlv.lenSerialize_length]
  unfold lenSerialize Impl.BerTlv.lenSerialize
  by_cases h : n ≤ 127
  · rw [if_pos h, if_pos h, if_pos h, if_pos (by omega)]
  · rw [if_neg h, if_neg h, if_neg h]
    exact (if_neg (by omega : ¬ size ≤ Impl.BerTlv.lenOctets n)).trans (by rw [Nat.add_comm 1]; rfl)

/-- `der_tlv_length_serialize` produces the minimal form of the length octets -/
theorem lenSerialize_minimal (lf : LenForm) (n size : Nat) (hmin : lf.minimal n = true) (hn : n < 2 ^ 62)
    (hs : 10 ≤ size) :
    lenSerialize n size = (lenOctets lf n, (lenOctets lf n).length) := by
  suffices Impl.BerTlv.lenSerialize n = lenOctets lf n by rw [lenSerialize_eq n size hs, this]
  unfold Impl.BerTlv.lenSerialize
  cases lf with
  | short =>
    simp only [LenForm.minimal, decide_eq_true_eq] at hmin
    rw [if_pos hmin]; rfl
  | long k =>
    simp only [LenForm.minimal, Bool.and_eq_true, decide_eq_true_eq] at hmin
    obtain ⟨⟨h128, hlo⟩, hhi⟩ := hmin
    obtain ⟨k', hlo', hhi', hk'⟩ := BerTlv.lenOctets_spec n (by omega) (by omega)
    -- `256 ^ (k - 1) ≤ n < 256 ^ (k' + 1)` and `256 ^ k' ≤ n < 256 ^ k`
    have h1 := (Nat.pow_lt_pow_iff_right (by decide)).1 (Nat.lt_of_le_of_lt hlo hhi')
    have h2 := (Nat.pow_lt_pow_iff_right (by decide)).1 (Nat.lt_of_le_of_lt hlo' hhi)
    rw [if_neg (by omega), show Impl.BerTlv.lenOctets n = k by omega]; rfl

end Asn1c.Proofs.UnberTlv

/- A TLV seen as header ++ body.  These are proof-side functions (they live in the namespace of `Tlv` only for the
dot notation): `hdr` is what `process_deeper` collects in `tagbuf`, `tag`, `len`, `constr` are what the TL decoders
report for it, `body` is what the loop meets behind it.  Proofs over `Tlv` use them through `encode_eq`, `hdr_length`
and the `children` lemmas, and unfold them only once the constructor is known. -/
namespace Asn1c.Spec.TlvForest.Tlv
open Asn1c Asn1c.Spec.TlvForest

/-- identifier and length octets (proof-side view) -/
def hdr : Tlv → Bytes
  | .prim c n lf content => identOctets c false n ++ lenOctets lf content.length
  | .cons c n lf ch => identOctets c true n ++ lenOctets lf (encodeList ch).length
  | .indef c n _ => identOctets c true n ++ [128]

/-- what follows the header: the contents, and for the indefinite form the end-of-contents octets (proof-side view) -/
def body : Tlv → Bytes
  | .prim _ _ _ content => content
  | .cons _ _ _ ch => encodeList ch
  | .indef _ _ ch => encodeList ch ++ [0, 0]

/-- the tag as `ber_fetch_tag` reports it (proof-side view) -/
def tag : Tlv → Nat
  | .prim c n _ _ | .cons c n _ _ | .indef c n _ => tagOf c n

/-- `BER_TLV_CONSTRUCTED` of the first identifier octet (proof-side view) -/
def constr : Tlv → Bool
  | .prim .. => false
  | _ => true

/-- the length as `ber_fetch_length` reports it, `-1` for the indefinite form (proof-side view) -/
def len : Tlv → Int
  | .prim _ _ _ content => content.length
  | .cons _ _ _ ch => (encodeList ch).length
  | .indef .. => -1

/-- the members of a constructed TLV (proof-side view) -/
def children : Tlv → List Tlv
  | .prim .. => []
  | .cons _ _ _ ch | .indef _ _ ch => ch

theorem encode_eq (t : Tlv) : t.encode = t.hdr ++ t.body := by
  cases t <;> simp [Tlv.encode, hdr, body]

theorem hdr_length (t : Tlv) : t.hdr.length = t.headerLen := by
  cases t <;> simp [Tlv.headerLen, hdr]

theorem wf_children {t : Tlv} (h : t.wf = true) : wfList t.children = true := by
  cases t with
  | prim => rfl
  | cons | indef => rw [Tlv.wf, Bool.and_eq_true] at h; exact h.2

theorem inDomain_children {t : Tlv} (h : t.inDomain = true) : inDomainList t.children = true := by
  cases t with
  | prim => rfl
  | cons | indef => rw [Tlv.inDomain, Bool.and_eq_true] at h; exact h.2

theorem minimal_children {t : Tlv} (h : t.minimalLengths = true) : minimalList t.children = true := by
  cases t with
  | prim => rfl
  | cons => rw [Tlv.minimalLengths, Bool.and_eq_true] at h; exact h.2
  | indef => exact h

end Asn1c.Spec.TlvForest.Tlv
