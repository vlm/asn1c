import Asn1cModel.L2.Uper
/-
  The simplest defining equation of each function of the reference UPER codec (`L2/Uper.lean`): NULL for `encUPER`
  and `decUPER`, the empty list or the first alternative for the list functions.  They stand upstream of the proofs
  because Lean derives a definition's equation lemmas when they are first asked for, and inside the module that
  asks first every proof pays for that again; asked here once, the modules downstream find them ready.
-/
namespace Asn1c.Proofs.L2Uper
open Asn1c Asn1c.L2

theorem enc_null : encUPER .null .null = some [] := by rw [encUPER]

theorem dec_null (bs : Bits) : decUPER .null bs = some (.null, bs) := by rw [decUPER]

theorem encRoot_nil (as : List Attr) (vs : List Val) : encRoot [] as vs = some ([], [], vs) := by rw [encRoot]

theorem encAdds_nil (as : List Attr) : encAdds [] as [] = some ([], []) := by rw [encAdds]

theorem encAlt_zero (a : PTy) (as : List PTy) (v : Val) : encAlt (a :: as) 0 v = encUPER a v := by rw [encAlt]

theorem encList_nil (e : PTy) : encList e [] = some [] := by rw [encList]

theorem decRoot_nil (as : List Attr) (pres bs : Bits) : decRoot [] as pres bs = some ([], bs) := by rw [decRoot]

theorem decAdds_nil (bitmap : List Bool) (bs : Bits) :
    decAdds [] bitmap bs = (skipOpen bitmap bs).map fun r => ([], r) := by rw [decAdds]

theorem decAlt_zero (a : PTy) (as : List PTy) (bs : Bits) : decAlt (a :: as) 0 bs = decUPER a bs := by rw [decAlt]

end Asn1c.Proofs.L2Uper
