import Asn1cModel.Impl.Lifecycle
/-
  Lemmas for Props/C14.lean about the ownership model of Impl/Lifecycle.lean.

  Lists of block ids are compared as multisets (`List.Perm`).  The invariant is carried in the form
  `Framed st rest`: the live blocks are, as a multiset, the blocks the structure references plus `rest`.
  `Owned` is `∃ rest, Framed st rest`, `Exact` is `Framed st []`, and a step preserves `Framed st rest`
  for every `rest`: it never touches a block the structure does not reference.
-/
namespace Asn1c.Proofs.Lifecycle
open Asn1c.Impl.Lifecycle Asn1c.Impl.Lifecycle.Tree
open List

theorem alloc_eq_some {h h' : Heap} {i sz : Nat} (e : h.alloc i sz = some h') :
    i ∉ h.live ∧ h'.live = i :: h.live := by
  revert e
  fun_cases Heap.alloc h i sz <;> rintro ⟨⟩
  exact ⟨‹_›, rfl⟩

theorem alloc_ok {h : Heap} {i sz : Nat} (hi : i ∉ h.live) : ∃ h', h.alloc i sz = some h' :=
  ⟨_, if_neg hi⟩

theorem alloc_nodup {h h' : Heap} {i sz : Nat} (e : h.alloc i sz = some h') (nd : h.live.Nodup) :
    h'.live.Nodup :=
  (alloc_eq_some e).2 ▸ nodup_cons.mpr ⟨(alloc_eq_some e).1, nd⟩

theorem free_ok {h : Heap} {i : Nat} (hi : i ∈ h.live) : ∃ h', h.free i = some h' :=
  ⟨_, if_pos hi⟩

theorem free_eq_some {h h' : Heap} {i : Nat} (e : h.free i = some h') :
    i ∈ h.live ∧ h'.live = h.live.erase i := by
  revert e
  fun_cases Heap.free h i <;> rintro ⟨⟩
  exact ⟨‹_›, rfl⟩

theorem free_perm {h h' : Heap} {i : Nat} (e : h.free i = some h') : h.live.Perm (i :: h'.live) :=
  (free_eq_some e).2 ▸ perm_cons_erase (free_eq_some e).1

theorem free_nodup {h h' : Heap} {i : Nat} (e : h.free i = some h') (nd : h.live.Nodup) :
    i ∉ h'.live ∧ h'.live.Nodup :=
  nodup_cons.mp ((free_perm e).nodup nd)

theorem freeAll_spec : ∀ (ids : List Id) {h : Heap} {rest : List Id}, h.live.Perm (ids ++ rest) →
    ∃ h', h.freeAll ids = some h' ∧ h'.live.Perm rest
  | [], h, _, pm => ⟨h, rfl, pm⟩
  | a :: r, _, _, pm => by
    obtain ⟨h1, hf⟩ := free_ok (pm.mem_iff.mpr (mem_cons_self ..))
    obtain ⟨h2, e2, p2⟩ := freeAll_spec r ((free_perm hf).symm.trans pm).cons_inv
    exact ⟨h2, by rw [Heap.freeAll, hf]; exact e2, p2⟩

theorem allocAll_perm : ∀ (as : List (Id × Nat)) {h h' : Heap}, h.allocAll as = some h' →
    h.live.Nodup → h'.live.Nodup ∧ h'.live.Perm (as.map Prod.fst ++ h.live)
  | [], _, _, e, nd => by cases e; exact ⟨nd, .refl _⟩
  | (a, sz) :: r, _, _, e, nd => by
    obtain ⟨h1, hf, e1⟩ := Option.bind_eq_some_iff.mp e
    obtain ⟨nd', pm⟩ := allocAll_perm r e1 (alloc_nodup hf nd)
    exact ⟨nd', ((alloc_eq_some hf).2 ▸ pm).trans perm_middle⟩

mutual
theorem frees_perm_owned : ∀ t : Tree, wf t = true → (frees t).Perm (owned t)
  | .native, _ => .refl _
  | .null, _ => .refl _
  | .prim _, _ => .refl _
  -- `wf` rules out a `_stack_el` chain without a `_stack`, which `OCTET_STRING_free` would not visit
  | .ostr b none [], _ => .of_eq (append_nil _).symm
  | .ostr b (some sid) els, _ => (perm_append_comm.append_left _).trans (.of_eq (append_assoc ..).symm)
  | .seq c ms, w => (freesL_perm_ownedL ms w).append_right _
  | .set ms, w => freesL_perm_ownedL ms w
  | .choice n p m, w => by
    obtain ⟨wm, wp⟩ := Bool.and_eq_true_iff.mp w
    rw [frees]
    split
    · exact frees_perm_owned m wm
    · simp only [Bool.or_eq_true, Bool.and_eq_true, decide_eq_true_eq, isEmpty_iff] at wp
      exact .of_eq (wp.resolve_left ‹_›).symm
  | .setof a cx es, w =>
    have ⟨w1, w2⟩ := Bool.and_eq_true_iff.mp w
    ((freesL_perm_ownedL es w2).append_right _).append (frees_perm_owned cx w1)
  | .boxed b t, w => (frees_perm_owned t w).append_right _
theorem freesL_perm_ownedL : ∀ ts : List Tree, wfL ts = true → (freesL ts).Perm (ownedL ts)
  | [], _ => .refl _
  | t :: ts, w =>
    have ⟨w1, w2⟩ := Bool.and_eq_true_iff.mp w
    (frees_perm_owned t w1).append (freesL_perm_ownedL ts w2)
end

mutual
theorem owned_zero : ∀ t : Tree, owned (zero t) = []
  | .native | .null | .prim _ | .ostr _ _ _ | .choice _ _ _ | .setof _ _ _ | .boxed _ _ => rfl
  | .seq _ ms => congrArg (· ++ []) (ownedL_zeroL ms)
  | .set ms => ownedL_zeroL ms
theorem ownedL_zeroL : ∀ ts : List Tree, ownedL (zeroL ts) = []
  | [] => rfl
  | t :: ts => append_eq_nil_iff.mpr ⟨owned_zero t, ownedL_zeroL ts⟩
end

mutual
theorem isZero_zero : ∀ t : Tree, isZero (zero t) = true
  | .native | .null | .prim _ | .ostr _ _ _ | .choice _ _ _ | .setof _ _ _ | .boxed _ _ => rfl
  | .seq _ ms => isZeroL_zeroL ms
  | .set ms => isZeroL_zeroL ms
theorem isZeroL_zeroL : ∀ ts : List Tree, isZeroL (zeroL ts) = true
  | [] => rfl
  | t :: ts => Bool.and_eq_true_iff.mpr ⟨isZero_zero t, isZeroL_zeroL ts⟩
end

mutual
theorem wf_zero : ∀ t : Tree, wf (zero t) = true
  | .native | .null | .prim _ | .ostr _ _ _ | .choice _ _ _ | .setof _ _ _ | .boxed _ _ => rfl
  | .seq _ ms => wfL_zeroL ms
  | .set ms => wfL_zeroL ms
theorem wfL_zeroL : ∀ ts : List Tree, wfL (zeroL ts) = true
  | [] => rfl
  | t :: ts => Bool.and_eq_true_iff.mpr ⟨wf_zero t, wfL_zeroL ts⟩
end

mutual
/-- an all-zero structure is a fixed point of the memset -/
theorem zero_of_isZero : ∀ t : Tree, isZero t = true → zero t = t
  -- the all-zero shapes; on every other shape `isZero` evaluates to `false`
  | .native, _ | .null, _ | .prim none, _ | .ostr none none [], _ | .choice _ 0 .native, _
  | .setof none .null [], _ => rfl
  | .seq none ms, h => congrArg (Tree.seq none) (zeroL_of_isZeroL ms h)
  | .set ms, h => congrArg Tree.set (zeroL_of_isZeroL ms h)
theorem zeroL_of_isZeroL : ∀ ts : List Tree, isZeroL ts = true → zeroL ts = ts
  | [], _ => rfl
  | t :: ts, h => by
    obtain ⟨h1, h2⟩ := Bool.and_eq_true_iff.mp h
    rw [zeroL, zero_of_isZero t h1, zeroL_of_isZeroL ts h2]
end

theorem zero_idem (t : Tree) : zero (zero t) = zero t := zero_of_isZero _ (isZero_zero t)

theorem frees_zero (t : Tree) : frees (zero t) = [] :=
  (owned_zero t ▸ frees_perm_owned (zero t) (wf_zero t)).eq_nil

theorem ownedL_append : ∀ (a b : List Tree), ownedL (a ++ b) = ownedL a ++ ownedL b
  | [], _ => rfl
  | t :: a, b => (congrArg (owned t ++ ·) (ownedL_append a b)).trans (append_assoc ..).symm

theorem wfL_append : ∀ (a b : List Tree), wfL (a ++ b) = (wfL a && wfL b)
  | [], _ => rfl
  | t :: a, b => (congrArg (wf t && ·) (wfL_append a b)).trans (Bool.and_assoc ..).symm

/-! Replacing one member, one child, the subtree at a path.  Each of the next three lemmas says, of a
  consistent structure and the part `c` at the given position: `c` is consistent; the rest of the
  structure contributes a fixed multiset `rest` to what is referenced, whatever is put in place of `c`;
  and putting a consistent `c'` there gives a consistent structure (below a CHOICE only if its `present`
  is valid). -/

theorem set_frame : ∀ (ms : List Tree) (i : Nat) {c : Tree}, ms[i]? = some c → wfL ms = true →
    wf c = true ∧ ∃ rest, (ownedL ms).Perm (owned c ++ rest) ∧
      ∀ c', (ownedL (ms.set i c')).Perm (owned c' ++ rest) ∧ (wf c' = true → wfL (ms.set i c') = true)
  | t :: ts, 0, c, h, w => by
    obtain ⟨w1, w2⟩ := Bool.and_eq_true_iff.mp w
    cases h
    exact ⟨w1, ownedL ts, .refl _, fun c' => ⟨.refl _, fun w' => Bool.and_eq_true_iff.mpr ⟨w', w2⟩⟩⟩
  | t :: ts, i + 1, c, h, w => by
    obtain ⟨w1, w2⟩ := Bool.and_eq_true_iff.mp w
    obtain ⟨wc, rest, p1, p2⟩ := set_frame ts i (c := c) h w2
    exact ⟨wc, owned t ++ rest, (p1.append_left _).trans (perm_append_comm_assoc ..), fun c' =>
      ⟨((p2 c').1.append_left _).trans (perm_append_comm_assoc ..),
        fun w' => Bool.and_eq_true_iff.mpr ⟨w1, (p2 c').2 w'⟩⟩⟩

theorem setChild_frame {t c : Tree} {i : Nat} (h : child? t i = some c) (w : wf t = true) :
    wf c = true ∧ ∃ rest, (owned t).Perm (owned c ++ rest) ∧
      ∀ c', (owned (setChild t i c')).Perm (owned c' ++ rest) ∧
        (wf c' = true → choiceLive t = true → wf (setChild t i c') = true) := by
  cases t with
  | native | null | prim | ostr => cases h
  | seq cx ms =>
    obtain ⟨wc, rest, p1, p2⟩ := set_frame ms i h w
    exact ⟨wc, rest ++ cx.toList, append_assoc .. ▸ p1.append_right cx.toList, fun c' =>
      ⟨append_assoc .. ▸ (p2 c').1.append_right cx.toList, fun w' _ => (p2 c').2 w'⟩⟩
  | set ms =>
    obtain ⟨wc, rest, p1, p2⟩ := set_frame ms i h w
    exact ⟨wc, rest, p1, fun c' => ⟨(p2 c').1, fun w' _ => (p2 c').2 w'⟩⟩
  | choice n p m =>
    cases h
    exact ⟨(Bool.and_eq_true_iff.mp w).1, [], .of_eq (append_nil _).symm, fun c' =>
      ⟨.of_eq (append_nil _).symm, fun w' lv =>
        Bool.and_eq_true_iff.mpr ⟨w', Bool.or_eq_true_iff.mpr (.inl lv)⟩⟩⟩
  | boxed b x =>
    cases h
    exact ⟨w, [b], .refl _, fun c' => ⟨.refl _, fun w' _ => w'⟩⟩
  | setof a cx es =>
    obtain ⟨w1, w2⟩ := Bool.and_eq_true_iff.mp w
    cases i with
    | zero =>
      cases h
      exact ⟨w1, ownedL es ++ a.toList, perm_append_comm, fun c' =>
        ⟨perm_append_comm, fun w' _ => Bool.and_eq_true_iff.mpr ⟨w', w2⟩⟩⟩
    | succ j =>
      obtain ⟨wc, rest, p1, p2⟩ := set_frame es j h w2
      refine ⟨wc, rest ++ (a.toList ++ owned cx), ?_, fun c' =>
        ⟨?_, fun w' _ => Bool.and_eq_true_iff.mpr ⟨w1, (p2 c').2 w'⟩⟩⟩
      · exact append_assoc .. ▸ append_assoc .. ▸ (p1.append_right a.toList).append_right (owned cx)
      · exact append_assoc .. ▸ append_assoc .. ▸ ((p2 c').1.append_right a.toList).append_right (owned cx)

theorem replaceAt_frame : ∀ (p : List Nat) {t s : Tree}, subtreeAt p t = some s → wf t = true →
    wf s = true ∧ ∃ rest, (owned t).Perm (owned s ++ rest) ∧
      ∀ s', (owned (replaceAt p s' t)).Perm (owned s' ++ rest) ∧
        (wf s' = true → livePath p t = true → wf (replaceAt p s' t) = true)
  | [], _, _, h, w => by
    cases h
    exact ⟨w, [], .of_eq (append_nil _).symm, fun s' => ⟨.of_eq (append_nil _).symm, fun w' _ => w'⟩⟩
  | i :: p, t, s, h, w => by
    obtain ⟨c, hc, hs⟩ := Option.bind_eq_some_iff.mp h
    obtain ⟨wc, r1, a1, a2⟩ := setChild_frame hc w
    obtain ⟨ws, r2, b1, b2⟩ := replaceAt_frame p hs wc
    refine ⟨ws, r2 ++ r1, ?_, fun s' => ?_⟩
    · exact a1.trans (append_assoc .. ▸ b1.append_right r1)
    · simp only [replaceAt, livePath, hc, Bool.and_eq_true]
      exact ⟨(a2 _).1.trans (append_assoc .. ▸ (b2 s').1.append_right r1),
        fun w' lp => (a2 _).2 ((b2 s').2 w' lp.2) lp.1⟩

/-! Replacing the `buf` / `ctx->ptr` field of a node: the new block is referenced instead of the old one. -/

theorem owned_ostr_buf {x b s : Option Id} {els : List Id} :
    (owned (.ostr x s els) ++ b.toList).Perm (x.toList ++ owned (.ostr b s els)) := by
  simp only [owned, append_assoc]
  exact .append_left _ ((Perm.of_eq (append_assoc ..).symm).trans perm_append_comm)

theorem owned_seq_ctx {x c : Option Id} {ms : List Tree} :
    (owned (.seq x ms) ++ c.toList).Perm (x.toList ++ owned (.seq c ms)) :=
  (perm_append_comm.append_right _).trans (.of_eq (append_assoc ..))

/-- What an executable edit does to its node: referenced-after + released = allocated +
  referenced-before; consistency is kept (given the side condition `localOK`); a pointer slot stays
  a pointer slot. -/
theorem applyEdit_spec {e : Edit} {s : Tree} {o : EditOut} (h : applyEdit e s = some o) :
    (wf s = true → (owned o.node ++ o.rel).Perm (o.allocs.map Prod.fst ++ owned s) ∧
      (localOK e s = true → wf o.node = true)) ∧ (isPtr s = true → isPtr o.node = true) := by
  revert h
  fun_cases applyEdit e s <;> rintro ⟨⟩
  next id sz fresh hc =>  -- box on a NULL slot
    rw [Bool.and_eq_true, isEmpty_iff] at hc
    exact ⟨fun _ => ⟨by simp [owned, hc.1], fun _ => hc.2⟩, fun _ => rfl⟩
  next =>  -- setBuf
    cases Option.eq_none_of_isNone ‹_›
    exact ⟨fun _ => ⟨.refl _, fun _ => rfl⟩, nofun⟩
  next =>  -- setBuf, OCTET STRING
    cases Option.eq_none_of_isNone ‹_›
    exact ⟨fun w => ⟨owned_ostr_buf (b := none), fun _ => w⟩, nofun⟩
  next =>  -- reallocBuf
    exact ⟨fun _ => ⟨.refl _, fun _ => rfl⟩, nofun⟩
  next =>  -- reallocBuf, OCTET STRING
    exact ⟨fun w => ⟨owned_ostr_buf, fun _ => w⟩, nofun⟩
  next =>  -- freeBuf
    exact ⟨fun _ => ⟨.refl _, fun _ => rfl⟩, nofun⟩
  next =>  -- freeBuf, OCTET STRING
    exact ⟨fun w => ⟨owned_ostr_buf, fun _ => w⟩, nofun⟩
  next id sz b s els hc =>  -- newStack
    rw [Bool.and_eq_true, Option.isNone_iff_eq_none, isEmpty_iff] at hc
    obtain ⟨rfl, rfl⟩ := hc
    exact ⟨fun _ => ⟨by simp [owned], fun _ => rfl⟩, nofun⟩
  next id sz b s els hs =>  -- pushEl
    exact ⟨fun _ => ⟨(Perm.of_eq (append_nil _)).trans perm_middle,
      fun _ => Bool.or_eq_true_iff.mpr (.inl hs)⟩, nofun⟩
  next =>  -- setCtx
    cases Option.eq_none_of_isNone ‹_›
    exact ⟨fun w => ⟨owned_seq_ctx (c := none), fun _ => w⟩, nofun⟩
  next =>  -- swapCtx
    exact ⟨fun w => ⟨owned_seq_ctx, fun _ => w⟩, nofun⟩
  next =>  -- setPresent
    exact ⟨fun w => ⟨.of_eq (append_nil _), fun lk =>
      Bool.and_eq_true_iff.mpr ⟨(Bool.and_eq_true_iff.mp w).1, lk⟩⟩, nofun⟩
  next =>  -- growArray
    refine ⟨fun w => ⟨?_, fun _ => w⟩, nofun⟩
    simp only [owned, append_assoc]
    exact (perm_append_comm_assoc ..).trans ((perm_append_comm.append_left _).append_left _)
  next _ es _ _ _ =>  -- addElem
    refine ⟨fun w => ⟨?_, fun _ => ?_⟩, nofun⟩
    · simp only [owned, ownedL_append, ownedL, append_nil, append_assoc]
      exact .append_left _ ((Perm.of_eq (append_assoc ..).symm).trans perm_append_comm)
    · obtain ⟨w1, w2⟩ := Bool.and_eq_true_iff.mp w
      exact (wfL_append es _).trans (Bool.and_eq_true_iff.mpr ⟨w2, Bool.and_eq_true_iff.mpr ⟨w1, rfl⟩⟩)
  next =>  -- freeSlot
    exact ⟨fun w => ⟨frees_perm_owned _ w, fun _ => rfl⟩, fun _ => rfl⟩
  next =>  -- freeSlot on a NULL slot
    exact ⟨fun _ => ⟨.refl _, fun _ => rfl⟩, fun _ => rfl⟩
  next hs =>  -- resetNode
    refine ⟨fun w => ⟨?_, fun _ => wf_zero s⟩, fun hp => ?_⟩
    · rw [owned_zero]
      exact frees_perm_owned s w
    · cases s with
      | null => rfl
      | boxed b x => exact (hs b x rfl).elim
      | _ => cases hp

theorem step_eq_some_iff {p : List Nat} {e : Edit} {st st' : State} :
    step p e st = some st' ↔
      ∃ s o h1, subtreeAt p st.root = some s ∧ applyEdit e s = some o ∧ st.heap.allocAll o.allocs = some h1 ∧
        h1.freeAll o.rel = some st'.heap ∧ st'.root = replaceAt p o.node st.root := by
  constructor
  · fun_cases step p e st <;> rintro ⟨⟩
    exact ⟨_, _, _, ‹_›, ‹_›, ‹_›, ‹_›, rfl⟩
  · rintro ⟨s, o, h1, hsub, ho, ha, hf, hr⟩
    simp only [step, hsub, ho, ha, hf, ← hr]

/-- What a step does to the structure.  The bookkeeping identity: blocks referenced afterwards + blocks
  released = blocks allocated + blocks referenced before; and a step taken at a live path that respects
  the side condition keeps the structure consistent. -/
theorem step_owned {p : List Nat} {e : Edit} {t s : Tree} {o : EditOut}
    (w : wf t = true) (hsub : subtreeAt p t = some s) (ho : applyEdit e s = some o) :
    (owned (replaceAt p o.node t) ++ o.rel).Perm (o.allocs.map Prod.fst ++ owned t) ∧
      (livePath p t = true → localOK e s = true → wf (replaceAt p o.node t) = true) := by
  obtain ⟨ws, rest, p1, p2⟩ := replaceAt_frame p hsub w
  obtain ⟨pe, we⟩ := (applyEdit_spec ho).1 ws
  refine ⟨?_, fun lp lk => (p2 o.node).2 (we lk) lp⟩
  calc owned (replaceAt p o.node t) ++ o.rel
    _ ~ owned o.node ++ rest ++ o.rel := (p2 o.node).1.append_right _
    _ ~ owned o.node ++ o.rel ++ rest := by
      rw [append_assoc, append_assoc]; exact perm_append_comm.append_left _
    _ ~ o.allocs.map Prod.fst ++ owned s ++ rest := pe.append_right _
    _ ~ o.allocs.map Prod.fst ++ owned t := by
      rw [append_assoc]; exact p1.symm.append_left _

/-- the live blocks are distinct and are, as a multiset, those the consistent structure references
  and `rest` -/
structure Framed (st : State) (rest : List Id) : Prop where
  nodup : st.heap.live.Nodup
  wf : wf st.root = true
  perm : st.heap.live.Perm (owned st.root ++ rest)

theorem exists_perm_append : ∀ {l₁ l₂ : List Id}, l₁.Nodup → (∀ i ∈ l₁, i ∈ l₂) →
    ∃ rest, l₂.Perm (l₁ ++ rest)
  | [], l₂, _, _ => ⟨l₂, .refl _⟩
  | a :: r, l₂, nd, sub => by
    obtain ⟨ha, ndr⟩ := nodup_cons.mp nd
    obtain ⟨rest, pm⟩ := exists_perm_append (l₂ := l₂.erase a) ndr fun i hi =>
      (mem_erase_of_ne (by rintro rfl; exact ha hi)).mpr (sub i (mem_cons_of_mem _ hi))
    exact ⟨rest, (perm_cons_erase (sub a (mem_cons_self ..))).trans (pm.cons a)⟩

theorem owned_iff {st : State} : Owned st ↔ ∃ rest, Framed st rest := by
  constructor
  · rintro ⟨ndl, ndo, sub, w⟩
    obtain ⟨rest, pm⟩ := exists_perm_append ndo sub
    exact ⟨rest, ndl, w, pm⟩
  · rintro ⟨rest, F⟩
    exact ⟨F.nodup, (nodup_append.mp (F.perm.nodup F.nodup)).1,
      fun i hi => F.perm.mem_iff.mpr (mem_append_left _ hi), F.wf⟩

theorem exact_iff {st : State} : Exact st ↔ Framed st [] := by
  constructor
  · rintro ⟨⟨ndl, ndo, sub, w⟩, ex⟩
    rw [← append_nil (owned st.root)] at ndo
    exact ⟨ndl, w, (perm_ext_iff_of_nodup ndl ndo).mpr fun i =>
      ⟨by simpa using ex i, by simpa using sub i⟩⟩
  · intro F
    exact ⟨owned_iff.mpr ⟨[], F⟩, fun i hi => by simpa using F.perm.mem_iff.mp hi⟩

theorem step_framed {p : List Nat} {e : Edit} {st st' : State} {rest : List Id} (F : Framed st rest)
    (lp : livePath p st.root = true) (lk : ∀ s, subtreeAt p st.root = some s → localOK e s = true)
    (hs : step p e st = some st') : Framed st' rest := by
  obtain ⟨s, o, h1, hsub, ho, ha, hf, hr⟩ := step_eq_some_iff.mp hs
  obtain ⟨po, wo⟩ := step_owned F.wf hsub ho
  obtain ⟨nd1, a1⟩ := allocAll_perm o.allocs ha F.nodup
  have pm : h1.live.Perm (o.rel ++ (owned (replaceAt p o.node st.root) ++ rest)) :=
    calc h1.live
      _ ~ o.allocs.map Prod.fst ++ st.heap.live := a1
      _ ~ o.allocs.map Prod.fst ++ owned st.root ++ rest := by
        rw [append_assoc]; exact F.perm.append_left _
      _ ~ owned (replaceAt p o.node st.root) ++ o.rel ++ rest := po.symm.append_right _
      _ ~ o.rel ++ (owned (replaceAt p o.node st.root) ++ rest) := by
        rw [append_assoc]; exact perm_append_comm_assoc ..
  obtain ⟨h2, e2, p2⟩ := freeAll_spec o.rel pm
  cases hf.symm.trans e2
  exact ⟨p2.nodup_iff.mpr (nodup_append.mp (pm.nodup nd1)).2.1,
    hr ▸ wo lp (lk s hsub), hr ▸ p2⟩

/-- `free_struct` on the contents succeeds on the ledger, releases no id twice, and leaves exactly
  `rest` live -/
theorem freeAll_frees {h : Heap} {t : Tree} {rest : List Id} (F : Framed ⟨h, t⟩ rest) :
    (frees t).Nodup ∧ ∃ h', h.freeAll (frees t) = some h' ∧ h'.live.Perm rest :=
  have pm : h.live.Perm (frees t ++ rest) := F.perm.trans ((frees_perm_owned t F.wf).symm.append_right _)
  ⟨(nodup_append.mp (pm.nodup F.nodup)).1, freeAll_spec (frees t) pm⟩

theorem freeState_eq {m : Method} {st : State} {ids : List Id} {r : Tree} {h' : Heap}
    (hs : freeStruct m st.root = some (ids, r)) (e : st.heap.freeAll ids = some h') :
    freeState m st = some ⟨h', r⟩ := by
  rw [freeState, hs]
  exact congrArg (Option.map _) e

theorem apply_conservation {h h' : Heap} {e : Ev} (a : h.apply e = some h') :
    (h'.live ++ e.freed).Perm (e.allocd ++ h.live) := by
  cases e with
  | alloc i s => rw [(alloc_eq_some a).2]; exact .of_eq (append_nil _)
  | free i => exact (perm_append_singleton i _).trans (free_perm a).symm
  | realloc o n s =>
    obtain ⟨h1, hf, ha⟩ := Option.bind_eq_some_iff.mp a
    rw [(alloc_eq_some ha).2]
    exact ((perm_append_singleton o _).trans (free_perm hf).symm).cons n

theorem run_conservation : ∀ (evs : List Ev) {h h' : Heap}, h.run evs = some h' →
    (h'.live ++ evs.flatMap Ev.freed).Perm (evs.flatMap Ev.allocd ++ h.live)
  | [], _, _, e => by cases e; exact .of_eq (append_nil _)
  | ev :: r, h, h', e => by
    obtain ⟨h1, ha, e1⟩ := Option.bind_eq_some_iff.mp e
    rw [flatMap_cons, flatMap_cons]
    calc h'.live ++ (ev.freed ++ r.flatMap Ev.freed)
      _ ~ ev.freed ++ (h'.live ++ r.flatMap Ev.freed) := perm_append_comm_assoc ..
      _ ~ ev.freed ++ (r.flatMap Ev.allocd ++ h1.live) := (run_conservation r e1).append_left _
      _ ~ r.flatMap Ev.allocd ++ (h1.live ++ ev.freed) := perm_append_comm.trans (.of_eq (append_assoc ..))
      _ ~ r.flatMap Ev.allocd ++ (ev.allocd ++ h.live) := (apply_conservation ha).append_left _
      _ ~ ev.allocd ++ r.flatMap Ev.allocd ++ h.live := by
        rw [append_assoc]; exact perm_append_comm_assoc ..

theorem apply_nodup {h h' : Heap} {e : Ev} (nd : h.live.Nodup) (a : h.apply e = some h') : h'.live.Nodup := by
  cases e with
  | alloc i s => exact alloc_nodup a nd
  | free i => exact (free_nodup a nd).2
  | realloc o n s =>
    obtain ⟨h1, hf, ha⟩ := Option.bind_eq_some_iff.mp a
    exact alloc_nodup ha (free_nodup hf nd).2

/-- a property of (remaining program, state) that every executed step hands on holds at the end of
  the run -/
theorem run_invariant {Q : List (List Nat × Edit) → State → Prop}
    (hstep : ∀ p e r st st1, Q ((p, e) :: r) st → step p e st = some st1 → Q r st1) :
    ∀ prog {st st'}, Q prog st → run prog st = some st' → Q [] st'
  | [], _, _, q, hr => by cases hr; exact q
  | (p, e) :: r, _, _, q, hr => by
    obtain ⟨st1, hs, hr1⟩ := Option.bind_eq_some_iff.mp hr
    exact run_invariant hstep r (hstep p e r _ st1 q hs) hr1

/-- a disciplined operation, like each of its steps, never touches a block the structure does not reference -/
theorem run_framed {rest : List Id} (prog : List (List Nat × Edit)) {st st' : State} (F : Framed st rest)
    (ok : okProg prog st) (hr : run prog st = some st') : Framed st' rest :=
  (run_invariant (Q := fun r st => Framed st rest ∧ okProg r st)
    (fun _ _ _ _ st1 ⟨F, ok⟩ hs => ⟨step_framed F ok.1 ok.2.1 hs, ok.2.2 st1 hs⟩) prog ⟨F, ok⟩ hr).1

theorem okProg_take : ∀ prog k st, okProg prog st → okProg (prog.take k) st
  | [], _, _, _ => by rw [take_nil]; trivial
  | _ :: _, 0, _, _ => trivial
  | (p, e) :: r, k + 1, st, h => ⟨h.1, h.2.1, fun st' hs => okProg_take r k st' (h.2.2 st' hs)⟩

theorem isPtr_setChild (t : Tree) (i : Nat) (x : Tree) : isPtr (setChild t i x) = isPtr t := by
  cases t with
  | setof => cases i <;> rfl
  | _ => rfl

theorem step_isPtr {p : List Nat} {e : Edit} {st st' : State} (hp : isPtr st.root = true)
    (hs : step p e st = some st') : isPtr st'.root = true := by
  obtain ⟨s, o, h1, hsub, ho, _, _, hr⟩ := step_eq_some_iff.mp hs
  rw [hr]
  cases p with
  | nil => cases hsub; exact (applyEdit_spec ho).2 hp
  | cons i q =>
    rw [replaceAt]
    split
    · rwa [isPtr_setChild]
    · exact hp

end Asn1c.Proofs.Lifecycle
