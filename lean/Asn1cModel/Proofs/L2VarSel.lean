import Asn1cModel.L2.OerVariants
/-
  What the two variant encoders `L2.OerVar.encV` and `L2.UperVar.encUV` share: the selector `VSt.site`, which picks the
  positions where a variation is applied, and the presence bitmap of a sender of another version (`shorten`), which the
  receiver reads against its own list of additions (`Compat`).
-/
namespace Asn1c.Proofs.L2OerVariants
open Asn1c Asn1c.L2.OerVar

theorem site_true (s : VSt) (k : Kind) (applicable : Bool) (h : (s.site k applicable).1 = true) :
    applicable = true := by
  unfold VSt.site at h
  split at h
  · rename_i hc; exact hc.2
  · simp at h

theorem site_none (s : VSt) (hs : s.kind = .none) (k : Kind) (hk : k ≠ .none) (a : Bool) : s.site k a = (false, s) := by
  unfold VSt.site
  rw [if_neg]
  intro h; rw [hs] at h; exact hk h.1.symm

/-- `Compat bits B`: the bitmap `B` sent by a peer agrees with the receiver's presence bits `bits` on every addition
    the receiver knows: equal where `B` has a bit, and the additions beyond the end of `B` are absent -/
def Compat : Bits → Bits → Prop
  | [], _ => True
  | b :: bits, [] => b = false ∧ Compat bits []
  | b :: bits, c :: B => b = c ∧ Compat bits B

theorem compat_append (bits tail : Bits) : Compat bits (bits ++ tail) := by
  induction bits with
  | nil => simp [Compat]
  | cons b bits ih => simp [Compat, ih]

theorem compat_nil (bits : Bits) (h : bits.all (· == false) = true) : Compat bits [] := by
  induction bits with
  | nil => simp [Compat]
  | cons b bits ih =>
    simp only [List.all_cons, Bool.and_eq_true, beq_iff_eq] at h
    exact ⟨h.1, ih h.2⟩

theorem compat_take (bits : Bits) : ∀ k, (bits.drop k).all (· == false) = true → Compat bits (bits.take k) := by
  induction bits with
  | nil => intro k _; simp [Compat]
  | cons b bits ih =>
    intro k h
    cases k with
    | zero => simpa using compat_nil (b :: bits) (by simpa using h)
    | succ k =>
      simp only [List.drop_succ_cons] at h
      simp only [List.take_succ_cons, Compat, true_and]
      exact ih k h

theorem any_take_drop (bits : Bits) (k : Nat) (h1 : (bits.take k).any id = false)
    (h2 : (bits.drop k).all (· == false) = true) : bits.any id = false := by
  rw [← List.take_append_drop k bits, List.any_append, h1, Bool.false_or]
  simpa [List.all_eq_true] using h2

theorem shorten_spec (k : Nat) (bits : Bits) :
    Compat bits (shorten k bits) ∧ (shorten k bits).length ≤ bits.length ∧
      ((shorten k bits).any id = false → bits.any id = false) := by
  unfold shorten
  split
  · rename_i h
    exact ⟨compat_take bits k h, List.length_take_le' _ _, fun h1 => any_take_drop bits k h1 h⟩
  · exact ⟨by simpa using compat_append bits [], Nat.le_refl _, id⟩

end Asn1c.Proofs.L2OerVariants
