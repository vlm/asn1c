import Asn1cModel.Proofs.Fixer
/- C11, the rest of the catalogue: duplicate identifiers (`dupNames_fresh`); the ENUMERATED item loop against
   its invariant `LoopOk` (`enumLoop_spec`, `fixEnum_spec`); undefined references (`derefFatal_*`);
   `_asn1f_check_if_tag_must_be_explicit` answers "untagged choice type" whatever the type's own tag
   (`mustExplicit_withTag`, `mustExplicit_iff`); `asn1f_fix_constr_autotag` is the X.680 automatic tagging
   transformation, mode included (`AutoRel`, `autoNumber_spec`); and the node-by-node assembly
   (`nodeFatal_spec`) into `catalogue_iff`. -/
namespace Asn1c.Proofs.Fixer
open Asn1c.Fix Asn1c.Impl.Fixer Asn1c.Spec.Fix

/-- from "no FATAL iff the rule holds" to "FATAL iff the rule is violated" -/
theorem eq_true_iff_not {b : Bool} {P : Prop} (h : b = false ↔ P) : b = true ↔ ¬ P := by
  rw [← h, Bool.not_eq_false]

/-- Every member of `l` is new: it occurs neither in `prev` nor earlier in `l`.  This is what a loop accepts that
    compares each item with the ones collected so far and then adds it to them: `asn1f_check_unique_expr` on
    identifiers (`dupNames_fresh`), `asn1f_fix_enum` on item names and on values (`LoopOk`).  `prev` moves with the
    loop: `Fresh.cons`, `Fresh.append`. -/
def Fresh {α : Type} (prev l : List α) : Prop := (∀ x ∈ l, x ∉ prev) ∧ l.Nodup

theorem Fresh.nil {α : Type} (prev : List α) : Fresh prev [] := ⟨nofun, List.nodup_nil⟩

theorem Fresh.append {α : Type} {prev prev' : List α} (l1 l2 : List α)
    (h : ∀ x, x ∈ prev' ↔ x ∈ prev ∨ x ∈ l1) :
    Fresh prev (l1 ++ l2) ↔ Fresh prev l1 ∧ Fresh prev' l2 := by
  simp only [Fresh, List.mem_append, List.nodup_append, h, not_or]
  exact ⟨fun ⟨h1, h2, h3, h4⟩ => ⟨⟨fun x hx => h1 x (Or.inl hx), h2⟩,
      fun x hx => ⟨h1 x (Or.inr hx), fun hx' => h4 x hx' x hx rfl⟩, h3⟩,
    fun ⟨⟨h1, h2⟩, h3, h4⟩ => ⟨fun x hx => hx.elim (h1 x) (fun hx => (h3 x hx).1), h2, h4,
      fun x hx y hy e => (h3 y hy).2 (e ▸ hx)⟩⟩

theorem Fresh.cons {α : Type} {prev prev' : List α} {a : α} (l : List α)
    (h : ∀ x, x ∈ prev' ↔ x ∈ prev ∨ x = a) :
    Fresh prev (a :: l) ↔ a ∉ prev ∧ Fresh prev' l := by
  rw [← List.singleton_append, Fresh.append [a] l (by simpa using h)]
  simp [Fresh]

theorem Fresh.nil_left {α : Type} (l : List α) : Fresh [] l ↔ l.Nodup := by simp [Fresh]

/-- `l` is strictly increasing and starts at `lo` or above: what `asn1f_fix_enum` demands of the values of the
    extension additions, `lo` being the bound it carries along (one more than the last addition: `Above.cons`). -/
def Above (lo : Nat) (l : List Nat) : Prop := (∀ v ∈ l, lo ≤ v) ∧ l.Pairwise (· < ·)

theorem Above.cons (lo v : Nat) (l : List Nat) : Above lo (v :: l) ↔ lo ≤ v ∧ Above (v + 1) l := by
  simp only [Above, List.mem_cons, forall_eq_or_imp, List.pairwise_cons]
  exact ⟨fun ⟨⟨h1, _⟩, h3, h4⟩ => ⟨h1, h3, h4⟩,
    fun ⟨h1, h3, h4⟩ => ⟨⟨h1, fun x hx => Nat.le_trans (Nat.le_succ_of_le h1) (h3 x hx)⟩, h3, h4⟩⟩

theorem dupNames_fresh : ∀ (l prev : List String), dupNames prev l = false ↔ Fresh prev l
  | [], prev => by simp [dupNames, Fresh]
  | n :: rest, prev => by
    rw [Fresh.cons rest (prev' := prev ++ [n]) (by simp), dupNames, Bool.or_eq_false_iff, dupNames_fresh rest]
    simp

theorem dupNames_nil_iff (l : List String) : dupNames [] l = false ↔ l.Nodup := by
  rw [dupNames_fresh, Fresh.nil_left]

def itemNames (items : List EnumItem) : List String := items.map EnumItem.name

/-- What the item loop demands of the items it walks over, relative to the state `st` it starts in: the values
    are new with respect to `st.used`, the names with respect to `st.names`, and among the extension additions
    (`after`) the values increase from `st.nextExt` on. -/
def LoopOk (after : Bool) (st : EnumSt) (names : List String) (vs : List Nat) : Prop :=
  Fresh st.used vs ∧ Fresh st.names names ∧ (after = true → Above st.nextExt vs)

/-- one more item in front: the demands of the step itself, then the rest from the state the step
    leaves; `hn`, `hu`, `he` say what that state is -/
theorem LoopOk_cons (after : Bool) (st st1 : EnumSt) (n : String) (v : Nat) (names : List String) (vs : List Nat)
    (hn : st1.names = st.names ++ [n]) (hu : ∀ x, x ∈ st1.used ↔ x ∈ st.used ∨ x = v)
    (he : st1.nextExt = if (after && decide (st.nextExt ≤ v)) = true then v + 1 else st.nextExt) :
    LoopOk after st (n :: names) (v :: vs) ↔
      ((after = true → st.nextExt ≤ v) ∧ v ∉ st.used ∧ n ∉ st.names) ∧ LoopOk after st1 names vs := by
  have hA : (after = true → st.nextExt ≤ v ∧ Above (v + 1) vs) ↔
      (after = true → st.nextExt ≤ v) ∧ (after = true → Above st1.nextExt vs) := by
    rw [he, ← forall_and]
    exact forall_congr' fun ha => and_congr_right fun hle => by simp [ha, hle]
  unfold LoopOk
  rw [Fresh.cons vs hu, Fresh.cons names (prev' := st1.names) (by simp [hn]), Above.cons, hA]
  exact ⟨fun ⟨⟨a, fa⟩, ⟨b, fb⟩, c, d⟩ => ⟨⟨c, a, b⟩, fa, fb, d⟩,
    fun ⟨⟨c, a, b⟩, fa, fb, d⟩ => ⟨⟨a, fa⟩, ⟨b, fb⟩, c, d⟩⟩

theorem enumStep_spec {after : Bool} {st st1 : EnumSt} {it : EnumItem} {v : Nat} {f : Bool}
    (h : enumStep after st it = (st1, v, f)) :
    st1.names = st.names ++ [it.name] ∧ (∀ x, x ∈ st1.used ↔ x ∈ st.used ∨ x = v) ∧
    st1.nextExt = (if (after && decide (st.nextExt ≤ v)) = true then v + 1 else st.nextExt) ∧
    (f = false ↔ (after = true → st.nextExt ≤ v) ∧ v ∉ st.used ∧ it.name ∉ st.names) := by
  unfold enumStep at h
  simp only [Prod.mk.injEq] at h
  obtain ⟨rfl, hv, rfl⟩ := h
  simp only [hv]
  refine ⟨trivial, fun x => ?_, trivial, by cases after <;> simp [Nat.not_lt, and_assoc]⟩
  split
  · exact ⟨Or.inl, fun h => h.elim id (· ▸ List.contains_iff_mem.1 ‹_›)⟩
  · simp

theorem enumLoop_spec (after : Bool) (items : List EnumItem) (st st' : EnumSt) (vs : List Nat) (f : Bool)
    (h : enumLoop after st items = (st', vs, f)) :
    (f = false ↔ LoopOk after st (itemNames items) vs) ∧
    (∀ x, x ∈ st'.used ↔ x ∈ st.used ∨ x ∈ vs) ∧
    st'.names = st.names ++ itemNames items ∧
    (after = false → st'.nextExt = st.nextExt) ∧
    vs.length = items.length := by
  fun_induction enumLoop after st items generalizing st' vs f with
  | case1 st => cases h; simp [LoopOk, itemNames, Fresh.nil, Above]
  | case2 st it rest st1 v f0 hstep st2 vs' fr hrest ih =>
    cases h
    obtain ⟨ih1, ih2, ih3, ih4, ih5⟩ := ih _ _ _ hrest
    obtain ⟨hn, hu, he, hf⟩ := enumStep_spec hstep
    refine ⟨?_, fun x => ?_, ?_, fun ha => ?_, ?_⟩
    · rw [show itemNames (it :: rest) = it.name :: itemNames rest from rfl,
        LoopOk_cons after st st1 it.name v _ vs' hn hu he, ← ih1, ← hf, Bool.or_eq_false_iff]
    · rw [ih2, hu, or_assoc, List.mem_cons]
    · rw [ih3, hn]; simp [itemNames]
    · rw [ih4 ha, he]; simp [ha]
    · simp [ih5]

/-- **`asn1f_fix_enum`**: with the values the code assigns, it raises FATAL iff a name repeats, a
    value repeats, or the additions are not strictly increasing -/
theorem fixEnum_spec (r a : List EnumItem) :
    (fixEnum r a).2 = false ↔
      (itemNames (r ++ a)).Nodup ∧ (fixEnum r a).1.Nodup ∧
      ((fixEnum r a).1.drop r.length).Pairwise (· < ·) := by
  fun_cases fixEnum r a with
  | case1 st1 vs1 f1 h1 st2 vs2 f2 h2 =>
    obtain ⟨a1, a2, a3, a4, a5⟩ := enumLoop_spec false r _ _ _ _ h1
    obtain ⟨b1, _, _, _, _⟩ := enumLoop_spec true a _ _ _ _ h2
    rw [Bool.or_eq_false_iff, a1, b1, ← a5, List.drop_left, ← Fresh.nil_left, ← Fresh.nil_left (vs1 ++ vs2),
      show itemNames (r ++ a) = itemNames r ++ itemNames a from List.map_append,
      Fresh.append _ _ a2, Fresh.append (prev' := st1.names) _ _ (by simp [a3])]
    simp [LoopOk, Above, a4 rfl, and_assoc, and_left_comm]

/-- the code's numbering of an ENUMERATED coincides with X.680 §20.3/20.6 (the region outside
    is the F15 family of findings) -/
def EnumAgrees : Ty → Prop
  | .enum _ r _ a => (fixEnum r a).1 = enumVals r a
  | _ => True

instance (t : Ty) : Decidable (EnumAgrees t) := by
  cases t <;> unfold EnumAgrees <;> infer_instance

theorem rootVals_length (ev : List Nat) (items : List EnumItem) (cur : Nat) :
    (rootVals ev cur items).length = items.length := by
  fun_induction rootVals ev cur items <;> simp [*]

theorem fixEnum_enumOk {r a : List EnumItem} (hag : (fixEnum r a).1 = enumVals r a) :
    (fixEnum r a).2 = false ↔ enumOk r a := by
  rw [fixEnum_spec, hag]
  unfold enumOk enumVals
  have hl : (enumRootVals r).length = r.length := rootVals_length _ _ _
  have hdrop : (enumRootVals r ++ enumAddVals r a).drop r.length = enumAddVals r a := by
    rw [← hl]; simp
  rw [hdrop]
  simp [itemNames]

theorem Ty.self_mem_nodes (t : Ty) : t ∈ t.nodes := by
  cases t <;> simp [Ty.nodes]

theorem lookupIn_mem (ts : List TypeAssign) (n : String) (t : Ty) (h : lookupIn ts n = some t) :
    t ∈ nodesOf ts := by
  fun_induction lookupIn ts n with
  | case1 => cases h
  | case2 a rest => cases h; exact List.mem_append.2 (Or.inl (Ty.self_mem_nodes _))
  | case3 a rest n hne ih => exact List.mem_append.2 (Or.inr (ih h))

theorem findTerminal_ref (M : Module) (f : Nat) (g g' : Option Tag) (n : String) :
    findTerminal M f (.ref g n) = findTerminal M f (.ref g' n) := by
  cases f <;> rfl

theorem findTerminal_ref_succ (M : Module) (f : Nat) (g : Option Tag) (n : String) :
    findTerminal M (f + 1) (.ref g n) =
      match M.lookup n with
      | none => .missing
      | some t' => findTerminal M f t' := rfl

theorem findTerminal_nonref (M : Module) (f : Nat) (v : Ty) (h : ∀ g n, v ≠ .ref g n) :
    findTerminal M f v = .found v := by
  cases v with
  | ref g n => exact absurd rfl (h g n)
  | _ => cases f <;> rfl

theorem findTerminal_missing (M : Module) (f : Nat) (t : Ty) (h : findTerminal M f t = .missing)
    (hm : t ∈ M.nodes) : ∃ g n, Ty.ref g n ∈ M.nodes ∧ M.lookup n = none := by
  fun_induction findTerminal M f t with
  | case1 | case4 => cases h
  | case2 g n f hl => exact ⟨g, n, hm, hl⟩
  | case3 g n f t' hl ih => exact ih h (lookupIn_mem _ _ _ hl)

/-- a reference to a name that is not assigned is reported; no fuel is needed to see it -/
theorem derefFatal_undefined {M : Module} (g : Option Tag) {n : String} (hl : M.lookup n = none) :
    derefFatal M (.ref g n) = some true := by
  rw [derefFatal, show fuel M = (4 * M.size + 7) + 1 from rfl, findTerminal_ref_succ, hl]

theorem derefFatal_false_defined {M : Module} {g : Option Tag} {n : String}
    (h : derefFatal M (.ref g n) = some false) : (M.lookup n).isSome = true := by
  cases hl : M.lookup n with
  | some t' => rfl
  | none => rw [derefFatal_undefined g hl] at h; cases h

theorem derefFatal_true_missing {M : Module} {t : Ty} (h : derefFatal M t = some true) (ht : t ∈ M.nodes) :
    ∃ g n, Ty.ref g n ∈ M.nodes ∧ M.lookup n = none := by
  cases t with
  | ref g n =>
    simp only [derefFatal] at h
    cases hft : findTerminal M (fuel M) (.ref g n) with
    | missing => exact findTerminal_missing M _ _ hft ht
    | _ => rw [hft] at h; simp at h
  | _ => simp [derefFatal] at h

/-- `asn1f_fix_dereference_types` over a module: "Unknown type" is raised iff some reference is to a name that
    is not assigned -/
theorem derefFatal_exists_iff (M : Module) :
    (∃ t ∈ M.nodes, derefFatal M t = some true) ↔ ∃ g n, Ty.ref g n ∈ M.nodes ∧ M.lookup n = none :=
  ⟨fun ⟨_, ht, h⟩ => derefFatal_true_missing h ht, fun ⟨g, _, hm, hl⟩ => ⟨_, hm, derefFatal_undefined g hl⟩⟩

theorem isUC_ref {M : Module} {n : String} :
    IsUntaggedChoice M (.ref none n) ↔ ∃ t', M.lookup n = some t' ∧ IsUntaggedChoice M t' :=
  ⟨fun h => by cases h with | ref h1 h2 => exact ⟨_, h1, h2⟩, fun ⟨_, h1, h2⟩ => .ref h1 h2⟩

theorem fetch_tag_not_isUC (M : Module) (f : Nat) (t : Ty) (g : OTag)
    (h : fetchOutmost M f (.ty t) = .tag g) : ¬ IsUntaggedChoice M t := by
  intro huc
  induction huc generalizing f with
  | choice => simp at h
  | ref hl _ ih =>
    cases f with
    | zero => simp at h
    | succ f => rw [fetchOutmost_ref_succ, hl] at h; exact ih f h

theorem isChoice_withTag (v : Ty) (g : Option Tag) : isChoice (v.withTag g) = isChoice v := by
  cases v with
  | constr g0 k r h a => cases k <;> rfl
  | _ => rfl

/-- where no tag can be fetched, `asn1f_find_terminal_type` walks the same chain of untagged references with the
    same fuel: it ends at an untagged CHOICE or at a name that is not assigned, never out of fuel -/
theorem fetch_fail_terminal (M : Module) (f : Nat) (t : Ty) (h : fetchOutmost M f (.ty t) = .fail) :
    match findTerminal M f t with
    | .found c => isChoice c = true ∧ IsUntaggedChoice M t
    | .missing => ¬ IsUntaggedChoice M t
    | .loop => False := by
  fun_induction findTerminal M f t with
  | case1 g n =>
    -- out of fuel on a reference: the fetch has answered "loop", not "fail"
    rcases fetchOutmost_fail_shape M _ _ h with ⟨n', e⟩ | ⟨_, _, _, e⟩ <;> cases e
    cases h
  | case2 g n f hl => exact fun huc => by cases huc with | ref h1 _ => rw [hl] at h1; cases h1
  | case3 g n f t' hl ih =>
    rcases fetchOutmost_fail_shape M _ _ h with ⟨n', e⟩ | ⟨_, _, _, e⟩ <;> cases e
    rw [fetchOutmost_ref_succ, hl] at h
    simpa [isUC_ref, hl] using ih h
  | case4 f t hnr =>
    rcases fetchOutmost_fail_shape M _ _ h with ⟨n', e⟩ | ⟨r, hx, a, e⟩ <;> cases e
    · exact (hnr _ _ rfl).elim
    · exact ⟨rfl, .choice⟩

theorem mustExplicit_withTag (M : Module) (v : Ty) (g : Option Tag) :
    mustExplicit M (v.withTag g) = mustExplicit M v := by
  unfold mustExplicit
  rw [withTag_withTag]
  cases v with
  | ref g0 n => rw [show (Ty.ref g0 n).withTag g = .ref g n from rfl, findTerminal_ref M _ g g0 n]
  | _ =>
    rw [findTerminal_nonref M _ _ (by intro _ _ h; cases h), findTerminal_nonref M _ _ (by intro _ _ h; cases h)]
    simp only [isChoice_withTag]

/-- **`_asn1f_check_if_tag_must_be_explicit`** answers "the type (its own tag put aside) is an
    untagged choice type" -/
theorem mustExplicit_iff {M : Module} {v : Ty} {b : Bool} (h : mustExplicit M v = some b) :
    b = true ↔ IsUntaggedChoice M (v.withTag none) := by
  rw [← mustExplicit_withTag M v none] at h
  generalize hu : v.withTag none = u at h ⊢
  have hw : u.withTag none = u := by rw [← hu, withTag_withTag]
  revert h
  -- a tag is fetched (case 1); none, and the chain of references ends at a type (3) or at a name that is not
  -- assigned (4); cases 2 and 5 are out of fuel
  fun_cases mustExplicit M u with
  | case1 g hf => rw [hw] at hf; intro h; cases h; simpa using fetch_tag_not_isUC M _ _ _ hf
  | case2 => nofun
  | case3 hf t ht =>
    have ht' := fetch_fail_terminal M _ _ (hw ▸ hf)
    rw [ht] at ht'
    intro h; cases h; exact iff_of_true ht'.1 ht'.2
  | case4 hf ht => rw [hw] at hf; intro h; cases h; simpa [ht] using fetch_fail_terminal M _ _ hf
  | case5 => nofun

/-- a member produced by `asn1f_fix_constr_autotag` against the X.680 automatic-tagging
    transformation: same identifier, OPTIONAL-ness and type, same context tag, and the mode is
    EXPLICIT exactly for an untagged choice type, IMPLICIT otherwise -/
def AutoRel (M : Module) (c' c : Comp) : Prop :=
  c'.name = c.name ∧ c'.opt = c.opt ∧ c'.ty.withTag none = c.ty.withTag none ∧
  ∃ g m, c.ty.tag = some g ∧ c'.ty.tag = some { g with mode := m } ∧
    (m = .explicit ∨ m = .implicit) ∧ (m = .explicit ↔ IsUntaggedChoice M (c.ty.withTag none))

theorem autoNumber_spec {M : Module} (cs cs' : List Comp) (i : Nat)
    (h : autoNumber M i cs = some cs') : AllRel (AutoRel M) cs' (number i cs) := by
  fun_induction autoNumber M i cs generalizing cs' with
  | case1 => cases h; exact .nil
  | case2 i c rest me rest' hn hm ih =>
    cases h
    refine .cons ⟨?_, ?_, ?_, ⟨.context, i, .default_⟩, (if me = true then .explicit else .implicit), ?_, ?_, ?_, ?_⟩
      (ih _ hn)
    · rw [comp_withTag_name, comp_withTag_name]
    · rw [comp_withTag_opt, comp_withTag_opt]
    · rw [comp_withTag_ty, comp_withTag_ty, withTag_withTag, withTag_withTag]
    · rw [comp_withTag_ty, withTag_tag]
    · rw [comp_withTag_ty, withTag_tag]
    · cases me <;> simp
    · rw [comp_withTag_ty, withTag_withTag, ← mustExplicit_iff hm]
      cases me <;> simp
  | case3 => cases h

theorem number_append (l1 l2 : List Comp) : ∀ i, number i (l1 ++ l2) = number i l1 ++ number (i + l1.length) l2 := by
  induction l1 with
  | nil => intro i; simp [number]
  | cons c rest ih =>
    intro i
    simp only [List.cons_append, number, ih, List.length_cons]
    rw [show i + 1 + rest.length = i + (rest.length + 1) by omega]

theorem number_length (cs : List Comp) (i : Nat) : (number i cs).length = cs.length := by
  fun_induction number i cs <;> simp [*]

theorem orAllB_spec (l : List (Option Bool)) (r : Bool) (h : orAllB l = some r) :
    (r = false → ∀ x ∈ l, x = some false) ∧ (r = true → some true ∈ l) := by
  fun_induction orAllB l generalizing r with
  | case1 => cases h; simp
  | case2 rest a b hr ih =>
    cases h
    obtain ⟨i1, i2⟩ := ih b hr
    simp only [Bool.or_eq_false_iff, Bool.or_eq_true, List.mem_cons, forall_eq_or_imp]
    exact ⟨fun ⟨ha, hb⟩ => ⟨by rw [ha], i1 hb⟩,
      fun h => h.elim (fun ha => Or.inl (by rw [ha])) (fun hb => Or.inr (i2 hb))⟩
  | case3 => cases h

theorem nodeFatal_constr {M : Module} {g : Option Tag} {k : CKind} {r : List Comp} {h : Bool}
    {a : List Comp} {rx : Bool} (hn : nodeFatal M (.constr g k r h a) = some rx) :
    rx = false ↔ NodeOk M (.constr g k r h a) := by
  simp only [nodeFatal] at hn
  split at hn
  · cases hn
  · rename_i ss hcomps
    split at hn
    · cases hn
    · rename_i c hd
      cases hn
      simp only [NodeOk, Bool.or_eq_false_iff]
      rw [dupNames_nil_iff, checkDistinct_tagsDistinct hcomps hd]

theorem nodeFatal_enum {M : Module} {g : Option Tag} {r : List EnumItem} {h : Bool}
    {a : List EnumItem} {rx : Bool} (hn : nodeFatal M (.enum g r h a) = some rx)
    (hag : EnumAgrees (.enum g r h a)) :
    rx = false ↔ NodeOk M (.enum g r h a) := by
  cases hn; exact fixEnum_enumOk hag

/-- one type expression: without FATAL it is as the property demands; a FATAL means that some type expression
    of the module is not (for a reference the undefined name may lie further down the chain) -/
theorem nodeFatal_spec {M : Module} {t : Ty} {rx : Bool} (hn : nodeFatal M t = some rx) (hag : EnumAgrees t)
    (ht : t ∈ M.nodes) : (rx = false → NodeOk M t) ∧ (rx = true → ∃ t', t' ∈ M.nodes ∧ ¬ NodeOk M t') := by
  have of_iff (e : rx = false ↔ NodeOk M t) :
      (rx = false → NodeOk M t) ∧ (rx = true → ∃ t', t' ∈ M.nodes ∧ ¬ NodeOk M t') :=
    ⟨e.1, fun h => ⟨t, ht, fun ok => by rw [e.2 ok] at h; cases h⟩⟩
  cases t with
  | prim g p => cases hn; exact ⟨fun _ => trivial, nofun⟩
  | seqOf g el => cases hn; exact ⟨fun _ => trivial, nofun⟩
  | enum g rr hh aa => exact of_iff (nodeFatal_enum hn hag)
  | constr g k rr hh aa => exact of_iff (nodeFatal_constr hn)
  | ref g n =>
    refine ⟨fun h => derefFatal_false_defined (g := g) (h ▸ hn), fun h => ?_⟩
    obtain ⟨g', n', hm', hl⟩ := derefFatal_true_missing (h ▸ hn) ht
    exact ⟨_, hm', by simp [NodeOk, hl]⟩

/-- **the catalogue checks of the fixer decide `Spec.consistent`** -/
theorem catalogue_iff {M : Module} {r : Bool} (hrun : catalogueFatal M = some r)
    (henum : ∀ t ∈ M.nodes, EnumAgrees t) : r = false ↔ consistent M := by
  obtain ⟨h1, h2⟩ := orAllB_spec _ r hrun
  refine ⟨fun hcl t ht => (nodeFatal_spec (h1 hcl _ (List.mem_map_of_mem ht)) (henum t ht) ht).1 rfl,
    fun hall => ?_⟩
  cases r with
  | false => rfl
  | true =>
    obtain ⟨t, ht, e⟩ := List.mem_map.1 (h2 rfl)
    obtain ⟨t', ht', hbad⟩ := (nodeFatal_spec e (henum t ht) ht).2 rfl
    exact absurd (hall t' ht') hbad

end Asn1c.Proofs.Fixer
