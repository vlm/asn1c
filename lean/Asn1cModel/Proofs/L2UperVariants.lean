import Asn1cModel.Proofs.L2UperVariantsEqns
import Asn1cModel.Proofs.L2Uper
import Asn1cModel.Proofs.L2VarSel
/-
  Helper lemmas for Props/C03Uper.lean: the reference UPER decoder `L2.decUPER` accepts every output
  of the version-skew variant encoder `L2.UperVar.encUV` — for every selector state — and returns the value.
  Without a variation `encUV` is the canonical encoder (`nu_all`), so the round trip of Props/C02Uper.lean is a
  special case.
-/
namespace Asn1c.Proofs.L2UperVariants
open Asn1c Asn1c.L2 Asn1c.Spec.Per Asn1c.L2.UperVar Asn1c.Impl.PerSupport
open Asn1c.L2.OerVar (VSt needLen extraBits)
open Asn1c.Proofs.L2Uper
open Asn1c.Proofs.L2Der (isAbsent isAbsent_iff absent_or)
open Asn1c.Proofs.L2OerVariants (Compat compat_append shorten_spec site_true site_none)

mutual
/-- the values of the version-skew theorem `rtu_all`: `L2Uper.canonV` (the domain of the UPER round trip) without the
    requirement that SET OF lists are sorted - `encUV` writes the elements in list order, as BASIC-PER allows - and
    without the DEFAULT test on extension additions (`ucanonP_of_canonV`: every `canonV` value is one) -/
def ucanonP : PTy → Val → Bool
  | .seq root rattrs _ adds _, .seq vs => ucanonRootP root rattrs vs && ucanonAddsP adds (vs.drop root.length)
  | .choice root _ _ adds, .choice i v =>
    if i < root.length then ucanonAltP root i v else ucanonAltP adds (i - root.length) v
  | .seqOf _ e, .list vs => vs.all (ucanonP e)
  | .setOf _ e, .list vs => vs.all (ucanonP e)
  | .boolean, v => canonV .boolean v
  | .null, v => canonV .null v
  | .integer c, v => canonV (.integer c) v
  | .enumerated r e, v => canonV (.enumerated r e) v
  | .real, v => canonV .real v
  | .bitstr sz, v => canonV (.bitstr sz) v
  | .octstr sz, v => canonV (.octstr sz) v
  | .kmstr cw a b sz, v => canonV (.kmstr cw a b sz) v
  | .unkstr, v => canonV .unkstr v
  | _, _ => false
def ucanonRootP : List PTy → List Attr → List Val → Bool
  | [], _, _ => true
  | m :: ms, a :: as, v :: vs => (isAbsent v || (!isDefault a v && ucanonP m v)) && ucanonRootP ms as vs
  | _, _, _ => false
def ucanonAddsP : List PTy → List Val → Bool
  | [], _ => true
  | m :: ms, v :: vs => (isAbsent v || ucanonP m v) && ucanonAddsP ms vs
  | _, _ => false
def ucanonAltP : List PTy → Nat → Val → Bool
  | [], _, _ => false
  | a :: _, 0, v => ucanonP a v
  | _ :: as, i + 1, v => ucanonAltP as i v
end

theorem ucanonP_of_canonV : ∀ (t : PTy) (v : Val), canonV t v = true → ucanonP t v = true := by
  intro t
  refine PTy.rec (motive_1 := fun t => ∀ v, canonV t v = true → ucanonP t v = true)
    (motive_2 := fun ms => (∀ as vs, (canonRoot ms as vs = true → ucanonRootP ms as vs = true) ∧
        (canonAdds ms as vs = true → ucanonAddsP ms vs = true)) ∧
      ∀ i v, canonAlt ms i v = true → ucanonAltP ms i v = true)
    ?_ ?_ ?_ ?_ ?_ ?_ ?_ ?_ ?_ ?seq ?choice ?seqOf ?setOf ?nil ?cons t
  case seq =>
    intro root rattrs ext adds aattrs hr ha v h
    cases v with
    | seq vs =>
      simp only [canonV, Bool.and_eq_true] at h
      simp only [ucanonP, Bool.and_eq_true]
      exact ⟨(hr.1 _ _).1 h.1, (ha.1 _ _).2 h.2⟩
    | _ => cases h
  case choice =>
    intro root order ext adds hr ha v h
    cases v with
    | choice i x =>
      simp only [canonV] at h
      simp only [ucanonP]
      split at h
      · rename_i hi; rw [if_pos hi]; exact hr.2 i x h
      · rename_i hi; rw [if_neg hi]; exact ha.2 _ x h
    | _ => cases h
  case seqOf =>
    intro sz e ih v h
    cases v with
    | list vs =>
      simp only [canonV, List.all_eq_true] at h
      simp only [ucanonP, List.all_eq_true]
      exact fun x hx => ih x (h x hx)
    | _ => cases h
  case setOf =>
    intro sz e ih v h
    cases v with
    | list vs =>
      simp only [canonV, Bool.and_eq_true, List.all_eq_true] at h
      simp only [ucanonP, List.all_eq_true]
      exact fun x hx => ih x (h.1 x hx)
    | _ => cases h
  case nil => exact ⟨fun as vs => by simp [ucanonRootP, ucanonAddsP], fun i v h => by simp [canonAlt] at h⟩
  case cons =>
    intro m ms hm hms
    refine ⟨fun as vs => ?_, fun i v h => ?_⟩
    · rcases as with _ | ⟨a, as⟩
      · simp [canonRoot, canonAdds]
      rcases vs with _ | ⟨v, vs⟩
      · simp [canonRoot, canonAdds]
      simp only [canonRoot, canonAdds, ucanonRootP, ucanonAddsP, Bool.and_eq_true, Bool.or_eq_true, Bool.not_eq_true']
      -- the head: absent, or (as a root component: not the DEFAULT value and) admissible by `hm`; the tail by `hms`
      constructor
      · exact fun h => ⟨h.1.imp_right fun h1 => ⟨h1.1, hm v h1.2⟩, (hms.1 as vs).1 h.2⟩
      · exact fun h => ⟨h.1.imp_right fun h1 => hm v h1.2, (hms.1 as vs).2 h.2⟩
    · cases i with
      | zero => rw [canonAlt] at h; rw [ucanonAltP]; exact hm v h
      | succ i => rw [canonAlt] at h; rw [ucanonAltP]; exact hms.2 i v h
  -- at the types without components `ucanonP` is `canonV` by definition
  all_goals intros; assumption

/-- the statement of `rtu_all` for one type: the composite types take it as hypothesis on their components -/
def RTU (t : PTy) : Prop :=
  ∀ (v : Val) (s s' : VSt) (bits rest : Bits), ucanonP t v = true → encUV t v s = some (bits, s') →
    decUPER t (bits ++ rest) = some (v, rest)

theorem isAbs_eq (v : Val) : isAbs v = isAbsent v := by cases v <;> rfl

/-- what a successful run of `encRootU` on admissible values did: the decoder reads the root components back from the
    presence bits `p` and the body `b`, whatever follows; `r` holds the values of the extension additions; `p` has
    one bit per OPTIONAL component -/
theorem decRoot_encRootU (root : List PTy) (ih : ∀ m ∈ root, RTU m) :
    ∀ (rattrs : List Attr) (vs : List Val) (s s' : VSt) (p b : Bits) (r : List Val),
      rattrs.length = root.length → ucanonRootP root rattrs vs = true → encRootU root rattrs vs s = some (p, b, r, s') →
      (∀ tail, decRoot root rattrs p (b ++ tail) = some (vs.take root.length, tail)) ∧ r = vs.drop root.length ∧
        p.length = optCount rattrs := by
  induction root with
  | nil =>
    intro rattrs vs s s' p b r hl _ he
    simp only [encRootU_nil, Option.some.injEq, Prod.mk.injEq] at he
    obtain ⟨rfl, rfl, rfl, _⟩ := he
    obtain rfl := List.eq_nil_of_length_eq_zero hl
    simp [decRoot_nil, optCount]
  | cons m ms ihm =>
    intro rattrs vs s s' p b r hl hc
    have ihms : ∀ x ∈ ms, RTU x := fun x hx => ih x (by simp [hx])
    -- the case analysis is `encRootU`'s own; it wants a variable for the list, which `hM` ties back to `m :: ms`
    generalize hM : m :: ms = M at hl hc ⊢
    fun_cases encRootU M rattrs vs s
    case case1 => cases hM
    case case3 | case4 | case6 | case7 | case9 | case10 => intro h; cases h    -- the encoder fails
    case case2 m' ms' a as v vs hab ho p' b' r' s2 h2 =>    -- absent and OPTIONAL
      intro h; cases hM; cases h
      obtain rfl := (isAbsent_iff v).mp (isAbs_eq v ▸ hab)
      simp only [ucanonRootP, Bool.and_eq_true] at hc
      obtain ⟨h3, h4, h5⟩ := ihm ihms as vs s s' p' b r (by simpa using hl) hc.2 h2
      simp [decRoot, ho, h3, h4, optCount, h5, Nat.add_comm]
    case case5 m' ms' a as v vs hab hd _ _ _ _ _ =>    -- a stored DEFAULT value is not admissible
      simp [ucanonRootP, ← isAbs_eq, hab, hd] at hc
    case case8 m' ms' a as v vs hab hd x s1 p' b' r' s2 h2 h1 =>    -- encoded
      intro h; cases hM; cases h
      simp only [ucanonRootP, Bool.and_eq_true, Bool.or_eq_true, ← isAbs_eq, hab, Bool.false_eq_true, false_or] at hc
      obtain ⟨h3, h4, h5⟩ := ihm ihms as vs s1 s' p' b' r (by simpa using hl) hc.2 h2
      have hm := fun tail => ih m (by simp) v s s1 x (b' ++ tail) hc.1.2 h1
      cases ho : a.optional <;> simp [decRoot, ho, hm, h3, h4, optCount, h5, Nat.add_comm]

/-- what a successful run of `encAddsU` on admissible values did: the bitmap has one bit per addition; where no bit
    is set every addition is absent; and the additions are decoded from any compatible bitmap `B`, the bits of `B`
    beyond them announcing open types, which are skipped -/
theorem encAddsU_spec (adds : List PTy) (ih : ∀ m ∈ adds, RTU m) :
    ∀ (vs : List Val) (s s' : VSt) (bm : List Bool) (ab : Bits),
      ucanonAddsP adds vs = true → encAddsU adds vs s = some (bm, ab, s') →
      bm.length = adds.length ∧ (bm.any id = false → vs = absentVals adds.length) ∧
        ∀ (B : List Bool) (Y tail : Bits), Compat bm B → skipOpen (B.drop adds.length) Y = some tail →
          decAdds adds B (ab ++ Y) = some (vs, tail) := by
  induction adds with
  | nil =>
    intro vs s s' bm ab _ he
    cases vs with
    | nil =>
      simp only [encAddsU_nil, Option.some.injEq, Prod.mk.injEq] at he
      obtain ⟨rfl, rfl, _⟩ := he
      exact ⟨rfl, fun _ => rfl, fun B Y tail _ hsk => by simpa [decAdds_nil] using hsk⟩
    | cons v vs => simp [encAddsU] at he
  | cons m ms ihm =>
    intro vs s s' bm ab hc
    have ihms : ∀ x ∈ ms, RTU x := fun x hx => ih x (by simp [hx])
    generalize hM : m :: ms = M at hc ⊢
    fun_cases encAddsU M vs s
    case case1 => cases hM
    case case3 | case4 | case6 | case7 => intro h; cases h    -- the encoder fails
    case case2 m' ms' v vs hab bm' ab' s2 h2 =>    -- absent
      intro h; cases hM; cases h
      obtain rfl := (isAbsent_iff v).mp (isAbs_eq v ▸ hab)
      simp only [ucanonAddsP, Bool.and_eq_true] at hc
      obtain ⟨h3, h4, h5⟩ := ihm ihms vs s s' bm' ab hc.2 h2
      refine ⟨by simp [h3], fun hb => ?_, fun B Y tail hB hsk => ?_⟩
      · rw [h4 (by simpa using hb)]; rfl
      · cases B with
        | nil => simp [decAdds, h5 [] Y tail hB.2 (by simpa using hsk)]
        | cons c B =>
          obtain ⟨rfl, hB'⟩ := hB
          simp [decAdds, h5 B Y tail hB' (by simpa using hsk)]
    case case5 m' ms' v vs hab x s1 bm' ab' s2 h2 h1 =>    -- encoded as an open type
      intro h; cases hM; cases h
      simp only [ucanonAddsP, Bool.and_eq_true, Bool.or_eq_true, ← isAbs_eq, hab, Bool.false_eq_true, false_or] at hc
      obtain ⟨h3, _, h5⟩ := ihm ihms vs s1 s' bm' ab' hc.2 h2
      refine ⟨by simp [h3], fun hb => by simp at hb, fun B Y tail hB hsk => ?_⟩
      -- the sender's bitmap has this bit, and it is set
      cases B with
      | nil => exact absurd hB.1 (by simp)
      | cons c B =>
        obtain ⟨rfl, hB'⟩ := hB
        obtain ⟨pad, hp, _⟩ := complete_spec x
        have hm := ih m (by simp) v s s1 x pad hc.1 h1
        simp [decAdds, decOctetsUnc_openType, hp, hm, h5 B Y tail hB' (by simpa using hsk)]

/-- the known additions are decoded from any compatible bitmap `B`; the bits of `B` beyond them announce the
    open types `X`, which are skipped -/
theorem decAdds_encAddsU (adds : List PTy) (ih : ∀ m ∈ adds, RTU m) :
    ∀ (vs : List Val) (s s' : VSt) (bm : List Bool) (ab : Bits) (B : List Bool) (X tail : Bits),
      ucanonAddsP adds vs = true → encAddsU adds vs s = some (bm, ab, s') → Compat bm B →
      skipOpen (B.drop adds.length) (X ++ tail) = some tail →
      decAdds adds B (ab ++ (X ++ tail)) = some (vs, tail) ∧ bm.length = adds.length :=
  fun vs s s' bm ab B X tail hc he hB hsk =>
    have ⟨hl, _, hd⟩ := encAddsU_spec adds ih vs s s' bm ab hc he
    ⟨hd B (X ++ tail) tail hB hsk, hl⟩

theorem skipOpen_extraU (extra : List (Option Bytes)) (hw : extraWf extra = true) (rest : Bits) :
    skipOpen (extraBits extra) (extraBodyU extra ++ rest) = some rest := by
  induction extra with
  | nil => simp [extraBits, extraBodyU, skipOpen]
  | cons e extra ih =>
    cases e with
    | none =>
      simp only [extraWf] at hw
      simpa [extraBits, extraBodyU, skipOpen] using ih hw
    | some p =>
      simp only [extraWf, Bool.and_eq_true, List.all_eq_true, decide_eq_true_eq] at hw
      have hwf : Bytes.wf (if p.isEmpty then [0] else p) := by
        intro b hb
        split at hb
        · simp at hb; omega
        · exact hw.1 b hb
      simp only [extraBits, extraBodyU, skipOpen, List.append_assoc]
      rw [decOctetsUnc_enc _ hwf]
      simpa using ih hw.2

theorem extraBits_length (extra : List (Option Bytes)) : (extraBits extra).length = extra.length := by
  fun_induction extraBits extra <;> simp [*]

/-- what the receiver needs to know about the bitmap `bm` and the extra bits `xb` sent instead of `abits` -/
theorem versionU_spec (abits : Bits) (s : VSt) (rest : Bits) (hn : abits.length < 16384) :
    Compat abits (versionU abits s).1 ∧
    ((versionU abits s).1.any id = false → abits.any id = false) ∧
    skipOpen ((versionU abits s).1.drop abits.length) ((versionU abits s).2.1 ++ rest) = some rest ∧
    (versionU abits s).1.length < 16384 := by
  unfold versionU
  simp only []
  split
  · obtain ⟨h1, h2, h3⟩ := shorten_spec (needLen abits + s.param % (abits.length - needLen abits)) abits
    exact ⟨h1, h3, by rw [List.drop_eq_nil_of_le h2]; simp [skipOpen], Nat.lt_of_le_of_lt h2 hn⟩
  · split
    · rename_i _ hq
      -- the position is only chosen where the contents are octets and the bitmap stays below 16K
      have hc : extraWf s.extra = true ∧ abits.length + s.extra.length < 16384 := by
        have := site_true _ _ _ hq
        simp only [Bool.and_eq_true, decide_eq_true_eq] at this
        exact ⟨this.1.2, this.2⟩
      refine ⟨compat_append _ _, ?_, ?_, ?_⟩
      · intro h; rw [List.any_append] at h; simp only [Bool.or_eq_false_iff] at h; exact h.1
      · rw [List.drop_left]; exact skipOpen_extraU _ hc.1 _
      · show (abits ++ extraBits s.extra).length < 16384
        rw [List.length_append, extraBits_length]; exact hc.2
    · refine ⟨by simpa using compat_append abits [], id, by simp [skipOpen], hn⟩

theorem any_true_length (bm : List Bool) (h : bm.any id = true) : 1 ≤ bm.length := by
  cases bm with
  | nil => simp at h
  | cons b bs => simp

theorem rtu_seq (root : List PTy) (rattrs : List Attr) (ext : Bool) (adds : List PTy) (aattrs : List Attr)
    (ihr : ∀ m ∈ root, RTU m) (iha : ∀ m ∈ adds, RTU m)
    (hl : rattrs.length = root.length) (hn : adds.length < 16384) : RTU (.seq root rattrs ext adds aattrs) := by
  intro v s s' bits rest hc he
  cases v with
  | seq vs =>
    simp only [ucanonP, Bool.and_eq_true] at hc
    simp only [encUV] at he
    split at he
    · cases he
    rename_i p b r s1 h1
    split at he
    · cases he
    rename_i abits ab s2 h2
    obtain ⟨hR, rfl, hpl⟩ := decRoot_encRootU root ihr rattrs vs s s1 p b r hl hc.1 h1
    obtain ⟨hbl, hnoadd, hA⟩ := encAddsU_spec adds iha _ s1 s2 abits ab hc.2 h2
    have htd : vs.take root.length ++ vs.drop root.length = vs := List.take_append_drop _ _
    cases ext with
    | false =>
      simp only [Bool.false_eq_true, if_false] at he
      split at he <;> cases he
      rename_i hem
      obtain rfl := List.isEmpty_iff.mp hem
      obtain rfl := List.eq_nil_of_length_eq_zero hbl
      simp only [decUPER, Bool.false_eq_true, if_false, List.append_assoc, rdBools_append _ p _ hpl, hR, ← hnoadd rfl, htd]
    | true =>
      simp only [if_true] at he
      obtain ⟨hcompat, hnone, hskip, hlen⟩ := versionU_spec abits s2 rest (by omega)
      generalize (versionU abits s2).1 = bm at he hcompat hnone hskip hlen
      generalize (versionU abits s2).2.1 = xb at he hskip
      split at he <;> cases he
      · rename_i hany
        rw [hbl] at hskip
        have hN := decNormallySmallLength_enc bm.length (any_true_length bm hany) hlen (bm ++ (ab ++ (xb ++ rest)))
        simp only [decUPER, if_true, List.cons_append, rdBit, List.append_assoc, rdBools_append _ p _ hpl, hR, hN,
          rdBools_append _ bm _ rfl, hA bm _ rest hcompat hskip, htd]
      · rename_i hany
        simp only [decUPER, if_true, List.cons_append, rdBit, List.append_assoc, rdBools_append _ p _ hpl, hR,
          Bool.false_eq_true, if_false, ← hnoadd (hnone (by simpa using hany)), htd]
  | _ => cases hc

theorem decAlt_encAltU (alts : List PTy) (ih : ∀ m ∈ alts, RTU m) :
    ∀ (i : Nat) (v : Val) (s s' : VSt) (x rest : Bits), ucanonAltP alts i v = true → encAltU alts i v s = some (x, s') →
      decAlt alts i (x ++ rest) = some (v, rest) := by
  induction alts with
  | nil => intro i v s s' x rest hc; simp [ucanonAltP] at hc
  | cons a as iha =>
    intro i v s s' x rest hc he
    cases i with
    | zero =>
      rw [ucanonAltP] at hc
      rw [encAltU_zero] at he
      rw [decAlt_zero]
      exact ih a (by simp) v s s' x rest hc he
    | succ i =>
      rw [ucanonAltP] at hc
      rw [encAltU] at he
      rw [decAlt]
      exact iha (fun m hm => ih m (by simp [hm])) i v s s' x rest hc he

theorem rtu_choice (root : List PTy) (order : List Nat) (ext : Bool) (adds : List PTy)
    (ihr : ∀ m ∈ root, RTU m) (iha : ∀ m ∈ adds, RTU m) (ho : order.length ≤ root.length) :
    RTU (.choice root order ext adds) := by
  intro v s s' bits rest hc he
  cases v with
  | choice i v =>
    simp only [ucanonP] at hc
    simp only [encUV] at he
    by_cases hi : i < root.length
    · rw [if_pos hi] at hc he
      cases h1 : encAltU root i v s with
      | none => simp [h1] at he
      | some p1 =>
        obtain ⟨x, s1⟩ := p1
        simp only [h1] at he
        by_cases hm : order.contains i = true
        · rw [if_pos hm] at he
          simp only [Option.some.injEq, Prod.mk.injEq] at he
          obtain ⟨rfl, _⟩ := he
          have hmem : i ∈ order := by simpa using hm
          have hidx : order.idxOf i < order.length := List.idxOf_lt_length_iff.mpr hmem
          have hA := decAlt_encAltU root ihr i v s s1 x rest hc h1
          have hB := rdBits_constrained 0 ((root.length : Int) - 1) (order.idxOf i) root.length (order.idxOf i)
            (by omega) (by omega) (by omega) (x ++ rest)
          cases ext with
          | false =>
            simp only [decUPER, Bool.false_eq_true, if_false, List.nil_append, List.append_assoc, hB,
              getElem?_idxOf order i hmem, hA]
          | true =>
            simp only [decUPER, if_true, List.cons_append, List.nil_append, rdBit, List.append_assoc, hB,
              getElem?_idxOf order i hmem, hA]
        · rw [if_neg hm] at he; simp at he
    · rw [if_neg hi] at hc he
      cases ext with
      | false => simp at he
      | true =>
        simp only [if_true] at he
        cases h1 : encAltU adds (i - root.length) v s with
        | none => simp [h1] at he
        | some p1 =>
          obtain ⟨x, s1⟩ := p1
          simp only [h1, Option.some.injEq, Prod.mk.injEq] at he
          obtain ⟨rfl, _⟩ := he
          obtain ⟨pad, hp, _⟩ := complete_spec x
          have hA := decAlt_encAltU adds iha (i - root.length) v s s1 x pad hc h1
          have e : root.length + (i - root.length) = i := by omega
          simp only [decUPER, if_true, List.cons_append, rdBit, List.append_assoc, decNormallySmall_enc,
            decOctetsUnc_openType, hp, hA, e]
  | _ => cases hc

/-- a successful `mapEncU` pairs every value with an encoding that the decoder reads back -/
theorem encListU_spec (e : PTy) (ih : RTU e) (vs : List Val) (s s' : VSt) (items : List Bits)
    (hc : vs.all (ucanonP e) = true) (h : mapEncU (encUV e) vs s = some (items, s')) :
    ∃ ps : List (Val × Bits), ps.map Prod.fst = vs ∧ ps.map Prod.snd = items ∧
      ∀ p ∈ ps, ∀ r, decUPER e (p.2 ++ r) = some (p.1, r) := by
  fun_induction mapEncU (encUV e) vs s generalizing items with
  | case1 =>
    obtain ⟨rfl, _⟩ := Prod.mk.inj (Option.some.inj h)
    exact ⟨[], rfl, rfl, fun _ hp => nomatch hp⟩
  | case3 v vs s x s1 h1 xs s2 h2 ihvs =>
    obtain ⟨rfl, rfl⟩ := Prod.mk.inj (Option.some.inj h)
    simp only [List.all_cons, Bool.and_eq_true] at hc
    obtain ⟨ps, rfl, rfl, hps⟩ := ihvs xs hc.2 h2
    exact ⟨(v, x) :: ps, rfl, rfl, List.forall_mem_cons.mpr ⟨fun r => ih v s s1 x r hc.1 h1, hps⟩⟩
  | case2 | case4 => cases h

theorem rtu_seqOf (sz : SizeC) (e : PTy) (ih : RTU e) : RTU (.seqOf sz e) := by
  intro v s s' bits rest hc he
  cases v with
  | list vs =>
    simp only [ucanonP] at hc
    simp only [encUV] at he
    split at he
    · cases he
    rename_i items s1 hl
    simp only [Option.map_eq_some_iff, Prod.mk.injEq] at he
    obtain ⟨x, hs, rfl, _⟩ := he
    obtain ⟨ps, rfl, rfl, hps⟩ := encListU_spec e ih vs s s1 items hc hl
    simp only [decUPER, decSized_enc sz _ _ ps x rest (fun _ => hps) (fun _ => hps) hs]
  | _ => cases hc

/-- BASIC-PER does not sort: `encUV` and `decUPER` treat SET OF exactly like SEQUENCE OF -/
theorem rtu_setOf (sz : SizeC) (e : PTy) (ih : RTU e) : RTU (.setOf sz e) := by
  intro v s s' bits rest hc he
  cases v with
  | list vs =>
    have := rtu_seqOf sz e ih (.list vs) s s' bits rest hc ((encUV_setOf sz e vs s).symm.trans he)
    simpa only [decUPER] using this
  | _ => cases hc

/-- both sides compute: `encUV` by its structural recursion, `encUPER` once its defining equation is unfolded -/
theorem encUV_leaf (t : PTy) (hl : isLeaf t = true) (v : Val) (s : VSt) :
    encUV t v s = (encUPER t v).map fun x => (x, s) := by
  rw [encUPER.eq_def]
  cases t with
  | seq | choice | seqOf | setOf => cases hl
  | _ => cases v <;> rfl

theorem ucanonP_leaf (t : PTy) (hl : isLeaf t = true) (v : Val) : ucanonP t v = canonV t v := by
  cases t with
  | seq | choice | seqOf | setOf => cases hl
  | _ => rfl

/-- a type without components is encoded by the canonical encoder: its round trip is `L2Uper.rt_leaf` -/
theorem rtu_leaf (t : PTy) (hl : isLeaf t = true) : RTU t := by
  intro v s s' bits rest hc h
  rw [encUV_leaf t hl, Option.map_eq_some_iff] at h
  obtain ⟨x, hx, he⟩ := h
  obtain ⟨rfl, _⟩ := Prod.mk.inj he
  exact rt_leaf t hl v x rest (by rw [← ucanonP_leaf t hl]; exact hc) hx

/-- the reference UPER decoder accepts every output of the variant encoder, for every selector state -/
theorem rtu_all : ∀ t, wfP t = true → RTU t := by
  intro t
  refine PTy.rec (motive_1 := fun t => wfP t = true → RTU t) (motive_2 := fun ms => wfPs ms = true → ∀ m ∈ ms, RTU m)
    ?_ ?_ ?_ ?_ ?_ ?_ ?_ ?_ ?_ ?seq ?choice ?seqOf ?setOf ?nil ?cons t
  case seq =>
    intro root rattrs ext adds aattrs ihr iha hw
    simp only [wfP, Bool.and_eq_true, beq_iff_eq, decide_eq_true_eq] at hw
    exact rtu_seq root rattrs ext adds aattrs (ihr hw.1.1.1) (iha hw.1.1.2) hw.1.2 hw.2
  case choice =>
    intro root order ext adds ihr iha hw
    simp only [wfP, Bool.and_eq_true, decide_eq_true_eq] at hw
    exact rtu_choice root order ext adds (ihr hw.1.1) (iha hw.1.2) hw.2
  case seqOf => exact fun s e ih hw => rtu_seqOf s e (ih (by simpa only [wfP] using hw))
  case setOf => exact fun s e ih hw => rtu_setOf s e (ih (by simpa only [wfP] using hw))
  case nil => exact fun _ _ h => nomatch h
  case cons =>
    intro m ms h1 h2 hw
    simp only [wfPs, Bool.and_eq_true] at hw
    exact List.forall_mem_cons.mpr ⟨h1 hw.1, h2 hw.2⟩
  all_goals intros; exact rtu_leaf _ rfl

theorem versionU_none (abits : Bits) (s : VSt) (hs : s.kind = .none) : versionU abits s = (abits, [], s) := by
  unfold versionU
  simp only [site_none s hs .older (by decide), site_none s hs .newer (by decide)]
  simp

/-- the statement of `nu_all` for one type: without a variation `encUV` is the canonical encoder and leaves the
    selector state alone -/
def NU (t : PTy) : Prop :=
  ∀ (v : Val) (s : VSt), s.kind = .none → canonV t v = true → encUV t v s = (encUPER t v).map fun x => (x, s)

/-- `NU` at one selector state: without a variation the state is handed on unchanged, so the induction fixes it -/
def NUat (s : VSt) (t : PTy) : Prop := ∀ v, canonV t v = true → encUV t v s = (encUPER t v).map fun x => (x, s)

/-- `NUat` for a list of types, as root components, as extension additions and as alternatives: the motive of
    `PTy.rec` for lists, so that the three list encoders need no induction of their own -/
def NUs (s : VSt) (ms : List PTy) : Prop :=
  (∀ as vs,
    (canonRoot ms as vs = true → encRootU ms as vs s = (encRoot ms as vs).map fun q => (q.1, q.2.1, q.2.2, s)) ∧
    (canonAdds ms as vs = true → encAddsU ms vs s = (encAdds ms as vs).map fun q => (q.1, q.2, s))) ∧
  ∀ i v, canonAlt ms i v = true → encAltU ms i v s = (encAlt ms i v).map fun x => (x, s)

theorem nus_cons (s : VSt) (m : PTy) (ms : List PTy)
    (hm : NUat s m) (hms : NUs s ms) : NUs s (m :: ms) := by
  refine ⟨fun as vs => ?_, fun i v hc => ?_⟩
  · rcases as with _ | ⟨a, as⟩
    · simp [canonRoot, canonAdds]
    rcases vs with _ | ⟨v, vs⟩
    · simp [canonRoot, canonAdds]
    obtain ⟨ihr, iha⟩ := hms.1 as vs
    simp only [canonRoot, canonAdds, Bool.and_eq_true, Bool.or_eq_true, Bool.not_eq_true', encRootU, encAddsU, isAbs_eq]
    rcases absent_or v with rfl | hab
    · simp only [isAbsent, if_true, encRoot_absent, encAdds_absent]
      refine ⟨fun hc => ?_, fun hc => ?_⟩
      · rw [ihr hc.2]; cases a.optional <;> cases encRoot ms as vs <;> simp
      · rw [iha hc.2]; cases encAdds ms as vs <;> simp
    · rw [encRoot_present m ms a as v vs hab]
      simp only [hab, Bool.false_eq_true, if_false, false_or]
      refine ⟨fun hc => ?_, fun hc => ?_⟩
      · rw [hc.1.1, hm v hc.1.2]
        cases encUPER m v with
        | none => simp
        | some x => simp only [Option.map_some, ihr hc.2]; cases encRoot ms as vs <;> simp
      · rw [encAdds_present m ms a as v vs hab hc.1.1, hm v hc.1.2]
        cases encUPER m v with
        | none => simp
        | some x => simp only [Option.map_some, iha hc.2]; cases encAdds ms as vs <;> simp
  · cases i with
    | zero => rw [canonAlt] at hc; rw [encAltU_zero, encAlt_zero]; exact hm v hc
    | succ i => rw [canonAlt] at hc; rw [encAltU, encAlt]; exact hms.2 i v hc

theorem mapEncU_none (e : PTy) (s : VSt) (ih : NUat s e) :
    ∀ vs : List Val, vs.all (canonV e) = true → mapEncU (encUV e) vs s = (encList e vs).map fun x => (x, s) := by
  intro vs
  induction vs with
  | nil => intro _; simp [mapEncU, encList_nil]
  | cons v vs ihvs =>
    intro hc
    simp only [List.all_cons, Bool.and_eq_true] at hc
    simp only [mapEncU, encList, ih v hc.1]
    cases encUPER e v with
    | none => simp
    | some x =>
      simp only [Option.map_some, ihvs hc.2]
      cases encList e vs <;> simp

theorem nu_fixed (s : VSt) (hs : s.kind = .none) : ∀ t, NUat s t := by
  intro t
  refine PTy.rec (motive_1 := NUat s) (motive_2 := NUs s) ?_ ?_ ?_ ?_ ?_ ?_ ?_ ?_ ?_ ?seq ?choice ?seqOf ?setOf ?nil (nus_cons s) t
  case seq =>
    intro root rattrs ext adds aattrs hr ha v hc
    cases v with
    | seq vs =>
      simp only [canonV, Bool.and_eq_true] at hc
      simp only [encUV, encUPER, (hr.1 _ _).1 hc.1]
      cases h1 : encRoot root rattrs vs with
      | none => simp
      | some res =>
        obtain ⟨p, b, r⟩ := res
        obtain rfl := encRoot_rest root rattrs vs p b r h1
        simp only [Option.map_some, (ha.1 _ _).2 hc.2]
        cases encAdds adds aattrs (vs.drop root.length) with
        | none => simp
        | some res2 =>
          simp only [Option.map_some, versionU_none _ s hs]
          -- the same tree of `if`s on both sides
          simp only [apply_ite (Option.map fun x : Bits => (x, s)), Option.map_some, Option.map_none, List.append_nil]
    | _ => cases hc
  case choice =>
    intro root order ext adds hr ha v hc
    cases v with
    | choice i x =>
      simp only [canonV] at hc
      simp only [encUV, encUPER]
      split at hc
      · rename_i hi
        rw [if_pos hi, if_pos hi, hr.2 i x hc]
        cases encAlt root i x with
        | none => simp
        | some y => simp only [Option.map_some]; split <;> simp
      · rename_i hi
        rw [if_neg hi, if_neg hi]
        split
        · rw [ha.2 _ x hc]
          cases encAlt adds (i - root.length) x <;> simp
        · rfl
    | _ => cases hc
  case seqOf =>
    intro sz e ih v hc
    cases v with
    | list vs =>
      simp only [canonV] at hc
      simp only [encUV, encUPER, mapEncU_none e s ih vs hc]
      cases encList e vs <;> simp
    | _ => cases hc
  case setOf =>
    intro sz e ih v hc
    cases v with
    | list vs =>
      simp only [canonV, Bool.and_eq_true] at hc
      simp only [encUV, encUPER, mapEncU_none e s ih vs hc.1]
      have hs2 := hc.2
      cases hl : encList e vs with
      | none => simp
      | some items =>
        rw [hl] at hs2
        have : canonicalSetOf items = items := by simpa [sortedItems] using hs2
        simp [this]
    | _ => cases hc
  case nil =>
    exact ⟨fun as vs => ⟨fun _ => by simp [encRootU_nil, encRoot_nil], fun _ => by cases vs <;> simp [encAddsU, encAdds]⟩,
      fun i v hc => by simp [canonAlt] at hc⟩
  all_goals intros; exact fun v _ => encUV_leaf _ rfl v s

theorem nu_all : ∀ t, NU t := fun t v s hs => nu_fixed s hs t v

end Asn1c.Proofs.L2UperVariants
