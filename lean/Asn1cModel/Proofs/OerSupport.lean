import Asn1cModel.Impl.OerSupport
import Asn1cModel.Spec.Oer
import Asn1cModel.Proofs.Integer
/-
  oer_support.c and INTEGER_oer.c against `Spec.Oer`.  Length determinant: the accumulation loop returns `ofBE` of the
  octets it walks (`accumLen_eq`), which gives the reader on the long form (`fetchLength_long`) and inside any buffer
  (`fetchLength_in_bounds`); `sigOctets_spec` says which long form the serializer picks.  INTEGER: the encoder is one
  equation on the stripped contents (`intEncodeOer_eq`), the decoder is the length, then `decodeBody`
  (`intDecodeOer_eq`; `intDecodeOer_elim`: all it can return).  `oerContent` is what the decoder stores; padding and
  stripping keep the value (`padded_val`, `oerContent_eq_strip`), so the round trip returns the canonical contents
  (`intDecodeOer_intEncodeOer`).
-/
namespace Asn1c.Proofs.OerSupport
open Asn1c Asn1c.Impl.OerSupport

theorem skipZeros_ne_none (buf : Bytes) (fuel b bend : Nat) (h : bend ≤ buf.length) :
    skipZeros buf fuel b bend ≠ none := by
  fun_induction skipZeros buf fuel b bend with
  | case2 fuel b bend hb hx => exact absurd hx (by rw [List.getElem?_eq_getElem (by omega)]; nofun)
  | case3 fuel b bend hb hx ih => exact ih h
  | case1 | case4 | case5 => nofun

theorem accumLen_eq (buf : Bytes) (fuel b bend len : Nat) (h : bend ≤ buf.length) (hf : bend - b ≤ fuel) :
    accumLen buf fuel b bend len = some (ofBE len ((buf.drop b).take (bend - b))) := by
  fun_induction accumLen buf fuel b bend len with
  | case1 => rw [Nat.le_zero.1 hf]; rfl
  | case2 fuel b bend len hb hx => exact absurd hx (by rw [List.getElem?_eq_getElem (by omega)]; nofun)
  | case3 fuel b bend len hb x hx ih =>
    obtain ⟨hlt, rfl⟩ := List.getElem?_eq_some_iff.1 hx
    rw [ih h (by omega), List.drop_eq_getElem_cons hlt, show bend - b = bend - (b + 1) + 1 by omega]
    rfl
  | case4 fuel b bend len hb => rw [show bend - b = 0 by omega]; rfl

theorem fetchLength_in_bounds (buf : Bytes) :
    fetchLength buf ≠ .oob ∧ ∀ len used, fetchLength buf = .ok len used → 1 ≤ used ∧ used ≤ buf.length := by
  fun_cases fetchLength buf with
  | case1 | case4 | case6 | case8 => exact ⟨nofun, nofun⟩
  | case2 h0 hx => exact absurd hx (by rw [List.getElem?_eq_getElem (by omega)]; nofun)
  | case5 h0 _ _ _ ll hm bend hx => exact absurd hx (skipZeros_ne_none buf ll 1 bend (by omega))
  | case7 h0 _ _ _ ll hm bend b _ _ hx =>
    exact absurd hx (by rw [accumLen_eq buf _ b bend 0 (by omega) (Nat.le_refl _)]; nofun)
  | case3 h0 | case9 h0 _ _ _ ll hm =>
    exact ⟨nofun, fun len used h => by obtain ⟨_, rfl⟩ := LenRes.ok.inj h; omega⟩

theorem fetchLength_long (b : Nat) (bs rest : Bytes) (hb : b ≠ 0) (hk : bs.length < 8)
    (hn : ofBE 0 (b :: bs) ≤ 2 ^ 63 - 1) :
    fetchLength ((128 + (bs.length + 1)) :: (b :: bs) ++ rest) = .ok (ofBE 0 (b :: bs)) (bs.length + 2) := by
  have e1 : (128 + (bs.length + 1)) / 128 % 2 ≠ 0 := by omega
  have e2 : (128 + (bs.length + 1)) % 128 = bs.length + 1 := by omega
  unfold fetchLength
  simp only [List.cons_append, List.length_cons, List.getElem?_cons_zero, e2]
  rw [if_neg (by omega), if_neg e1, if_neg (by simp only [List.length_append]; omega), skipZeros, if_pos (by omega)]
  simp only [List.getElem?_cons_succ, List.getElem?_cons_zero, if_neg hb]
  rw [if_neg (by omega), accumLen_eq _ _ _ _ _ (by simp only [List.length_cons, List.length_append]; omega) (Nat.le_refl _),
    Nat.add_sub_cancel_left, List.drop_one, List.tail_cons, ← List.cons_append,
    List.take_left' (List.length_cons : (b :: bs).length = _)]
  simp only
  rw [if_neg (by omega)]

/-- `n / 2 ^ (8 * j) % 256` is how `sigOctets` spells octet `j` of `n`: the top octet below `256 ^ (j + 1)` -/
theorem top_octet_ne_zero (j : Nat) {n : Nat} (h : n < 256 ^ (j + 1)) :
    n / 2 ^ (8 * j) % 256 ≠ 0 ↔ 256 ^ j ≤ n := by
  have hp : 0 < 256 ^ j := Nat.pos_of_ne_zero (by simp)
  rw [show 2 ^ (8 * j) = 256 ^ j from Nat.pow_mul 2 8 j,
    Nat.mod_eq_of_lt (Nat.div_lt_of_lt_mul (by rwa [Nat.pow_succ] at h)), ← Nat.pos_iff_ne_zero, Nat.div_pos_iff]
  exact ⟨fun h => h.2, fun h => ⟨hp, h⟩⟩

/-- one round of the skip-leading-zeros loop of `oer_serialize_length`: octet `j` is looked at when the octets above
    it are zero (`n < 256 ^ (j + 1)`); it ends the loop with `j + 1` octets exactly when `256 ^ j ≤ n` -/
theorem sigOctets_step (j : Nat) {n x : Nat} (hj : j < 8) (h : n < 256 ^ (j + 1))
    (hx : n < 256 ^ j → ∃ k, k < 8 ∧ 256 ^ k ≤ n ∧ n < 256 ^ (k + 1) ∧ x = k + 1) :
    ∃ k, k < 8 ∧ 256 ^ k ≤ n ∧ n < 256 ^ (k + 1) ∧ (if n / 2 ^ (8 * j) % 256 ≠ 0 then j + 1 else x) = k + 1 := by
  by_cases c : 256 ^ j ≤ n
  · exact ⟨j, hj, c, h, if_pos ((top_octet_ne_zero j h).2 c)⟩
  · rw [if_neg (mt (top_octet_ne_zero j h).1 c)]
    exact hx (Nat.lt_of_not_le c)

theorem sigOctets_spec (n : Nat) (h64 : n < 2 ^ 64) (h1 : 1 ≤ n) :
    ∃ k, k < 8 ∧ 256 ^ k ≤ n ∧ n < 256 ^ (k + 1) ∧ sigOctets n = k + 1 :=
  sigOctets_step 7 (by decide) h64 fun h7 => sigOctets_step 6 (by decide) h7 fun h6 =>
  sigOctets_step 5 (by decide) h6 fun h5 => sigOctets_step 4 (by decide) h5 fun h4 =>
  sigOctets_step 3 (by decide) h4 fun h3 => sigOctets_step 2 (by decide) h3 fun h2 =>
  sigOctets_step 1 (by decide) h2 fun h1' => ⟨0, by decide, h1, h1', rfl⟩

theorem fetchLength_serialize (n : Nat) (rest : Bytes) (hn : n ≤ 2 ^ 63 - 1) :
    fetchLength (serializeLength n ++ rest) = .ok n (serializeLength n).length := by
  unfold serializeLength
  split
  · rename_i h
    rw [List.singleton_append, fetchLength, if_neg (by simp), List.getElem?_cons_zero]
    simp only
    rw [if_pos (by omega)]
    rfl
  · obtain ⟨k, hk, hlo, hhi, hs⟩ := sigOctets_spec n (by omega) (by omega)
    -- the long form carries `toBEn (k + 1) n`: octets that denote `n`, the first of them not zero
    have hv : ofBE 0 (toBEn (k + 1) n) = n := Integer.ofBE_toBEn_lt hhi
    have htop : n / 256 ^ k % 256 ≠ 0 := Nat.pow_mul 2 8 k ▸ (top_octet_ne_zero k hhi).2 hlo
    have := fetchLength_long _ (toBEn k n) rest htop (by rwa [Integer.toBEn_length]) (by rw [← toBEn, hv]; exact hn)
    rw [← toBEn, hv, Integer.toBEn_length] at this
    rw [hs, this, List.length_cons, Integer.toBEn_length]

theorem serializeLength_eq_spec (n : Nat) (h : n < 2 ^ 64) : serializeLength n = Spec.Oer.length n := by
  unfold serializeLength Spec.Oer.length
  split
  · rfl
  · rename_i hn
    obtain ⟨k, _, h1, h2, h3⟩ := sigOctets_spec n h (by omega)
    rw [Real.toBE_eq_toBEn k n h1 h2, h3, Integer.toBEn_length]

open Asn1c.Impl.Integer Asn1c.Spec Asn1c.Proofs.Integer

theorem stripZeros_ne_nil (bs : Bytes) (h : bs ≠ []) : stripZeros bs ≠ [] := by
  fun_induction stripZeros bs
  · rename_i b bs ih; exact ih (by simp)
  · exact h

theorem stripZeros_spec (bs : Bytes) (h : bs.wf) :
    (stripZeros bs).wf ∧ Spec.Oer.MinimalUns (stripZeros bs) ∧
    unsVal (stripZeros bs) = unsVal bs ∧ (stripZeros bs).length ≤ bs.length := by
  fun_induction stripZeros bs
  · rename_i b bs ih
    obtain ⟨a1, a2, a3, a4⟩ := ih (wf_tail h)
    refine ⟨a1, a2, ?_, by simp only [List.length_cons] at *; omega⟩
    rw [a3]; unfold unsVal; rw [ofBE_cons 0]; simp
  · rename_i bs hno
    refine ⟨h, ?_, rfl, Nat.le_refl _⟩
    unfold Spec.Oer.MinimalUns
    split
    · rename_i b rest; exact hno b rest rfl
    · trivial

theorem intEncodeOer_eq (width : Nat) (positive : Bool) (b0 : Nat) (r buf : Bytes)
    (hbuf : (if positive then stripZeros (b0 :: r) else strip (b0 :: r)) = buf) :
    intEncodeOer width positive (b0 :: r) =
      if positive = true ∧ b0 ≥ 128 then none
      else if width = 0 then some (serializeLength buf.length ++ buf)
      else if width < buf.length then none
      else some (List.replicate (width - buf.length) (if b0 ≥ 128 then 255 else 0) ++ buf) := by
  simp only [intEncodeOer, hbuf]
  by_cases c : positive = true ∧ b0 ≥ 128
  · rw [if_pos (by simpa using c), if_pos c]
  · rw [if_neg (by simpa using c), if_neg c]
    by_cases hw : width = 0
    · subst hw; simp
    · simp only [ne_eq, hw, not_false_eq_true, if_true, if_false, List.nil_append]

/-- the octets `buf` that `INTEGER_encode_oer` keeps of `st = b0 :: r` still denote its value (read as unsigned under
    `positive`), under any number of padding octets in front -/
theorem padded_val (positive : Bool) (b0 : Nat) (r : Bytes) (h : Bytes.wf (b0 :: r))
    (hs : ¬ (positive = true ∧ b0 ≥ 128)) (m : Nat) (buf : Bytes)
    (hbuf : (if positive then stripZeros (b0 :: r) else strip (b0 :: r)) = buf) :
    (if positive then (unsVal (List.replicate m (if b0 ≥ 128 then 255 else 0) ++ buf) : Int)
      else twosVal (List.replicate m (if b0 ≥ 128 then 255 else 0) ++ buf)) = twosVal (b0 :: r) := by
  subst hbuf
  cases positive with
  | false =>
    have hc : (strip (b0 :: r)).headD 0 ≥ 128 ↔ b0 ≥ 128 := strip_sign (b0 :: r)
    rw [if_neg Bool.false_ne_true, if_neg Bool.false_ne_true, ← ite_congr (propext hc) (fun _ => rfl) fun _ => rfl,
      twosVal_signext _ _ (strip_ne_nil _ (by simp)), strip_val _ h]
  | true =>
    have hb : b0 < 128 := by simpa using hs
    rw [if_pos rfl, if_pos rfl, if_neg (by omega), unsVal, Real.ofBE_leading_zeros, ← unsVal,
      (stripZeros_spec _ h).2.2.1, twosVal_of_not_isNegative (b0 :: r) (decide_eq_false (Nat.not_le.2 hb))]

/-- the octets `INTEGER_decode_oer` stores for the wire octets `body` (F36 repaired): without the superfluous leading
    octets; an unsigned value whose top bit is set gets a 0 in front -/
def oerContent (positive : Bool) (body : Bytes) : Bytes :=
  if positive then (if (stripZeros body).headD 0 / 128 % 2 = 1 then [0] else []) ++ stripZeros body
  else strip body

/-- what `INTEGER_decode_oer` stores (F36 repaired) is what the signed strip loop leaves of octets `l` denoting the value
    read, hence the canonical form of X.690 §8.3.2.  Under `positive`, `l = 0 :: body`: what is left of the zeros in
    front is one 0 exactly when the top bit of the first significant octet is set. -/
theorem oerContent_eq_strip (positive : Bool) (body : Bytes) (h : body.wf) (hne : body ≠ []) :
    ∃ l : Bytes, oerContent positive body = strip l ∧ l.wf ∧ l ≠ [] ∧
      twosVal l = if positive then (unsVal body : Int) else twosVal body := by
  cases positive with
  | false => exact ⟨body, rfl, h, hne, rfl⟩
  | true =>
    refine ⟨0 :: body, ?_, wf_cons (by decide) h, List.cons_ne_nil _ _, twosVal_zero_cons body⟩
    simp only [oerContent, if_true]
    fun_induction stripZeros body with
    | case1 b bs ih =>
      rw [ih (wf_tail h) (by simp)]
      exact (by rw [strip, if_pos (by omega)] : strip (0 :: 0 :: b :: bs) = strip (0 :: b :: bs)).symm
    | case2 bs hno =>
      match bs, hne with
      | b :: bs, _ =>
        have hb : b < 256 := h b (by simp)
        rw [List.headD_cons, strip]
        by_cases c : b < 128
        · rw [if_neg (by omega), if_pos c, List.nil_append]
          exact (strip.eq_3 _ hno (by intro x y e; injection e; omega)).symm
        · rw [if_pos (by omega), if_neg c]; rfl

theorem take_drop_ne_nil (buf : Bytes) (req off : Nat) (h0 : req ≠ 0) (h : ¬ req > buf.length - off) :
    (buf.drop off).take req ≠ [] := by
  intro e
  have := congrArg List.length e
  simp only [List.length_take, List.length_drop, List.length_nil] at this
  omega

/-- what `INTEGER_decode_oer` does once it knows that `req ≠ 0` content octets start at `off` -/
def decodeBody (positive : Bool) (buf : Bytes) (req off : Nat) : IntRes :=
  if req > buf.length - off then .more else .ok (oerContent positive ((buf.drop off).take req)) (off + req)

theorem intDecodeOer_eq (width : Nat) (positive : Bool) (buf : Bytes) :
    intDecodeOer width positive buf =
      if width ≠ 0 then decodeBody positive buf width 0
      else match fetchLength buf with
        | .ok len used => if len = 0 then .fail else decodeBody positive buf len used
        | .more => .more
        | .fail => .fail
        | .oob => .oob := by
  -- with `req ≠ 0` octets there is a first octet to probe
  have go : ∀ req off, req ≠ 0 →
      (if req > buf.length - off then IntRes.more
       else if positive = true then
         match stripZeros ((buf.drop off).take req) with
         | [] => IntRes.oob
         | b :: bs => IntRes.ok ((if b / 128 % 2 = 1 then [0] else []) ++ b :: bs) (off + req)
       else IntRes.ok (strip ((buf.drop off).take req)) (off + req)) = decodeBody positive buf req off := by
    intro req off h0
    unfold decodeBody oerContent
    refine ite_congr rfl (fun _ => rfl) fun hreq => ?_
    cases positive with
    | false => rfl
    | true =>
      match hz : stripZeros ((buf.drop off).take req), stripZeros_ne_nil _ (take_drop_ne_nil buf req off h0 hreq) with
      | b :: bs, _ => rfl
  unfold intDecodeOer
  simp only
  refine ite_congr rfl (go width 0) fun _ => ?_
  cases fetchLength buf with
  | ok len used => exact ite_congr rfl (fun _ => rfl) (go len used)
  | _ => rfl

theorem decodeBody_ok {positive : Bool} {buf c : Bytes} {req off used : Nat} (hb : buf.wf) (h0 : req ≠ 0)
    (h : decodeBody positive buf req off = .ok c used) : c ≠ [] ∧ MinimalTwos c ∧ c.wf := by
  unfold decodeBody at h
  split at h
  · cases h
  · rename_i hreq
    obtain ⟨rfl, _⟩ := IntRes.ok.inj h
    obtain ⟨l, e, lw, lne, _⟩ := oerContent_eq_strip positive _
      (fun x hx => hb x (List.mem_of_mem_drop (List.mem_of_mem_take hx))) (take_drop_ne_nil buf req off h0 hreq)
    rw [e]
    exact ⟨strip_ne_nil l lne, strip_minimal l, strip_wf l lw⟩

theorem intDecodeOer_elim {P : IntRes → Prop} (width : Nat) (positive : Bool) (buf : Bytes) (hm : P .more) (hfl : P .fail)
    (hb : ∀ req off, req ≠ 0 → P (decodeBody positive buf req off)) : P (intDecodeOer width positive buf) := by
  rw [intDecodeOer_eq]
  split
  · exact hb _ _ ‹_›
  · split
    · split
      · exact hfl
      · exact hb _ _ ‹_›
    · exact hm
    · exact hfl
    · exact absurd ‹_› (fetchLength_in_bounds buf).1

theorem intDecodeOer_fixed (width : Nat) (positive : Bool) (out rest : Bytes) (hw : width ≠ 0) (hl : out.length = width) :
    intDecodeOer width positive (out ++ rest) = .ok (oerContent positive out) width := by
  rw [intDecodeOer_eq, if_pos hw, decodeBody, if_neg (by rw [List.length_append]; omega), List.drop_zero, ← hl,
    List.take_left', Nat.zero_add]
  rfl

theorem intDecodeOer_var (positive : Bool) (body rest : Bytes) (hne : body ≠ []) (hl : body.length ≤ 2 ^ 63 - 1) :
    intDecodeOer 0 positive (serializeLength body.length ++ body ++ rest)
      = .ok (oerContent positive body) ((serializeLength body.length).length + body.length) := by
  have hl0 : body.length ≠ 0 := fun e => hne (List.length_eq_zero_iff.1 e)
  rw [intDecodeOer_eq, if_neg (by omega), List.append_assoc, fetchLength_serialize _ _ hl]
  simp only
  rw [if_neg hl0, decodeBody, if_neg (by simp only [List.length_append]; omega), List.drop_left' rfl,
    List.take_left' rfl]

/-- The decoder stores the canonical contents of `st`: what it stores is what the strip loop leaves of octets with the
    value of `st` (`oerContent_eq_strip`, `padded_val`), and that depends on the value alone (`strip_eq_of_val`). -/
theorem intDecodeOer_intEncodeOer (width : Nat) (positive : Bool) (st out rest : Bytes) (h : st.wf)
    (hlen : st.length ≤ 2 ^ 63 - 1) (he : intEncodeOer width positive st = some out) :
    intDecodeOer width positive (out ++ rest) = .ok (strip st) out.length := by
  match st, h, hlen, he with
  | [], _, _, he => simp [intEncodeOer] at he
  | b0 :: r, h, hlen, he =>
    obtain ⟨buf, ebuf, bw, bne, bl⟩ : ∃ buf : Bytes, (if positive then stripZeros (b0 :: r) else strip (b0 :: r)) = buf ∧
        buf.wf ∧ buf ≠ [] ∧ buf.length ≤ (b0 :: r).length := by
      cases positive with
      | false => exact ⟨_, rfl, strip_wf _ h, strip_ne_nil _ (by simp), strip_length_le _⟩
      | true =>
        obtain ⟨z1, _, _, z4⟩ := stripZeros_spec (b0 :: r) h
        exact ⟨_, rfl, z1, stripZeros_ne_nil _ (List.cons_ne_nil _ _), z4⟩
    rw [intEncodeOer_eq _ _ _ _ buf ebuf] at he
    by_cases hs : positive = true ∧ b0 ≥ 128
    · rw [if_pos hs] at he; cases he
    rw [if_neg hs] at he
    -- it is enough that the decoder stores `oerContent` of the contents under some `m` padding octets
    suffices ∃ m, intDecodeOer width positive (out ++ rest) =
        .ok (oerContent positive (List.replicate m (if b0 ≥ 128 then 255 else 0) ++ buf)) out.length by
      obtain ⟨m, hd⟩ := this
      obtain ⟨l, e, lw, lne, lv⟩ := oerContent_eq_strip positive _
        (wf_append (wf_replicate m (if b0 ≥ 128 then 255 else 0) (by split <;> omega)) bw)
        (fun e => bne (List.append_eq_nil_iff.1 e).2)
      rw [hd, e, Native.strip_eq_of_val l _ lw h lne (List.cons_ne_nil _ _)
        (lv.trans (padded_val positive b0 r h hs m buf ebuf))]
    by_cases hw : width = 0
    · -- variable size: length determinant, then the contents
      subst hw
      obtain rfl := Option.some.inj he
      refine ⟨0, ?_⟩
      rw [intDecodeOer_var positive buf rest bne (by omega), List.length_append]
      rfl
    · rw [if_neg hw] at he
      by_cases hlt : width < buf.length
      · rw [if_pos hlt] at he; cases he
      · -- fixed size: the contents, padded to `width` octets
        rw [if_neg hlt] at he
        obtain rfl := Option.some.inj he
        have hol : (List.replicate (width - buf.length) (if b0 ≥ 128 then 255 else 0) ++ buf).length = width := by
          rw [List.length_append, List.length_replicate]; omega
        exact ⟨_, by rw [intDecodeOer_fixed width positive _ rest hw hol, hol]⟩

end Asn1c.Proofs.OerSupport
