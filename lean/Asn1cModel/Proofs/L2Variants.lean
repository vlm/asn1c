import Asn1cModel.Proofs.L2Der
/-
  L2: all valid BER trees of a value (`ValidG` / `ValidBER` / `ValidBERo`) and the theorem that
  the interpreter accepts every one of them (C03); the DER tree is one of them, so `interp`
  inverts `toTlv` (C01).  The letters (a)–(g) are those of the list of a BER sender's freedoms at
  the head of Props/C03.lean; the property theorems are in Props/C01.lean and Props/C03.lean.
-/
namespace Asn1c.Proofs.L2Variants
open Asn1c Asn1c.Impl.BerTlv Asn1c.L2 Asn1c.Spec Asn1c.Proofs.L2Tlv Asn1c.Proofs.L2Der Asn1c.Proofs.Sort

/-- `Wrapped outer y x`: `x` is `y` inside the explicit wrappers `outer` (outermost first), each a
    constructed node with exactly one child and an **arbitrary** length form -/
inductive Wrapped : List Tag → Tlv → Tlv → Prop
  | nil {y : Tlv} : Wrapped [] y y
  | cons {t : Tag} {ts : List Tag} {f : Option Nat} {y x : Tlv} :
      Wrapped ts y x → Wrapped (t :: ts) y (.cons t f [x])

theorem wrapped_wrapAround (outer : List Tag) (y : Tlv) : Wrapped outer y (wrapAround outer y) := by
  induction outer with
  | nil => exact .nil
  | cons t ts ih => exact .cons ih

theorem unwrapAround_wrapped {outer : List Tag} {y x : Tlv} (h : Wrapped outer y x) :
    unwrapAround outer x = some y := by
  induction h with
  | nil => simp [unwrapAround]
  | cons _ ih => simp [unwrapAround, ih]

theorem unwrapTags_wrapped {tags outer : List Tag} {inner : Tag} {y x : Tlv} (ht : tags = outer ++ [inner])
    (h : Wrapped outer y x) (hy : y.tag = inner) : unwrapTags tags x = some y := by
  subst ht
  unfold unwrapTags
  simp [unwrapAround_wrapped h, hy]

theorem wrapped_tag {tags outer : List Tag} {y x : Tlv} (ht : tags = outer ++ [y.tag]) (h : Wrapped outer y x) :
    x.tag ∈ tags.take 1 := by
  subst ht
  cases h with
  | nil => simp
  | cons _ => simp [Tlv.tag]

/-- `ValidPrim p v t y`: `y` (carrying tag `t`) is a valid BER node for the value `v` of kind `p`.
    The length form is never constrained. -/
inductive ValidPrim : Prim → Val → Tag → Tlv → Prop
  /-- (f) TRUE is any non-zero octet -/
  | boolean {t : Tag} {k o : Nat} {b : Bool} : (o != 0) = b → ValidPrim .boolean (.bool b) t (.prim t k [o])
  | null {t : Tag} {k : Nat} : ValidPrim .null .null t (.prim t k [])
  | integer {t : Tag} {k : Nat} {z : Int} : ValidPrim .integer (.int z) t (.prim t k (intOctets z))
  | enumerated {t : Tag} {k : Nat} {z : Int} : ValidPrim .enumerated (.int z) t (.prim t k (intOctets z))
  | real {t : Tag} {k b : Nat} : RealOk b →
      ValidPrim .real (.real b) t (.prim t k (Asn1c.Impl.Real.double2REAL b))
  /-- (b) primitive, or constructed and arbitrarily nested, with the concatenated contents `bs` -/
  | octets {t : Tag} {y : Tlv} {bs : Bytes} : y.tag = t → stringContent y = bs →
      ValidPrim .octets (.octets bs) t y
  /-- primitive BIT STRING; the unused bits of the last octet are arbitrary in BER -/
  | bitsPrim {t : Tag} {k u : Nat} {bs' bs : Bytes} : u ≤ 7 → (bs' = [] → u = 0) → maskLast bs' u = bs →
      ValidPrim .bits (.bits bs u) t (.prim t k (u :: bs'))
  /-- (c) constructed (nested) BIT STRING: only the last segment has unused bits -/
  | bitsCons {t : Tag} {f : Option Nat} {cs : List Tlv} {u : Nat} {bs' bs : Bytes} :
      bitSegments cs = some (bs', u) → maskLast bs' u = bs →
      ValidPrim .bits (.bits bs u) t (.cons t f cs)

theorem validPrim_tag {p : Prim} {v : Val} {t : Tag} {y : Tlv} (h : ValidPrim p v t y) : y.tag = t := by
  cases h <;> first | rfl | assumption

theorem decPrim_valid {p : Prim} {v : Val} {t : Tag} {y : Tlv} (h : ValidPrim p v t y) :
    decPrim p y = some v := by
  cases h with
  | boolean hb => simp [decPrim, hb]
  | null => simp [decPrim]
  | @integer _ _ z | @enumerated _ _ z =>
    cases hq : intOctets z with
    | nil => exact absurd hq (intOctets_ne_nil z)
    | cons b bs => simp only [decPrim]; rw [← hq, twosVal_intOctets]
  | real hb => simp only [decPrim, real_roundtrip _ hb]
  | octets _ hs => subst hs; cases y <;> simp [decPrim]
  | bitsPrim h1 h2 h3 => simp only [decPrim]; rw [if_pos ⟨h1, h2⟩, h3]
  | bitsCons h1 h2 => simp only [decPrim, h1, Option.map_some, h2]

/-- the DER contents are one of the valid forms -/
theorem validPrim_of_primContent {p : Prim} {v : Val} {c : Bytes} {t : Tag}
    (hc : canonPrim p v = true) (h : primContent p v = some c) : ValidPrim p v t (.prim t 0 c) := by
  revert h
  fun_cases primContent p v <;> intro h <;> cases h
  next b => exact .boolean (by cases b <;> rfl)
  next => exact .null
  next => exact .integer
  next => exact .enumerated
  next => exact .real (of_decide_eq_true hc)
  next => exact .octets rfl rfl
  next =>
    obtain ⟨h1, h2, h3⟩ := of_decide_eq_true hc
    rw [h3]
    exact .bitsPrim h1 h2 h3

mutual
/-- `ValidG perm t v x`: `x` is a valid BER tree for the (canonical) value `v` of type `t`.
    No constructor constrains a `form` field (freedom (a)); wrappers are `Wrapped` (g);
    primitive kinds are `ValidPrim` (b), (c), (f); SET children come in any order (d);
    SET OF children come in any order if `perm = true` (e), in the order of the value list if
    `perm = false`. -/
inductive ValidG (perm : Bool) : Ty → Val → Tlv → Prop
  | prim {tags outer : List Tag} {inner : Tag} {p : Prim} {v : Val} {y x : Tlv} :
      tags = outer ++ [inner] → ValidPrim p v inner y → Wrapped outer y x →
      ValidG perm (.prim tags p) v x
  | seq {tags outer : List Tag} {inner : Tag} {ms : List Ty} {attrs : List Attr} {ext : Bool}
      {vs : List Val} {f : Option Nat} {cs : List Tlv} {x : Tlv} :
      tags = outer ++ [inner] → ValidSeqG perm ms attrs vs cs → Wrapped outer (.cons inner f cs) x →
      ValidG perm (.seq tags ms attrs ext) (.seq vs) x
  | set {tags outer : List Tag} {inner : Tag} {ms : List Ty} {attrs : List Attr} {ext : Bool}
      {vs : List Val} {f : Option Nat} {cs cs' : List Tlv} {x : Tlv} :
      tags = outer ++ [inner] → ValidSeqG perm ms attrs vs cs → cs'.Perm cs →
      Wrapped outer (.cons inner f cs') x →
      ValidG perm (.set tags ms attrs ext) (.seq vs) x
  | choice {tags : List Tag} {alts : List Ty} {ext : Bool} {i : Nat} {v : Val} {y x : Tlv} :
      ValidAltG perm alts i v y → Wrapped tags y x →
      ValidG perm (.choice tags alts ext) (.choice i v) x
  | seqOf {tags outer : List Tag} {inner : Tag} {e : Ty} {vs : List Val} {f : Option Nat}
      {cs : List Tlv} {x : Tlv} :
      tags = outer ++ [inner] → ValidListG perm e vs cs → Wrapped outer (.cons inner f cs) x →
      ValidG perm (.seqOf tags e) (.list vs) x
  | setOf {tags outer : List Tag} {inner : Tag} {e : Ty} {vs : List Val} {f : Option Nat}
      {cs cs' : List Tlv} {x : Tlv} :
      tags = outer ++ [inner] → ValidListG perm e vs cs → cs'.Perm cs → (perm = false → cs' = cs) →
      Wrapped outer (.cons inner f cs') x →
      ValidG perm (.setOf tags e) (.list vs) x
/-- components of SEQUENCE / SET in declaration order: absent components are OPTIONAL/DEFAULT and
    contribute nothing, present ones are not the DEFAULT value -/
inductive ValidSeqG (perm : Bool) : List Ty → List Attr → List Val → List Tlv → Prop
  | nil : ValidSeqG perm [] [] [] []
  | absent {m : Ty} {ms : List Ty} {a : Attr} {as : List Attr} {vs : List Val} {cs : List Tlv} :
      a.optional = true → ValidSeqG perm ms as vs cs →
      ValidSeqG perm (m :: ms) (a :: as) (.absent :: vs) cs
  | present {m : Ty} {ms : List Ty} {a : Attr} {as : List Attr} {v : Val} {vs : List Val} {c : Tlv}
      {cs : List Tlv} :
      isAbsent v = false → isDefault a v = false → ValidG perm m v c → ValidSeqG perm ms as vs cs →
      ValidSeqG perm (m :: ms) (a :: as) (v :: vs) (c :: cs)
inductive ValidAltG (perm : Bool) : List Ty → Nat → Val → Tlv → Prop
  | here {a : Ty} {as : List Ty} {v : Val} {y : Tlv} : ValidG perm a v y → ValidAltG perm (a :: as) 0 v y
  | there {a : Ty} {as : List Ty} {i : Nat} {v : Val} {y : Tlv} :
      ValidAltG perm as i v y → ValidAltG perm (a :: as) (i + 1) v y
inductive ValidListG (perm : Bool) : Ty → List Val → List Tlv → Prop
  | nil {e : Ty} : ValidListG perm e [] []
  | cons {e : Ty} {v : Val} {vs : List Val} {c : Tlv} {cs : List Tlv} :
      ValidG perm e v c → ValidListG perm e vs cs → ValidListG perm e (v :: vs) (c :: cs)
end

/-- **all valid BER trees of a value** (SET OF children in any order) -/
abbrev ValidBER : Ty → Val → Tlv → Prop := ValidG true
/-- valid BER trees whose SET OF children are in the order of the value's list -/
abbrev ValidBERo : Ty → Val → Tlv → Prop := ValidG false

theorem take1_append_singleton (outer : List Tag) (inner : Tag) (t : Tag)
    (h : t ∈ (outer ++ [inner]).take 1) : t ∈ (outer ++ [inner]).take 1 := h

theorem validList_iff {p : Bool} {e : Ty} {vs : List Val} {cs : List Tlv} :
    ValidListG p e vs cs ↔ List.Forall₂ (ValidG p e) vs cs := by
  induction vs generalizing cs with
  | nil => exact ⟨fun h => by cases h; exact .nil, fun h => by cases h; exact .nil⟩
  | cons v vs ih =>
    exact ⟨fun h => by cases h with | cons h1 h2 => exact .cons h1 (ih.mp h2),
      fun h => by cases h with | cons h1 h2 => exact .cons h1 (ih.mpr h2)⟩

theorem valid_tag_mem {p : Bool} {t : Ty} {v : Val} {x : Tlv} (h : ValidG p t v x) :
    x.tag ∈ outerTags t :=
  ValidG.rec (motive_1 := fun t _ x _ => x.tag ∈ outerTags t)
    (motive_2 := fun _ _ _ _ _ => True)
    (motive_3 := fun alts _ _ y _ => y.tag ∈ outerTagsAlts alts)
    (motive_4 := fun _ _ _ _ => True)
    (prim := fun ht hp hwr => wrapped_tag (validPrim_tag hp ▸ ht) hwr)
    (seq := fun ht _ hwr _ => wrapped_tag ht hwr)
    (set := fun ht _ _ hwr _ => wrapped_tag ht hwr)
    (choice := fun _ hwr ih => by
      cases hwr with
      | nil => exact ih
      | cons _ => simp [outerTags, Tlv.tag])
    (seqOf := fun ht _ hwr _ => wrapped_tag ht hwr)
    (setOf := fun ht _ _ _ hwr _ => wrapped_tag ht hwr)
    (absent := fun _ _ _ => trivial) (present := fun _ _ _ _ _ _ => trivial)
    (here := fun _ ih => List.mem_append_left _ ih)
    (there := fun _ ih => List.mem_append_right _ ih)
    (cons := fun _ _ _ _ => trivial) trivial trivial h

theorem validAlt_tag {p : Bool} {alts : List Ty} {i : Nat} {v : Val} {y : Tlv} (h : ValidAltG p alts i v y) :
    y.tag ∈ outerTagsAlts alts :=
  valid_tag_mem (.choice (tags := []) (ext := false) h .nil)

theorem validSeq_tags {p : Bool} {ms : List Ty} {as : List Attr} {vs : List Val} {cs : List Tlv}
    (h : ValidSeqG p ms as vs cs) : ∀ c ∈ cs, c.tag ∈ outerTagsAlts ms := by
  induction ms generalizing as vs cs with
  | nil => cases h; intro c hc; cases hc
  | cons m ms ih =>
    simp only [outerTagsAlts, List.mem_append]
    cases h with
    | absent _ h' => exact fun c hc => Or.inr (ih h' c hc)
    | present _ _ h1 h2 =>
      intro c hc
      rcases List.mem_cons.mp hc with rfl | hc
      · exact Or.inl (valid_tag_mem h1)
      · exact Or.inr (ih h2 c hc)

theorem interpSeq_nil (ext : Bool) (cs : List Tlv) :
    interpSeq [] [] ext cs = if cs.isEmpty || ext then some [] else none := by rw [interpSeq]

theorem interpSeq_cons_nil (m : Ty) (ms : List Ty) (a : Attr) (as : List Attr) (ext : Bool) :
    interpSeq (m :: ms) (a :: as) ext [] =
      if a.optional then (interpSeq ms as ext []).map (.absent :: ·) else none := by rw [interpSeq]

theorem interpSeq_cons_cons (m : Ty) (ms : List Ty) (a : Attr) (as : List Attr) (ext : Bool)
    (c : Tlv) (cs : List Tlv) :
    interpSeq (m :: ms) (a :: as) ext (c :: cs) =
      if c.tag ∈ outerTags m then
        match interp m c, interpSeq ms as ext cs with
        | some v, some vs => some (v :: vs)
        | _, _ => none
      else if a.optional then (interpSeq ms as ext (c :: cs)).map (.absent :: ·)
      else none := by
  rw [interpSeq]; simp only [List.contains_iff_mem]; rfl

theorem interpSet_nil (cs : List Tlv) : interpSet [] [] cs = some [] := by rw [interpSet]

theorem interpSet_cons (m : Ty) (ms : List Ty) (a : Attr) (as : List Attr) (cs : List Tlv) :
    interpSet (m :: ms) (a :: as) cs =
      match cs.find? (fun c => decide (c.tag ∈ outerTags m)) with
      | some c =>
        match interp m c, interpSet ms as cs with
        | some v, some vs => some (v :: vs)
        | _, _ => none
      | none => if a.optional then (interpSet ms as cs).map (.absent :: ·) else none := by
  rw [interpSet]; simp only [List.contains_eq_mem]; rfl

theorem interpAlt_cons (a : Ty) (as : List Ty) (i : Nat) (x : Tlv) :
    interpAlt (a :: as) i x =
      if x.tag ∈ outerTags a then (interp a x).map (.choice i) else interpAlt as (i + 1) x := by
  rw [interpAlt]; simp only [List.contains_iff_mem]

theorem interpList_nil (e : Ty) : interpList e [] = some [] := by rw [interpList]
theorem interpList_cons (e : Ty) (c : Tlv) (cs : List Tlv) :
    interpList e (c :: cs) =
      match interp e c, interpList e cs with
      | some v, some vs => some (v :: vs)
      | _, _ => none := by
  rw [interpList]; rfl

theorem validSeq_head_notin {p : Bool} {T : List Tag} {ms : List Ty} {as : List Attr} {vs : List Val}
    {c : Tlv} {cs : List Tlv} (hd : disjFollow T ms as = true) (h : ValidSeqG p ms as vs (c :: cs)) :
    c.tag ∉ T := by
  induction ms generalizing as vs with
  | nil => cases h
  | cons m ms ih =>
    cases h with
    | absent ho h' => exact ih ((disjFollow_cons.mp hd).2 ho) h'
    | present _ _ h1 _ => exact fun hT => (disjFollow_cons.mp hd).1 _ hT (valid_tag_mem h1)

theorem find?_of_unique {α : Type} {p : α → Bool} {l : List α} {x : α} (hx : x ∈ l) (hp : p x = true)
    (hu : ∀ c ∈ l, p c = true → c = x) : l.find? p = some x := by
  cases hf : l.find? p with
  | none => exact absurd hp (by simpa using List.find?_eq_none.mp hf x hx)
  | some c => rw [hu c (List.mem_of_find?_eq_some hf) (List.find?_some hf)]

/-- **the interpreter accepts every valid BER tree** (SET OF children in value order) and returns
    exactly the value.  No canonicity hypothesis: `ValidG` asks of the value what the interpreter needs
    (BIT STRING normalised, REAL in `RealOk`, a present component not its DEFAULT); the order of a SET OF
    list is free. -/
theorem interp_valid_ordered {t : Ty} {v : Val} {x : Tlv} (hw : TyWf t) (h : ValidBERo t v x) :
    interp t x = some v :=
  ValidG.rec (motive_1 := fun t v x _ => TyWf t → interp t x = some v)
    -- For the components of a SET, `all` are the children as they come on the wire and `cs` those of the
    -- components still to be looked up, in declaration order: each of these is on the wire, and a child on
    -- the wire that carries a tag of one of these components is one of them (the others belong to
    -- components already dealt with).
    (motive_2 := fun ms as vs cs _ => (∀ m ∈ ms, TyWf m) →
      (∀ ext, seqDisj ms as = true → interpSeq ms as ext cs = some vs) ∧
      (pairDisj ms = true → ∀ all, (∀ x ∈ cs, x ∈ all) → (∀ c ∈ all, c.tag ∈ outerTagsAlts ms → c ∈ cs) →
        interpSet ms as all = some vs))
    (motive_3 := fun alts i v y _ => (∀ a ∈ alts, TyWf a) → pairDisj alts = true →
      ∀ k, interpAlt alts k y = some (.choice (k + i) v))
    (motive_4 := fun e vs cs _ => TyWf e → interpList e cs = some vs)
    (prim := fun ht hp hwr _ => by
      simp only [interp, unwrapTags_wrapped ht hwr (validPrim_tag hp), decPrim_valid hp])
    (seq := fun ht _ hwr ih hw => by
      obtain ⟨_, _, hwm, _, hdis⟩ := (tyWf_iff _).mp hw
      simp only [interp, unwrapTags_wrapped ht hwr rfl, (ih hwm).1 _ hdis, Option.map_some])
    (set := fun ht _ hperm hwr ih hw => by
      obtain ⟨_, _, hwm, _, hdis⟩ := (tyWf_iff _).mp hw
      simp only [interp, unwrapTags_wrapped ht hwr rfl, (ih hwm).2 hdis _ (fun x hx => hperm.symm.subset hx)
        (fun c hcm _ => hperm.subset hcm), Option.map_some])
    (choice := fun _ hwr ih hw => by
      obtain ⟨_, hwa, hdis⟩ := (tyWf_iff _).mp hw
      simp only [interp, unwrapAround_wrapped hwr, ih hwa hdis 0, Nat.zero_add])
    (seqOf := fun ht _ hwr ih hw => by
      simp only [interp, unwrapTags_wrapped ht hwr rfl, ih ((tyWf_iff _).mp hw).2.2, Option.map_some])
    (setOf := fun ht _ _ heq hwr ih hw => by
      cases heq rfl
      simp only [interp, unwrapTags_wrapped ht hwr rfl, ih ((tyWf_iff _).mp hw).2.2, Option.map_some])
    (absent := fun {m ms a as vs cs} ho h' ih hw => by
      obtain ⟨ihq, iht⟩ := ih fun b hb => hw b (.tail _ hb)
      refine ⟨fun ext hd => ?_, fun hd all hsub hall => ?_⟩
      · obtain ⟨hfol, hd⟩ := seqDisj_cons.mp hd
        have hrec := ihq ext hd
        cases cs with
        | nil => rw [interpSeq_cons_nil, if_pos ho, hrec]; rfl
        | cons c cs' =>
          rw [interpSeq_cons_cons, if_neg (validSeq_head_notin (hfol ho) h'), if_pos ho, hrec]; rfl
      · obtain ⟨hdis, hd⟩ := pairDisj_cons.mp hd
        have hnone : all.find? (fun c => decide (c.tag ∈ outerTags m)) = none :=
          List.find?_eq_none.mpr fun c hcm hp =>
            hdis _ (of_decide_eq_true hp)
              (validSeq_tags h' c (hall c hcm (List.mem_append_left _ (of_decide_eq_true hp))))
        rw [interpSet_cons, hnone]
        simp only []
        rw [iht hd all hsub fun c hcm ht => hall c hcm (List.mem_append_right _ ht)]
        simp only [if_pos ho]; rfl)
    (present := fun {m ms a as v vs x' xs'} _ _ h1 h2 ih1 ih2 hw => by
      obtain ⟨ihq, iht⟩ := ih2 fun b hb => hw b (.tail _ hb)
      have hi := ih1 (hw m (.head _))
      have hmem := valid_tag_mem h1
      refine ⟨fun ext hd => ?_, fun hd all hsub hall => ?_⟩
      · rw [interpSeq_cons_cons, if_pos hmem, hi, ihq ext (seqDisj_cons.mp hd).2]
      · obtain ⟨hdis, hd⟩ := pairDisj_cons.mp hd
        have htags := validSeq_tags h2
        have hfind : all.find? (fun c => decide (c.tag ∈ outerTags m)) = some x' :=
          find?_of_unique (hsub x' (.head _)) (decide_eq_true hmem) fun c hcm hp => by
            rcases List.mem_cons.mp (hall c hcm (List.mem_append_left _ (of_decide_eq_true hp))) with rfl | hcx
            · rfl
            · exact absurd (htags c hcx) (hdis _ (of_decide_eq_true hp))
        rw [interpSet_cons, hfind]
        simp only []
        rw [hi, iht hd all (fun x hx => hsub x (.tail _ hx)) fun c hcm ht => by
          rcases List.mem_cons.mp (hall c hcm (List.mem_append_right _ ht)) with rfl | hcx
          · exact absurd ht (hdis _ hmem)
          · exact hcx])
    (here := fun {a as v y} h' ih hw _ k => by
      rw [interpAlt_cons, if_pos (valid_tag_mem h'), ih (hw a (.head _))]; rfl)
    (there := fun {a as i v y} h' ih hw hd k => by
      obtain ⟨hdis, hd⟩ := pairDisj_cons.mp hd
      rw [interpAlt_cons, if_neg fun hin => hdis _ hin (validAlt_tag h'),
        ih (fun b hb => hw b (.tail _ hb)) hd (k + 1)]
      congr 2; omega)
    (cons := fun _ _ ih1 ih2 hw => by rw [interpList_cons, ih1 hw, ih2 hw])
    -- `nil` of `ValidSeqG`, then that of `ValidListG`
    (fun _ => ⟨fun ext _ => by simp [interpSeq_nil], fun _ all _ _ => interpSet_nil all⟩)
    (fun _ => interpList_nil _)
    h hw

/-- **the DER tree of a canonical value is one of its valid BER trees**: each rule by which `toTlv` builds the tree
    (`toTlv_induct`) is a rule of `ValidG`, what the relation leaves free being chosen DER's way.  Canonicity is what
    `ValidPrim` asks of a REAL or BIT STRING value, gives the order of a SET OF, and excludes the one rule of `toTlv`
    without a counterpart: a present component that is skipped because it holds its DEFAULT value. -/
theorem valid_of_toTlv {p : Bool} {t : Ty} {v : Val} {x : Tlv} (hc : Canon t v) (h : toTlv t v = some x) :
    ValidG p t v x :=
  toTlv_induct (P := fun t v x => canonB t v = true → ValidG p t v x)
    (Ps := fun ms as vs cs => canonSeq ms as vs = true → ValidSeqG p ms as vs cs)
    (Pa := fun alts i v y => canonAlt alts i v = true → ValidAltG p alts i v y)
    (Pl := fun e vs cs => vs.all (fun v => canonB e v) = true → ValidListG p e vs cs)
    (prim := fun hpc hc => .prim rfl (validPrim_of_primContent hc hpc) (wrapped_wrapAround _ _))
    (seq := fun ih hc => .seq rfl (ih hc) (wrapped_wrapAround _ _))
    (set := fun ih hc => .set rfl (ih hc) (perm_sortBy _ _) (wrapped_wrapAround _ _))
    (choice := fun ih hc => .choice (ih hc) (wrapped_wrapAround _ _))
    (seqOf := fun ih hc => .seqOf rfl (ih hc) (wrapped_wrapAround _ _))
    (setOf := fun hcs ih hc => by
      obtain ⟨hc, hs⟩ := Bool.and_eq_true_iff.mp hc
      rw [sortedEnc, hcs] at hs
      exact .setOf rfl (ih hc) (perm_sortBy _ _) (fun _ => sortBy_of_chain _ _ hs) (wrapped_wrapAround _ _))
    (nil := fun _ => .nil)
    (absent := fun ho ih hc => .absent ho (ih (canonSeq_cons.mp hc).2))
    (dflt := fun hv hd _ hc => by
      have hc1 := (canonSeq_cons.mp hc).1
      rw [if_neg (by simp [hv])] at hc1
      cases hc1.1.symm.trans hd)
    (cons := fun hv hd ih1 ih2 hc => by
      obtain ⟨hc1, hc2⟩ := canonSeq_cons.mp hc
      rw [if_neg (by simp [hv])] at hc1
      exact .present hv hd (ih1 hc1.2) (ih2 hc2))
    (here := fun ih hc => .here (ih hc))
    (there := fun ih hc => .there (ih hc))
    (lnil := fun _ => .nil)
    (lcons := fun ih1 ih2 hc =>
      have ⟨h1, h2⟩ := Bool.and_eq_true_iff.mp hc
      .cons (ih1 h1) (ih2 h2))
    h hc

mutual
/-- `SetOfPerm t v v'`: `v'` is `v` with the lists of its SET OF nodes (at any depth) permuted -/
inductive SetOfPerm : Ty → Val → Val → Prop
  | refl {t : Ty} {v : Val} : SetOfPerm t v v
  | seq {tags : List Tag} {ms : List Ty} {attrs : List Attr} {ext : Bool} {vs vs' : List Val} :
      SetOfPermSeq ms vs vs' → SetOfPerm (.seq tags ms attrs ext) (.seq vs) (.seq vs')
  | set {tags : List Tag} {ms : List Ty} {attrs : List Attr} {ext : Bool} {vs vs' : List Val} :
      SetOfPermSeq ms vs vs' → SetOfPerm (.set tags ms attrs ext) (.seq vs) (.seq vs')
  | choice {tags : List Tag} {alts : List Ty} {ext : Bool} {i : Nat} {v v' : Val} :
      SetOfPermAlt alts i v v' → SetOfPerm (.choice tags alts ext) (.choice i v) (.choice i v')
  | seqOf {tags : List Tag} {e : Ty} {vs vs' : List Val} :
      SetOfPermList e vs vs' → SetOfPerm (.seqOf tags e) (.list vs) (.list vs')
  | setOf {tags : List Tag} {e : Ty} {vs vs₁ vs₂ : List Val} :
      SetOfPermList e vs vs₁ → vs₂.Perm vs₁ → SetOfPerm (.setOf tags e) (.list vs) (.list vs₂)
inductive SetOfPermSeq : List Ty → List Val → List Val → Prop
  | nil : SetOfPermSeq [] [] []
  | cons {m : Ty} {ms : List Ty} {v v' : Val} {vs vs' : List Val} :
      SetOfPerm m v v' → SetOfPermSeq ms vs vs' → SetOfPermSeq (m :: ms) (v :: vs) (v' :: vs')
inductive SetOfPermAlt : List Ty → Nat → Val → Val → Prop
  | here {a : Ty} {as : List Ty} {v v' : Val} : SetOfPerm a v v' → SetOfPermAlt (a :: as) 0 v v'
  | there {a : Ty} {as : List Ty} {i : Nat} {v v' : Val} :
      SetOfPermAlt as i v v' → SetOfPermAlt (a :: as) (i + 1) v v'
inductive SetOfPermList : Ty → List Val → List Val → Prop
  | nil {e : Ty} : SetOfPermList e [] []
  | cons {e : Ty} {v v' : Val} {vs vs' : List Val} :
      SetOfPerm e v v' → SetOfPermList e vs vs' → SetOfPermList e (v :: vs) (v' :: vs')
end

theorem setOfPerm_isAbsent {t : Ty} {v v' : Val} (h : SetOfPerm t v v') : isAbsent v' = isAbsent v := by
  cases h <;> rfl

theorem setOfPerm_isDefault {t : Ty} {v v' : Val} (a : Attr) (h : SetOfPerm t v v') :
    isDefault a v' = isDefault a v := by
  cases h <;> simp only [isDefault_seq, isDefault_choice, isDefault_list]

theorem valid_perm_to_ordered {t : Ty} {v : Val} {x : Tlv} (h : ValidBER t v x) :
    ∃ v', SetOfPerm t v v' ∧ ValidBERo t v' x :=
  ValidG.rec (motive_1 := fun t v x _ => ∃ v', SetOfPerm t v v' ∧ ValidG false t v' x)
    (motive_2 := fun ms as vs cs _ => ∃ vs', SetOfPermSeq ms vs vs' ∧ ValidSeqG false ms as vs' cs)
    (motive_3 := fun alts i v y _ => ∃ v', SetOfPermAlt alts i v v' ∧ ValidAltG false alts i v' y)
    (motive_4 := fun e vs cs _ => ∃ vs', SetOfPermList e vs vs' ∧ ValidListG false e vs' cs)
    (prim := fun ht hp hwr => ⟨_, .refl, .prim ht hp hwr⟩)
    (seq := fun ht _ hwr ⟨vs', hp, hv⟩ => ⟨.seq vs', .seq hp, .seq ht hv hwr⟩)
    (set := fun ht _ hperm hwr ⟨vs', hp, hv⟩ => ⟨.seq vs', .set hp, .set ht hv hperm hwr⟩)
    (choice := fun _ hwr ⟨v', hp, hv⟩ => ⟨.choice _ v', .choice hp, .choice hv hwr⟩)
    (seqOf := fun ht _ hwr ⟨vs', hp, hv⟩ => ⟨.list vs', .seqOf hp, .seqOf ht hv hwr⟩)
    -- a permutation of the children of `vs'` is, child by child, the children of a permutation `vs₂` of `vs'`
    (setOf := fun ht _ hperm _ hwr ⟨_, hp, hv⟩ =>
      let ⟨vs₂, hv2, hp2⟩ := List.perm_comp_forall₂ hperm (validList_iff.mp hv).flip
      ⟨.list vs₂, .setOf hp hp2, .setOf ht (validList_iff.mpr hv2.flip) (.refl _) (fun _ => rfl) hwr⟩)
    (absent := fun ho _ ⟨vs', hp, hv⟩ => ⟨.absent :: vs', .cons .refl hp, .absent ho hv⟩)
    (present := fun hv hd _ _ ⟨v', hp1, hv1⟩ ⟨vs', hp, hvs⟩ => ⟨v' :: vs', .cons hp1 hp,
      .present (setOfPerm_isAbsent hp1 ▸ hv) (setOfPerm_isDefault _ hp1 ▸ hd) hv1 hvs⟩)
    (here := fun _ ⟨v', hp, hv⟩ => ⟨v', .here hp, .here hv⟩)
    (there := fun _ ⟨v', hp, hv⟩ => ⟨v', .there hp, .there hv⟩)
    (cons := fun _ _ ⟨v', hp, hv⟩ ⟨vs', hps, hvs⟩ => ⟨v' :: vs', .cons hp hps, .cons hv hvs⟩)
    ⟨[], .nil, .nil⟩ ⟨[], .nil, .nil⟩ h

/-- **the interpreter accepts every valid BER tree**; the result is the value up to the order of
    its SET OF lists (which, on the wire, is the order of the children) -/
theorem interp_valid {t : Ty} {v : Val} {x : Tlv} (hw : TyWf t) (h : ValidBER t v x) :
    ∃ v', SetOfPerm t v v' ∧ interp t x = some v' := by
  obtain ⟨v', hp, hv⟩ := valid_perm_to_ordered h
  exact ⟨v', hp, interp_valid_ordered hw hv⟩

mutual
def noSetOfB : Ty → Bool
  | .prim _ _ => true
  | .seq _ ms _ _ => noSetOfListB ms
  | .set _ ms _ _ => noSetOfListB ms
  | .choice _ alts _ => noSetOfListB alts
  | .seqOf _ e => noSetOfB e
  | .setOf _ _ => false
def noSetOfListB : List Ty → Bool
  | [] => true
  | m :: ms => noSetOfB m && noSetOfListB ms
end

/-- the type contains no SET OF at any depth -/
def NoSetOf (t : Ty) : Prop := noSetOfB t = true
instance (t : Ty) : Decidable (NoSetOf t) := by unfold NoSetOf; infer_instance

theorem noSetOfListB_cons (m : Ty) (ms : List Ty) :
    noSetOfListB (m :: ms) = true ↔ NoSetOf m ∧ noSetOfListB ms = true := by
  simp [noSetOfListB, NoSetOf]

theorem setOfPerm_eq {t : Ty} {v v' : Val} (hn : NoSetOf t) (h : SetOfPerm t v v') : v = v' :=
  SetOfPerm.rec (motive_1 := fun t v v' _ => NoSetOf t → v = v')
    (motive_2 := fun ms vs vs' _ => noSetOfListB ms = true → vs = vs')
    (motive_3 := fun alts _ v v' _ => noSetOfListB alts = true → v = v')
    (motive_4 := fun e vs vs' _ => NoSetOf e → vs = vs')
    (refl := fun _ => rfl)
    (seq := fun _ ih hn => congrArg Val.seq (ih hn))
    (set := fun _ ih hn => congrArg Val.seq (ih hn))
    (choice := fun _ ih hn => congrArg (Val.choice _) (ih hn))
    (seqOf := fun _ ih hn => congrArg Val.list (ih hn))
    (setOf := fun _ _ _ hn => nomatch hn)
    (here := fun _ ih hn => ih ((noSetOfListB_cons _ _).mp hn).1)
    (there := fun _ ih hn => ih ((noSetOfListB_cons _ _).mp hn).2)
    -- `nil` and `cons` of `SetOfPermSeq`, then those of `SetOfPermList`
    (fun _ => rfl)
    (fun _ _ ih1 ih2 hn => have ⟨h1, h2⟩ := (noSetOfListB_cons _ _).mp hn; congrArg₂ _ (ih1 h1) (ih2 h2))
    (fun _ => rfl)
    (fun _ _ ih1 ih2 hn => congrArg₂ _ (ih1 hn) (ih2 hn))
    h hn

theorem interp_valid_noSetOf {t : Ty} {v : Val} {x : Tlv} (hw : TyWf t) (hn : NoSetOf t)
    (h : ValidBER t v x) : interp t x = some v := by
  obtain ⟨v', hp, hi⟩ := interp_valid hw h
  rw [setOfPerm_eq hn hp]; exact hi

mutual
/-- forget how the lengths were written -/
def eraseForm : Tlv → Tlv
  | .prim t _ c => .prim t 0 c
  | .cons t _ cs => .cons t (some 0) (eraseFormList cs)
def eraseFormList : List Tlv → List Tlv
  | [] => []
  | x :: xs => eraseForm x :: eraseFormList xs
end

/-- two trees that differ only in their `form` fields -/
def sameShape (x y : Tlv) : Prop := eraseForm x = eraseForm y

theorem eraseFormList_eq_map (cs : List Tlv) : eraseFormList cs = cs.map eraseForm := by
  induction cs with
  | nil => rfl
  | cons x xs ih => simp [eraseFormList, ih]

theorem eraseForm_tag (x : Tlv) : (eraseForm x).tag = x.tag := by
  cases x <;> rfl

theorem stringContent_eraseForm (x : Tlv) : stringContent (eraseForm x) = stringContent x :=
  Tlv.rec (motive_1 := fun x => stringContent (eraseForm x) = stringContent x)
    (motive_2 := fun cs => stringContentList (eraseFormList cs) = stringContentList cs)
    (fun _ _ _ => rfl) (fun _ _ _ ih => by simpa only [eraseForm, stringContent] using ih) rfl
    (fun _ _ ih1 ih2 => by simp only [eraseFormList, stringContentList, ih1, ih2]) x

theorem bitLeaves_eraseForm (x : Tlv) : bitLeaves (eraseForm x) = bitLeaves x :=
  Tlv.rec (motive_1 := fun x => bitLeaves (eraseForm x) = bitLeaves x)
    (motive_2 := fun cs => bitLeavesList (eraseFormList cs) = bitLeavesList cs)
    (fun _ _ c => by cases c <;> rfl) (fun _ _ _ ih => by simpa only [eraseForm, bitLeaves] using ih) rfl
    (fun _ _ ih1 ih2 => by simp only [eraseFormList, bitLeavesList, ih1, ih2]) x

theorem bitLeavesList_eraseForm (cs : List Tlv) : bitLeavesList (eraseFormList cs) = bitLeavesList cs := by
  have := bitLeaves_eraseForm (.cons ⟨0, 0⟩ none cs)
  simpa [eraseForm, bitLeaves] using this

theorem decPrim_eraseForm (p : Prim) (y : Tlv) : decPrim p (eraseForm y) = decPrim p y := by
  cases y with
  | prim t k c =>
    -- the contents stay, and `decPrim` matches on those (none, one octet, more), never on `k`
    cases p <;> rcases c with _ | ⟨b, _ | ⟨b', c'⟩⟩ <;> rfl
  | cons t f cs =>
    cases p with
    | octets => simp only [decPrim, stringContent_eraseForm]
    | bits => simp only [eraseForm, decPrim, bitSegments, bitLeavesList_eraseForm]
    | _ => rfl

theorem unwrapAround_eraseForm (tags : List Tag) (x : Tlv) :
    unwrapAround tags (eraseForm x) = (unwrapAround tags x).map eraseForm := by
  induction tags generalizing x with
  | nil => simp [unwrapAround]
  | cons t ts ih =>
    cases x with
    | prim t' k c => simp [eraseForm, unwrapAround]
    | cons t' f cs =>
      rcases cs with _ | ⟨c, _ | ⟨c', cs'⟩⟩
      · simp [eraseForm, eraseFormList, unwrapAround]
      · simp only [eraseForm, eraseFormList, unwrapAround]
        split
        · exact ih c
        · rfl
      · simp [eraseForm, eraseFormList, unwrapAround]

theorem unwrapTags_eraseForm (tags : List Tag) (x : Tlv) :
    unwrapTags tags (eraseForm x) = (unwrapTags tags x).map eraseForm := by
  unfold unwrapTags
  split
  · rfl
  · rw [unwrapAround_eraseForm]
    cases unwrapAround _ x with
    | none => rfl
    | some y =>
      simp only [Option.map_some, eraseForm_tag]
      split <;> rfl

theorem interpList_eraseForm (e : Ty) (ih : ∀ x, interp e (eraseForm x) = interp e x) (cs : List Tlv) :
    interpList e (cs.map eraseForm) = interpList e cs := by
  induction cs with
  | nil => rfl
  | cons c cs ihc => simp only [List.map_cons]; rw [interpList_cons, interpList_cons, ih c, ihc]

/-- a constructed node is interpreted through its children only -/
theorem node_eraseForm (tags : List Tag) (x : Tlv) (f : List Tlv → Option Val)
    (hf : ∀ cs, f (cs.map eraseForm) = f cs) :
    (match unwrapTags tags (eraseForm x) with | some (.cons _ _ cs) => f cs | _ => none) =
    (match unwrapTags tags x with | some (.cons _ _ cs) => f cs | _ => none) := by
  rw [unwrapTags_eraseForm]
  cases unwrapTags tags x with
  | none => rfl
  | some y =>
    cases y with
    | prim t k c => rfl
    | cons t f' cs => simp only [Option.map_some, eraseForm, eraseFormList_eq_map]; exact hf cs

/-- the interpreter never looks at a length form … -/
theorem interp_eraseForm (t : Ty) (x : Tlv) : interp t (eraseForm x) = interp t x := by
  refine Ty.rec (motive_1 := fun t => ∀ x, interp t (eraseForm x) = interp t x)
    (motive_2 := fun ms => (∀ as ext cs, interpSeq ms as ext (cs.map eraseForm) = interpSeq ms as ext cs) ∧
      (∀ as cs, interpSet ms as (cs.map eraseForm) = interpSet ms as cs) ∧
      ∀ i x, interpAlt ms i (eraseForm x) = interpAlt ms i x) ?_ ?_ ?_ ?_ ?_ ?_ ?_ ?_ t x
  · intro tags p x
    rw [interp, interp, unwrapTags_eraseForm]
    cases unwrapTags tags x with
    | none => rfl
    | some y => exact decPrim_eraseForm p y
  · intro tags ms attrs ext ih x
    rw [interp, interp]
    exact node_eraseForm tags x _ fun cs => congrArg _ (ih.1 attrs ext cs)
  · intro tags ms attrs ext ih x
    rw [interp, interp]
    exact node_eraseForm tags x _ fun cs => congrArg _ (ih.2.1 attrs cs)
  · intro tags alts ext ih x
    rw [interp, interp, unwrapAround_eraseForm]
    cases unwrapAround tags x with
    | none => rfl
    | some y => exact ih.2.2 0 y
  · intro tags e ih x
    rw [interp, interp]
    exact node_eraseForm tags x _ fun cs => congrArg _ (interpList_eraseForm e ih cs)
  · intro tags e ih x
    rw [interp, interp]
    exact node_eraseForm tags x _ fun cs => congrArg _ (interpList_eraseForm e ih cs)
  · refine ⟨fun as ext cs => ?_, fun as cs => ?_, fun i x => by rw [interpAlt, interpAlt]⟩
    · cases as <;> simp [interpSeq]
    · cases as <;> simp [interpSet]
  · intro m ms ihm ⟨ihq, iht, iha⟩
    refine ⟨fun as ext cs => ?_, fun as cs => ?_, fun i x => ?_⟩
    · rcases as with _ | ⟨a, as⟩
      · simp [interpSeq]
      · rcases cs with _ | ⟨c, cs⟩
        · rfl
        · have := ihq as ext (c :: cs)
          rw [List.map_cons] at this ⊢
          rw [interpSeq_cons_cons, interpSeq_cons_cons, eraseForm_tag, ihm c, ihq as ext cs, this]
    · rcases as with _ | ⟨a, as⟩
      · simp [interpSet]
      · have hp : ((fun c => decide (c.tag ∈ outerTags m)) ∘ eraseForm) =
            (fun c => decide (c.tag ∈ outerTags m)) := by
          funext c; simp [eraseForm_tag]
        rw [interpSet_cons, interpSet_cons, iht as, List.find?_map, hp]
        cases List.find? (fun c => decide (c.tag ∈ outerTags m)) cs with
        | none => rfl
        | some c => simp only [Option.map_some]; rw [ihm c]
    · rw [interpAlt_cons, interpAlt_cons, eraseForm_tag, ihm x, iha]

/-- … so trees that differ only in length forms are interpreted identically (for **every** type
    and every tree, valid or not; no hypothesis) -/
theorem interp_sameShape (t : Ty) (x y : Tlv) (h : sameShape x y) : interp t x = interp t y := by
  rw [← interp_eraseForm t x, ← interp_eraseForm t y, h]

end Asn1c.Proofs.L2Variants

namespace Asn1c.Proofs.L2Der
open Asn1c Asn1c.L2 Asn1c.Proofs.L2Variants

/-- **the interpreter inverts the DER tree builder**: for a well-formed type and a canonical
    value, interpreting the tree produced by `toTlv` gives the value back.  The DER tree is one of
    the valid BER trees, and the interpreter accepts all of those. -/
theorem interp_toTlv (t : Ty) (v : Val) (x : Tlv) (hw : TyWf t) (hc : Canon t v)
    (h : toTlv t v = some x) : interp t x = some v :=
  interp_valid_ordered hw (valid_of_toTlv hc h)

end Asn1c.Proofs.L2Der
