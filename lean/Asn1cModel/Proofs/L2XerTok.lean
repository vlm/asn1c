import Asn1cModel.L2.Xer
/-
  XER, first part: what the decoder's front end does with text the encoder wrote.  The tokenizer (`nextTok`) on
  character data and on the three tags `<n>`, `</n>`, `<n/>` of a tag name `n` (`nameOk`); `xer_check_tag` on such a
  tag: its kind if the names agree, else the "unknown" twin of the kind (`checkTag_open`, `_close`, `_empty`); and
  `xer_decode_general` one step at a time (`dg_*`), up to a whole element (`dg_element`, `decPrim_*`, `decStr_body`)
  for any pair of callbacks.  The decoders are not known to be monotone in their fuel, so a step has the form
  "answers `out` whenever it is given at least `n` units of fuel" (`fuel_succ`, `skip_text`); steps compose by
  `max` and `+ 1`.  Nothing here looks inside a body: that is Proofs/L2XerBody; Proofs/L2Xer joins the two.
  Core Lean only.
-/
namespace Asn1c.Proofs.L2Xer
open Asn1c Asn1c.L2 Asn1c.L2.Xer

/-- characters that may appear inside a rendered tag name: not '<' '>' '=' '/', no white space of the tokenizer (`isWsX`),
    no NUL (`cmpName` answers XCT_BROKEN), no VT (`INTEGER_map_enum2value` ends an identifier there too) -/
def plainCh (c : Nat) : Bool :=
  c ≠ cLT && c ≠ cGT && c ≠ 0x3d && c ≠ cSL && !isWsX c && c ≠ 0 && c ≠ 11

/-- an XML tag name as the encoder writes it: starts with a letter, no markup characters / white space / NUL -/
def nameOk (n : Bytes) : Bool :=
  match n with
  | [] => false
  | c :: r => isAlphaX c && (c :: r).all plainCh

theorem nameOk_ne_nil {n : Bytes} (h : nameOk n = true) : n ≠ [] := by
  cases n <;> simp [nameOk] at h ⊢

theorem nameOk_cons {n : Bytes} (h : nameOk n = true) :
    ∃ c r, n = c :: r ∧ isAlphaX c = true ∧ plainCh c = true ∧ r.all plainCh = true := by
  cases n with
  | nil => simp [nameOk] at h
  | cons c r =>
    simp only [nameOk, List.all_cons, Bool.and_eq_true] at h
    exact ⟨c, r, rfl, h.1, h.2.1, h.2.2⟩

theorem nameOk_all {n : Bytes} (h : nameOk n = true) : n.all plainCh = true := by
  obtain ⟨c, r, rfl, _, h2, h3⟩ := nameOk_cons h
  simp [h2, h3]

theorem plainCh_ne {c : Nat} (h : plainCh c = true) :
    c ≠ cLT ∧ c ≠ cGT ∧ c ≠ 0x3d ∧ c ≠ cSL ∧ isWsX c = false ∧ c ≠ 0 := by
  simp only [plainCh, Bool.and_eq_true, decide_eq_true_eq, Bool.not_eq_true', ne_eq] at h
  obtain ⟨⟨⟨⟨⟨⟨a, b⟩, c1⟩, d⟩, e⟩, f⟩, _⟩ := h
  exact ⟨a, b, c1, d, e, f⟩

theorem plainCh_ne11 {c : Nat} (h : plainCh c = true) : c ≠ 11 := by
  simp only [plainCh, Bool.and_eq_true, decide_eq_true_eq, Bool.not_eq_true', ne_eq] at h
  exact h.2

theorem nextTok_of_scan (chunk r : Bytes) (k : TK) (n : Nat) (hn : n = chunk.length)
    (h : scan .text 0 (chunk ++ r) = some (k, n)) : nextTok (chunk ++ r) = some (k, chunk, r) := by
  subst hn
  simp [nextTok, h]

theorem scan_text (txt : Bytes) (htxt : ∀ c ∈ txt, c ≠ cLT) (r : Bytes) :
    ∀ n, 0 < n + txt.length → scan .text n (txt ++ cLT :: r) = some (.text, n + txt.length) := by
  induction txt with
  | nil =>
    intro n hn
    have : n ≠ 0 := by simp at hn; omega
    simp [scan, this]
  | cons c cs ih =>
    intro n _
    have hc : c ≠ cLT := htxt c (by simp)
    have := ih (fun x hx => htxt x (by simp [hx])) (n + 1) (by omega)
    simp only [List.cons_append, scan, hc, if_false, this, List.length_cons]
    congr 2; omega

theorem nextTok_text (txt : Bytes) (hne : txt ≠ []) (htxt : ∀ c ∈ txt, c ≠ cLT) (r : Bytes) (hr : r.head? = some cLT) :
    nextTok (txt ++ r) = some (.text, txt, r) := by
  obtain ⟨r, rfl⟩ : ∃ r', r = cLT :: r' := by
    cases r with
    | nil => cases hr
    | cons x r' => exact ⟨r', by simpa using hr⟩
  exact nextTok_of_scan txt _ .text _ (Nat.zero_add _)
    (scan_text txt htxt r 0 (by simpa using List.length_pos_iff.mpr hne))

/-- inside a tag the scanner of `pxml_parse` only looks for '>', '<' and '=' -/
def tagCh (c : Nat) : Bool := c ≠ cGT && c ≠ cLT && c ≠ 0x3d

theorem all_tagCh {n : Bytes} (h : n.all plainCh = true) : n.all tagCh = true :=
  List.all_eq_true.mpr fun c hc => by
    obtain ⟨h1, h2, h3, -⟩ := plainCh_ne (List.all_eq_true.mp h c hc)
    simp [tagCh, h1, h2, h3]

theorem scan_tagBody (body : Bytes) (hb : body.all tagCh = true) (r : Bytes) :
    ∀ n, scan .tagBody n (body ++ cGT :: r) = some (.tag, n + body.length + 1) := by
  induction body with
  | nil => intro n; simp [scan]
  | cons c cs ih =>
    intro n
    simp only [List.all_cons, Bool.and_eq_true, tagCh, decide_eq_true_eq] at hb
    simp only [List.cons_append, scan, hb.1.1.1, hb.1.1.2, hb.1.2, if_false, ih hb.2, List.length_cons]
    congr 2; omega

/-- a tag is one chunk: '<', a letter or '/', characters other than '>' '<' '=', then '>'; the three tags the encoder
    writes are of this form -/
theorem nextTok_tag (c : Nat) (body r : Bytes) (hc : (isAlphaX c || c = cSL) = true) (hb : body.all tagCh = true) :
    nextTok (cLT :: c :: (body ++ cGT :: r)) = some (.tag, cLT :: c :: (body ++ [cGT]), r) := by
  have e : cLT :: c :: (body ++ cGT :: r) = (cLT :: c :: (body ++ [cGT])) ++ r := by simp
  rw [e]
  apply nextTok_of_scan _ _ _ (1 + 1 + body.length + 1)
    (by simp only [List.length_cons, List.length_append, List.length_nil]; omega)
  rw [← e]
  simp only [scan, if_true, hc, scan_tagBody body hb r]

theorem nextTok_openTag (n : Bytes) (hn : nameOk n = true) (r : Bytes) :
    nextTok (openTag n ++ r) = some (.tag, openTag n, r) := by
  obtain ⟨c, cs, rfl, ha, _, hcs⟩ := nameOk_cons hn
  simpa [openTag] using nextTok_tag c cs r (by simp [ha]) (all_tagCh hcs)

theorem nextTok_closeTag (n : Bytes) (hn : nameOk n = true) (r : Bytes) :
    nextTok (closeTag n ++ r) = some (.tag, closeTag n, r) := by
  simpa [closeTag] using nextTok_tag cSL n r (by simp) (all_tagCh (nameOk_all hn))

theorem nextTok_emptyTag (n : Bytes) (hn : nameOk n = true) (r : Bytes) :
    nextTok (emptyTag n ++ r) = some (.tag, emptyTag n, r) := by
  obtain ⟨c, cs, rfl, ha, _, hcs⟩ := nameOk_cons hn
  simpa [emptyTag] using nextTok_tag c (cs ++ [cSL]) r (by simp [ha])
    (by rw [List.all_append, all_tagCh hcs]; decide)

/-- the name comparison loop of `xer_check_tag` on two names without markup characters: equal names keep the tag kind -/
theorem cmpName_self (ct : Tcv) (n : Bytes) (hn : n.all plainCh = true) : cmpName ct n n = ct := by
  induction n with
  | nil => simp [cmpName]
  | cons b bs ih =>
    simp only [List.all_cons, Bool.and_eq_true] at hn
    have h0 := (plainCh_ne hn.1).2.2.2.2.2
    simp [cmpName, h0, ih hn.2]

/-- ... and different names give its "unknown" twin -/
theorem cmpName_ne (ct : Tcv) : ∀ (a b : Bytes), a.all plainCh = true → b.all plainCh = true → a ≠ b →
    cmpName ct a b = ct.unk := by
  intro a
  induction a with
  | nil =>
    intro b _ _ hne
    cases b with
    | nil => exact absurd rfl hne
    | cons y ys => simp [cmpName]
  | cons x xs ih =>
    intro b ha hb hne
    simp only [List.all_cons, Bool.and_eq_true] at ha
    obtain ⟨-, -, -, -, hws, h0⟩ := plainCh_ne ha.1
    cases b with
    | nil => simp [cmpName, h0, hws]
    | cons y ys =>
      simp only [List.all_cons, Bool.and_eq_true] at hb
      by_cases hxy : x = y
      · subst hxy
        have : xs ≠ ys := fun h => hne (by rw [h])
        simp [cmpName, h0, ih ys ha.2 hb.2 this]
      · simp [cmpName, hxy]

/-- the name comparison of `xer_check_tag` on tag names: the tag kind as it is, or its "unknown" twin; an empty
    `need` (the caller accepts any tag) counts as another name -/
theorem cmpName_eq (ct : Tcv) : ∀ (a need : Bytes), a.all plainCh = true → a ≠ [] → need = [] ∨ nameOk need = true →
    (if need = [] then ct.unk else cmpName ct a need) = if a = need then ct else ct.unk := by
  intro a need ha hne hneed
  rcases hneed with rfl | hneed
  · rw [if_pos rfl, if_neg hne]
  · rw [if_neg (nameOk_ne_nil hneed)]
    by_cases h : a = need
    · rw [if_pos h, ← h, cmpName_self ct a ha]
    · rw [if_neg h, cmpName_ne ct a need ha (nameOk_all hneed) h]

theorem last_ne_slash {n : Bytes} (hn : n.all plainCh = true) : n.getLast? ≠ some cSL := by
  intro h
  have hm : cSL ∈ n := List.mem_of_getLast? h
  have := (plainCh_ne ((List.all_eq_true.mp hn) cSL hm)).2.2.2.1
  exact this rfl

/-- `xer_check_tag` on a chunk of the form the tokenizer reports as a tag (`nextTok_tag`): `<`, `c`, `body`, `>`.  It is
    a closing tag when `c` is '/', an empty-element tag when '/' stands before the '>', an opening tag otherwise -/
theorem checkTag_tag (c : Nat) (body need : Bytes) :
    checkTag (cLT :: c :: (body ++ [cGT])) need =
      if c = cSL then
        if body.getLast? = some cSL then .broken else if need = [] then .unkCl else cmpName .closing body need
      else
        let p := if (c :: body).getLast? = some cSL then (Tcv.both, (c :: body).dropLast) else (Tcv.opening, c :: body)
        if need = [] then p.1.unk else cmpName p.1 p.2 need := by
  simp only [checkTag]
  rw [show c :: (body ++ [cGT]) = (c :: body) ++ [cGT] from rfl]
  simp only [List.getLast?_concat, List.dropLast_concat, ne_eq, not_true_eq_false, or_self, if_false]

section checkTag
variable (n need : Bytes) (hn : nameOk n = true) (hneed : need = [] ∨ nameOk need = true)
include hn hneed

theorem checkTag_open : checkTag (openTag n) need = if n = need then .opening else .unkOp := by
  refine Eq.trans ?_ (cmpName_eq .opening n need (nameOk_all hn) (nameOk_ne_nil hn) hneed)
  obtain ⟨c, cs, rfl, _, hc, -⟩ := nameOk_cons hn
  exact (checkTag_tag c cs need).trans (by
    rw [if_neg (plainCh_ne hc).2.2.2.1, if_neg (last_ne_slash (nameOk_all hn))])

theorem checkTag_close : checkTag (closeTag n) need = if n = need then .closing else .unkCl := by
  refine Eq.trans ?_ (cmpName_eq .closing n need (nameOk_all hn) (nameOk_ne_nil hn) hneed)
  exact (checkTag_tag cSL n need).trans (by rw [if_pos rfl, if_neg (last_ne_slash (nameOk_all hn))]; rfl)

theorem checkTag_empty : checkTag (emptyTag n) need = if n = need then .both else .unkBo := by
  refine Eq.trans ?_ (cmpName_eq .both n need (nameOk_all hn) (nameOk_ne_nil hn) hneed)
  obtain ⟨c, cs, rfl, _, hc, -⟩ := nameOk_cons hn
  have e : emptyTag (c :: cs) = cLT :: c :: ((cs ++ [cSL]) ++ [cGT]) := by simp [emptyTag]
  rw [e, checkTag_tag, if_neg (plainCh_ne hc).2.2.2.1, ← List.cons_append, List.getLast?_concat, if_pos rfl,
    List.dropLast_concat]

end checkTag

theorem checkTag_open_self (n : Bytes) (hn : nameOk n = true) : checkTag (openTag n) n = .opening := by
  rw [checkTag_open n n hn (Or.inr hn), if_pos rfl]
theorem checkTag_close_self (n : Bytes) (hn : nameOk n = true) : checkTag (closeTag n) n = .closing := by
  rw [checkTag_close n n hn (Or.inr hn), if_pos rfl]
theorem checkTag_empty_self (n : Bytes) (hn : nameOk n = true) : checkTag (emptyTag n) n = .both := by
  rw [checkTag_empty n n hn (Or.inr hn), if_pos rfl]

theorem checkTag_open_ne (a b : Bytes) (ha : nameOk a = true) (hb : nameOk b = true) (hne : a ≠ b) :
    checkTag (openTag a) b = .unkOp := by
  rw [checkTag_open a b ha (Or.inr hb), if_neg hne]
theorem checkTag_empty_ne (a b : Bytes) (ha : nameOk a = true) (hb : nameOk b = true) (hne : a ≠ b) :
    checkTag (emptyTag a) b = .unkBo := by
  rw [checkTag_empty a b ha (Or.inr hb), if_neg hne]
theorem checkTag_close_ne (a b : Bytes) (ha : nameOk a = true) (hb : nameOk b = true) (hne : a ≠ b) :
    checkTag (closeTag a) b = .unkCl := by
  rw [checkTag_close a b ha (Or.inr hb), if_neg hne]

/-- one step of a phase machine costs one unit of fuel -/
theorem fuel_succ {P : Nat → Prop} {n : Nat} (h : ∀ f, n ≤ f → P (f + 1)) : ∀ fuel, n + 1 ≤ fuel → P fuel
  | f + 1, hf => h f (Nat.le_of_succ_le_succ hf)

/-- text `w` in front of a tag costs a phase machine `D` one step, or none if `w` is empty: `n + w.length` covers
    both (`n + 1` would do) and is a length of input, like the bounds of the callers -/
theorem skip_text {α : Type} (D : Nat → Bytes → Option α) {n : Nat} {w r : Bytes} {out : α}
    (hD : w ≠ [] → ∀ f, D (f + 1) (w ++ r) = D f r) (h : ∀ fuel, n ≤ fuel → D fuel r = some out) :
    ∀ fuel, n + w.length ≤ fuel → D fuel (w ++ r) = some out := by
  intro fuel hf
  by_cases hn : w = []
  · subst hn; exact h fuel (by simpa using hf)
  · have := List.length_pos_iff.mpr hn
    obtain ⟨f, rfl⟩ : ∃ f, fuel = f + 1 := ⟨fuel - 1, by omega⟩
    rw [hD hn f]
    exact h f (by omega)

theorem openTag_length (n : Bytes) : (openTag n).length = n.length + 2 := by simp [openTag]
theorem closeTag_length (n : Bytes) : (closeTag n).length = n.length + 3 := by simp [closeTag]
theorem emptyTag_length (n : Bytes) : (emptyTag n).length = n.length + 3 := by simp [emptyTag]

section general
variable {σ : Type} (cb : GenCb σ) (need : Bytes) (hneed : nameOk need = true)
include hneed

theorem dg_close (s : σ) (r : Bytes) :
    ∀ fuel, 1 ≤ fuel → decGeneral cb need fuel true s (closeTag need ++ r) = some (s, r) := by
  refine fuel_succ fun f hf => ?_
  simp [decGeneral, nextTok_closeTag need hneed, checkTag_close_self need hneed]

theorem dg_open {s : σ} {inner : Bytes} {n : Nat} {out : σ × Bytes}
    (h : ∀ fuel, n ≤ fuel → decGeneral cb need fuel true s inner = some out) :
    ∀ fuel, n + 1 ≤ fuel → decGeneral cb need fuel false s (openTag need ++ inner) = some out := by
  refine fuel_succ fun f hf => ?_
  simp [decGeneral, nextTok_openTag need hneed, checkTag_open_self need hneed, h f (by omega)]

/-- a whole element: after the opening tag, phase 1 reads body and closing tag.  `decPrim` and `decStr` give
    `xer_decode_general` the length of their input + 1 as fuel, which covers any `n` up to the length of the body + 3. -/
theorem dg_element {s : σ} {body rest : Bytes} {n : Nat} {out : σ × Bytes} (hn : n ≤ body.length + 3)
    (h : ∀ fuel, n ≤ fuel → decGeneral cb need fuel true s (body ++ (closeTag need ++ rest)) = some out) :
    decGeneral cb need ((openTag need ++ (body ++ (closeTag need ++ rest))).length + 1) false s
      (openTag need ++ (body ++ (closeTag need ++ rest))) = some out :=
  dg_open cb need hneed h _ (by simp only [List.length_append, openTag_length, closeTag_length]; omega)

/-- an empty-element tag in the body goes to the unexpected-tag decoder, also when it is called like the element
    itself (finding F153 repaired) -/
theorem dg_unexp {s s' : σ} {x r : Bytes} {n : Nat} {out : σ × Bytes} (hx : nameOk x = true)
    (hp : cb.unexp s (emptyTag x) = some s') (h : ∀ fuel, n ≤ fuel → decGeneral cb need fuel true s' r = some out) :
    ∀ fuel, n + 1 ≤ fuel → decGeneral cb need fuel true s (emptyTag x ++ r) = some out := by
  refine fuel_succ fun f hf => ?_
  have hc := checkTag_empty x need hx (Or.inr hneed)
  split at hc <;> simp only [decGeneral, nextTok_emptyTag x hx, hc, if_true, hp, h f (by omega)]

theorem dg_empty (f : Nat) (s : σ) (r : Bytes) :
    decGeneral cb need (f + 1) false s (emptyTag need ++ r) = (cb.body s []).map fun s' => (s', r) := by
  simp [decGeneral, nextTok_emptyTag need hneed, checkTag_empty_self need hneed]

/-- phase 0, used for the elements of a value list (`<true/>` with the type's own tag expected) -/
theorem dg_unexp0 (f : Nat) (s : σ) (x r : Bytes) (hx : nameOk x = true) (hne : x ≠ need) :
    decGeneral cb need (f + 1) false s (emptyTag x ++ r) =
      (cb.unexp s (emptyTag x)).map fun s' => (s', r) := by
  simp only [decGeneral, nextTok_emptyTag x hx, checkTag_empty_ne x need hx hneed hne]
  cases cb.unexp s (emptyTag x) <;> rfl

omit hneed

/-- character data in the body goes to the body callback - unless there is none: the tokenizer reports no empty chunk -/
theorem dg_text {s s' : σ} {txt r : Bytes} {n : Nat} {out : σ × Bytes} (htxt : ∀ c ∈ txt, c ≠ cLT)
    (hr : r.head? = some cLT) (hp : cb.body s txt = some s') (hnil : txt = [] → s' = s)
    (h : ∀ fuel, n ≤ fuel → decGeneral cb need fuel true s' r = some out) :
    ∀ fuel, n + 1 ≤ fuel → decGeneral cb need fuel true s (txt ++ r) = some out := by
  by_cases hne : txt = []
  · obtain rfl := hnil hne
    subst hne
    exact fun fuel hf => h fuel (by omega)
  · refine fuel_succ fun f hf => ?_
    simp only [decGeneral, nextTok_text txt hne htxt r hr, if_true, hp, h f (by omega)]

theorem dg_skip {s : σ} {n : Nat} {w r : Bytes} {out : σ × Bytes} (hws : cb.body s w = some s)
    (hw : ∀ c ∈ w, c ≠ cLT) (hr : r.head? = some cLT)
    (h : ∀ fuel, n ≤ fuel → decGeneral cb need fuel true s r = some out) :
    ∀ fuel, n + 1 ≤ fuel → decGeneral cb need fuel true s (w ++ r) = some out :=
  dg_text cb need hw hr hws (fun _ => rfl) h

end general

theorem decPrim_text (pbd : Bytes → Pbd) (need : Bytes) (hneed : nameOk need = true) (txt rest : Bytes) (v : Val)
    (hne : txt ≠ []) (htxt : ∀ c ∈ txt, c ≠ cLT) (hp : pbd (txt.dropWhile isWsP) = .consumed v) :
    decPrim pbd need (openTag need ++ (txt ++ (closeTag need ++ rest))) = some (v, rest) := by
  have hbody : (primCb pbd).body none txt = some (some v) := by simp only [primCb, hp]
  rw [Xer.decPrim, dg_element _ _ hneed (by omega)
    (dg_text _ _ htxt rfl hbody (absurd · hne) (dg_close _ _ hneed _ rest))]

theorem decPrim_tag (pbd : Bytes → Pbd) (need : Bytes) (hneed : nameOk need = true) (x rest : Bytes) (v : Val)
    (hx : nameOk x = true) (hp : pbd (emptyTag x) = .consumed v) :
    decPrim pbd need (openTag need ++ (emptyTag x ++ (closeTag need ++ rest))) = some (v, rest) := by
  have htag : (primCb pbd).unexp none (emptyTag x) = some (some v) := by simp only [primCb, hp]
  rw [Xer.decPrim, dg_element _ _ hneed (by omega)
    (dg_unexp _ _ hneed hx htag (dg_close _ _ hneed _ rest))]

theorem decPrim_empty (pbd : Bytes → Pbd) (need : Bytes) (hneed : nameOk need = true) (rest : Bytes) (v : Val)
    (hp : pbd [] = .consumed v) :
    decPrim pbd need (openTag need ++ (closeTag need ++ rest)) = some (v, rest) := by
  have h := dg_element (primCb pbd) need hneed (body := []) (n := 1) (by simp) (dg_close _ _ hneed none rest)
  rw [List.nil_append] at h
  rw [Xer.decPrim, h]
  simp only [hp]

theorem decPrim_tag0 (pbd : Bytes → Pbd) (need : Bytes) (hneed : nameOk need = true) (x rest : Bytes) (v : Val)
    (hx : nameOk x = true) (hxn : x ≠ need) (hp : pbd (emptyTag x) = .consumed v) :
    decPrim pbd need (emptyTag x ++ rest) = some (v, rest) := by
  unfold Xer.decPrim
  rw [dg_unexp0 _ _ hneed _ _ _ _ hx hxn]
  simp only [primCb, hp, Option.map_some]

theorem decPrim_empty0 (pbd : Bytes → Pbd) (need : Bytes) (hneed : nameOk need = true) (rest : Bytes) (v : Val)
    (hp : pbd [] = .consumed v) :
    decPrim pbd need (emptyTag need ++ rest) = some (v, rest) := by
  unfold Xer.decPrim
  rw [dg_empty _ _ hneed]
  simp only [primCb, List.dropWhile_nil, hp, Option.map_some]

/-- an element whose body is one chunk of character data, or nothing at all -/
theorem decStr_body {σ : Type} (cb : GenCb σ) (init s' : σ) (need : Bytes) (hneed : nameOk need = true) (txt rest : Bytes)
    (htxt : ∀ c ∈ txt, c ≠ cLT) (hp : cb.body init txt = some s') (hnil : txt = [] → s' = init) :
    decStr cb init need (openTag need ++ (txt ++ (closeTag need ++ rest))) = some (s', rest) :=
  dg_element cb need hneed (by omega) (dg_text _ _ htxt rfl hp hnil (dg_close _ _ hneed _ rest))

end Asn1c.Proofs.L2Xer
