import Asn1cModel.Impl.Integer
import Asn1cModel.Spec.Numeral
import Asn1cModel.Proofs.Decimal
/- The decimal parsers `asn_strto{imax,umax,l,ul}_lim` against `Spec.Numeral`, for C16 (property theorems:
   Props/C16.lean).  One theorem about the one loop, `imaxLoop_run` (the unsigned loop is that loop with sign 1); from
   it each parser accepts exactly the numerals in range (`strtoimax_char`, …), `asn_strtol_lim` / `asn_strtoul_lim`
   through the range test `rangeChecked` they put behind the other two. -/
namespace Asn1c.Proofs.Strtox
open Asn1c Asn1c.Impl.Integer Asn1c.Spec

theorem isDigit_iff (c : Nat) : isDigit c = true ↔ 0x30 ≤ c ∧ c ≤ 0x39 := by simp [isDigit]

theorem allDigits_nil : allDigits [] := by simp [allDigits]

theorem allDigits_cons (c : Nat) (cs : List Nat) :
    allDigits (c :: cs) ↔ isDigit c = true ∧ allDigits cs := by
  simp [allDigits, isDigit]

theorem allDigits_iff_takeWhile (l : List Nat) : allDigits l ↔ l.takeWhile isDigit = l := by
  refine ⟨fun h => ?_, fun h c hc => (isDigit_iff c).mp (List.all_eq_true.mp List.all_takeWhile c (h.symm ▸ hc))⟩
  have := List.takeWhile_append_of_pos (p := isDigit) (l₂ := []) fun c hc => (isDigit_iff c).mpr (h c hc)
  rwa [List.append_nil, List.takeWhile_nil, List.append_nil] at this

/-- The loop of `asn_strtoimax_lim` on any input, entered with `value` within the limit `ub*10+ldm`, in terms of the digits
    the input starts with: when their numeral stays within the limit the loop stops behind them, with ASN_STRTOX_OK when
    they are the whole input and ASN_STRTOX_EXTRA_DATA otherwise, and stores the signed value; when it does not, the
    result is ASN_STRTOX_ERROR_RANGE. -/
theorem imaxLoop_run (ub ldm : Nat) (sign : Int) (hub : 1 ≤ ub) (hldm : ldm ≤ 9)
    (hs : sign = 1 ∨ sign = -1) (l : List Nat) (value pos : Nat) (hv : value ≤ ub * 10 + ldm) :
    (digitsVal value (l.takeWhile isDigit) ≤ ub * 10 + ldm →
      strtoimaxLoop ub ldm sign value pos l =
        ⟨if l.takeWhile isDigit = l then .ok else .extra, pos + (l.takeWhile isDigit).length,
          some (sign * (digitsVal value (l.takeWhile isDigit) : Nat))⟩) ∧
    (ub * 10 + ldm < digitsVal value (l.takeWhile isDigit) →
      (strtoimaxLoop ub ldm sign value pos l).res = .range) := by
  -- the value stored behind a last digit `n` that just fits
  have hlast (n : Nat) :
      (if sign > 0 then (ub : Int) * 10 + n else -(ub : Int) * 10 - n) = sign * ((ub * 10 + n : Nat) : Int) := by
    rcases hs with hs | hs <;> subst hs <;> simp <;> omega
  generalize hV : (value : Int) = V
  fun_induction strtoimaxLoop ub ldm sign V pos l generalizing value with
  -- the eight paths of the C loop: the end of the input; a digit below `ub`, and on; at `ub` a last digit up to `ldm`
  -- (the end, a further digit, something else behind it) or above `ldm`; a digit above `ub`; not a digit
  | case1 V pos =>
    subst hV
    exact ⟨fun _ => rfl, fun h => absurd h (Nat.not_lt.mpr hv)⟩
  | case2 V pos c rest hc d h1 ih =>
    have hcr := (isDigit_iff c).mp hc
    simp only [List.takeWhile_cons, hc, if_true, digitsVal_cons, List.length_cons, List.cons.injEq, true_and]
    rw [← Nat.add_assoc, Nat.add_right_comm pos]
    exact ih (value * 10 + (c - 0x30)) (by omega) (by simp only [d]; omega)
  | case3 pos c hc d h3 _ value' =>
    obtain rfl : value = ub := Int.ofNat_inj.mp hV
    simp only [List.takeWhile_cons, hc, if_true, List.takeWhile_nil, digitsVal_cons, digitsVal_nil, List.length_cons,
      List.length_nil, ← hlast]
    exact ⟨fun _ => rfl, fun h => by simp only [d] at h3; omega⟩
  | case4 pos c hc d h3 c2 t hc2 _ =>
    have hge := digitsVal_ge ((value * 10 + (c - 0x30)) * 10 + (c2 - 0x30)) (t.takeWhile isDigit)
    simp only [List.takeWhile_cons, hc, hc2, if_true, digitsVal_cons]
    exact ⟨fun h => by omega, fun _ => trivial⟩
  | case5 pos c hc d h3 c2 t hc2 _ value' =>
    obtain rfl : value = ub := Int.ofNat_inj.mp hV
    simp only [List.takeWhile_cons, hc, Bool.eq_false_iff.mpr hc2, if_true, Bool.false_eq_true, if_false, digitsVal_cons,
      digitsVal_nil, List.length_cons, List.length_nil, ← hlast, List.cons.injEq, true_and, reduceCtorEq]
    exact ⟨fun _ => rfl, fun h => by simp only [d] at h3; omega⟩
  | case6 pos c t hc d h3 _ =>
    have hge := digitsVal_ge (value * 10 + (c - 0x30)) (t.takeWhile isDigit)
    simp only [List.takeWhile_cons, hc, if_true, digitsVal_cons]
    exact ⟨fun h => by simp only [d] at h3; omega, fun _ => trivial⟩
  | case7 V pos c t hc h1 h2 =>
    have hge := digitsVal_ge (value * 10 + (c - 0x30)) (t.takeWhile isDigit)
    simp only [List.takeWhile_cons, hc, if_true, digitsVal_cons]
    exact ⟨fun h => by omega, fun _ => trivial⟩
  | case8 V pos c t hc =>
    subst hV
    simp only [List.takeWhile_cons, hc]
    exact ⟨fun _ => rfl, fun h => absurd h (Nat.not_lt.mpr hv)⟩

theorem umaxLoop_eq_imaxLoop (ub ldm : Nat) (rest : List Nat) (value pos : Nat) :
    strtoumaxLoop ub ldm value pos rest = strtoimaxLoop ub ldm 1 value pos rest := by
  induction rest generalizing value pos with
  | nil => simp [strtoumaxLoop, strtoimaxLoop]
  | cons c rest ih =>
    rw [strtoumaxLoop, strtoimaxLoop]
    simp only [ih, Int.ofNat_lt, Int.ofNat_inj, Int.ofNat_le, Int.one_mul, show (1 : Int) > 0 from by decide,
      if_true]
    push_cast
    rfl

/-- the accepting half of `imaxLoop_run` for the loop of `asn_strtoumax_lim`, on a run of digits `ds` followed by a
    `tail` that does not start with a digit -/
theorem umaxLoop_run (ub ldm : Nat) (hub : 1 ≤ ub) (hldm : ldm ≤ 9) (tail : List Nat)
    (ht : ∀ c t, tail = c :: t → isDigit c = false) (ds : List Nat) (hd : allDigits ds) (value pos : Nat)
    (hv : digitsVal value ds ≤ ub * 10 + ldm) :
    strtoumaxLoop ub ldm value pos (ds ++ tail) =
      ⟨if tail = [] then .ok else .extra, pos + ds.length, some (digitsVal value ds : Nat)⟩ := by
  have hrun : (ds ++ tail).takeWhile isDigit = ds := by
    rw [List.takeWhile_append_of_pos fun c hc => (isDigit_iff c).mpr (hd c hc)]
    cases tail with
    | nil => simp
    | cons c t => simp [ht c t rfl]
  have := imaxLoop_run ub ldm 1 hub hldm (Or.inl rfl) (ds ++ tail) value pos (Nat.le_trans (digitsVal_ge value ds) hv)
  rw [hrun] at this
  rw [umaxLoop_eq_imaxLoop, this.1 hv, Int.one_mul]
  simp only [List.self_eq_append_right]

theorem digits?_eq_some_iff {ds : List Nat} {n : Nat} :
    digits? ds = some n ↔ ds ≠ [] ∧ allDigits ds ∧ n = digitsVal 0 ds := by
  unfold digits?
  split <;> simp_all [eq_comm]

theorem digits?_of_allDigits {ds : List Nat} (hne : ds ≠ []) (hd : allDigits ds) :
    digits? ds = some (digitsVal 0 ds) := by
  simp [digits?, hne, hd]

theorem digits?_of_not_allDigits {ds : List Nat} (hd : ¬ allDigits ds) : digits? ds = none := by
  simp [digits?, hd]

theorem digits?_nil : digits? [] = none := by simp [digits?]

/-- One sign branch of a parser: ASN_STRTOX_EXPECT_MORE when nothing follows the sign, otherwise the signed loop started
    at value 0 on `ds`, against the numeral `(digits? ds).map f` (`f n = sign * n`) and a range test `fits` that `f n`
    passes exactly for `n ≤ ub*10+ldm`: accepted, with that end offset and value, iff a numeral in range. -/
theorem imaxLoop_char (ub ldm : Nat) (sign : Int) (hub : 1 ≤ ub) (hldm : ldm ≤ 9)
    (hs : sign = 1 ∨ sign = -1) (f : Nat → Int) (hf : ∀ n, f n = sign * n) (fits : Int → Prop)
    (hfits : ∀ n, fits (f n) ↔ n ≤ ub * 10 + ldm) (ds : List Nat) (pos len : Nat) (hlen : len = pos + ds.length) :
    (∀ v, (digits? ds).map f = some v → fits v →
      (if ds = [] then ⟨.more, pos, none⟩ else strtoimaxLoop ub ldm sign 0 pos ds) = ⟨.ok, len, some v⟩) ∧
    ((if ds = [] then (⟨.more, pos, none⟩ : StrtoxOut) else strtoimaxLoop ub ldm sign 0 pos ds).res = .ok →
      ∃ v, (digits? ds).map f = some v ∧ fits v) := by
  by_cases hne : ds = []
  · subst hne; simp [digits?_nil]
  rw [if_neg hne]
  have hL := imaxLoop_run ub ldm sign hub hldm hs ds 0 pos (by omega)
  simp only [Int.natCast_zero] at hL
  by_cases hd : allDigits ds
  · rw [(allDigits_iff_takeWhile ds).mp hd, if_pos rfl] at hL
    rw [digits?_of_allDigits hne hd]
    refine ⟨fun v hv hfv => ?_, fun hok => ⟨_, rfl, (hfits _).mpr (Nat.le_of_not_lt fun hgt => ?_)⟩⟩
    · cases hv; rw [hL.1 ((hfits _).mp hfv), hf, hlen]
    · rw [hL.2 hgt] at hok; cases hok
  · rw [digits?_of_not_allDigits hd]
    refine ⟨fun v hv => (by cases hv), fun hok => ?_⟩
    by_cases hle : digitsVal 0 (ds.takeWhile isDigit) ≤ ub * 10 + ldm
    · rw [hL.1 hle, if_neg (mt (allDigits_iff_takeWhile ds).mpr hd)] at hok; cases hok
    · rw [hL.2 (by omega)] at hok; cases hok

theorem imaxMax_div : imaxMax / 10 = ((922337203685477580 : Nat) : Int) := by decide
theorem imaxMax_mod : imaxMax % 10 = ((7 : Nat) : Int) := by decide
theorem umaxMax_div : umaxMax / 10 = 1844674407370955161 := by decide
theorem umaxMax_mod : umaxMax % 10 = 5 := by decide

/-- `asn_strtoimax_lim` accepts exactly the in-range signed numerals (value and end determined) -/
theorem strtoimax_char (s : List Nat) :
    (∀ v, numeral? true s = some v → fitsS64 v → strtoimax s = ⟨.ok, s.length, some v⟩) ∧
    ((strtoimax s).res = .ok → ∃ v, numeral? true s = some v ∧ fitsS64 v) := by
  -- the two sign branches: limit 922337203685477580·10 + 7 = 2^63 − 1 going up, … + 8 going down
  have pos := imaxLoop_char 922337203685477580 7 1 (by omega) (by omega) (Or.inl rfl) (fun n => (n : Int))
    (fun n => by omega)
    fitsS64 (fun n => by unfold fitsS64; omega)
  have neg := imaxLoop_char 922337203685477580 8 (-1) (by omega) (by omega) (Or.inr rfl) (fun n => -(n : Int))
    (fun n => by omega)
    fitsS64 (fun n => by unfold fitsS64; omega)
  fun_cases numeral? true s <;> simp only [strtoimax, List.length_cons, imaxMax_div, imaxMax_mod, if_true]
  case case1 => simp
  case case2 cs _ => exact neg cs 1 _ (by omega)
  case case3 => contradiction
  case case4 cs h =>
    simp only [h, if_false]
    exact pos cs 1 _ (by omega)
  -- no sign: the test `c :: cs = []` of `imaxLoop_char` evaluates to false
  case case5 c cs h1 h2 =>
    simp only [h1, h2, if_false]
    exact pos (c :: cs) 0 _ (by simp)

/-- `asn_strtoumax_lim` accepts exactly the in-range unsigned numerals (value and end determined) -/
theorem strtoumax_char (s : List Nat) :
    (∀ v, numeral? false s = some v → fitsU64 v → strtoumax s = ⟨.ok, s.length, some v⟩) ∧
    ((strtoumax s).res = .ok → ∃ v, numeral? false s = some v ∧ fitsU64 v) := by
  -- limit 1844674407370955161·10 + 5 = 2^64 − 1
  have pos := imaxLoop_char 1844674407370955161 5 1 (by omega) (by omega) (Or.inl rfl) (fun n => (n : Int))
    (fun n => by omega)
    fitsU64 (fun n => by unfold fitsU64; omega)
  fun_cases numeral? false s <;>
    simp only [strtoumax, List.length_cons, umaxLoop_eq_imaxLoop, Int.natCast_zero, umaxMax_div, umaxMax_mod, if_true]
  case case1 | case3 => simp
  case case2 => contradiction
  case case4 cs h =>
    simp only [h, if_false]
    exact pos cs 1 _ (by omega)
  case case5 c cs h1 h2 =>
    simp only [h1, h2, if_false]
    exact pos (c :: cs) 0 _ (by simp)

/-- the range test that `asn_strtol_lim` and `asn_strtoul_lim` put behind the result `r` of `asn_strtoimax_lim` /
    `asn_strtoumax_lim`: a stored value outside `p` turns OK or EXTRA_DATA into ERROR_RANGE, everything else is handed on -/
def rangeChecked (p : Int → Prop) [DecidablePred p] (r : StrtoxOut) : StrtoxOut :=
  match r.res, r.val with
  | .ok, some v => if p v then r else ⟨.range, r.endPos, none⟩
  | .extra, some v => if p v then r else ⟨.range, r.endPos, none⟩
  | _, _ => r

/-- a range test that every fitting value passes leaves "accepts exactly the fitting numerals" as it is -/
theorem rangeChecked_char (p fits : Int → Prop) [DecidablePred p] (hp : ∀ v, fits v → p v) (r : StrtoxOut)
    (num : Option Int) (len : Nat)
    (h : (∀ v, num = some v → fits v → r = ⟨.ok, len, some v⟩) ∧ (r.res = .ok → ∃ v, num = some v ∧ fits v)) :
    (∀ v, num = some v → fits v → rangeChecked p r = ⟨.ok, len, some v⟩) ∧
    ((rangeChecked p r).res = .ok → ∃ v, num = some v ∧ fits v) := by
  refine ⟨fun v hv hf => ?_, fun hok => h.2 ?_⟩
  · rw [h.1 v hv hf, rangeChecked]; simp only [hp v hf, if_true]
  · revert hok
    fun_cases rangeChecked p r with
    | case2 | case4 => nofun
    | case1 | case3 | case5 => exact id

theorem strtol_char (s : List Nat) :
    (∀ v, numeral? true s = some v → fitsS64 v → strtol s = ⟨.ok, s.length, some v⟩) ∧
    ((strtol s).res = .ok → ∃ v, numeral? true s = some v ∧ fitsS64 v) :=
  -- `strtol s` unfolds to `rangeChecked` of the LONG range and `strtoimax s`
  rangeChecked_char (fun v => v ≥ -(2 ^ 63) ∧ v ≤ 2 ^ 63 - 1) fitsS64 (fun v hf => by unfold fitsS64 at hf; omega)
    (strtoimax s) _ _ (strtoimax_char s)

theorem strtoul_char (s : List Nat) :
    (∀ v, numeral? false s = some v → fitsU64 v → strtoul s = ⟨.ok, s.length, some v⟩) ∧
    ((strtoul s).res = .ok → ∃ v, numeral? false s = some v ∧ fitsU64 v) :=
  rangeChecked_char (fun v => v ≤ 2 ^ 64 - 1) fitsU64 (fun v hf => by unfold fitsU64 at hf; omega)
    (strtoumax s) _ _ (strtoumax_char s)

/-- `asn_strtoul_lim` on an unsigned numeral without a sign, `ds`, followed by a `tail` that does not start with a digit
    (the way the OBJECT IDENTIFIER text parser calls it, arc by arc): the value of the numeral, `*end` behind its digits,
    ASN_STRTOX_OK at the end of the input and ASN_STRTOX_EXTRA_DATA otherwise -/
theorem strtoul_run (ds tail : List Nat) (hne : ds ≠ []) (hd : allDigits ds)
    (ht : ∀ c t, tail = c :: t → isDigit c = false) (hv : digitsVal 0 ds < 2 ^ 64) :
    strtoul (ds ++ tail) = ⟨if tail = [] then .ok else .extra, ds.length, some (digitsVal 0 ds : Nat)⟩ := by
  have hL := umaxLoop_run 1844674407370955161 5 (by omega) (by omega) tail ht ds hd 0 0 (by omega)
  rw [Nat.zero_add] at hL
  obtain ⟨c, cs, rfl⟩ := List.exists_cons_of_ne_nil hne
  have hc := (isDigit_iff c).mp ((allDigits_cons c cs).mp hd).1
  unfold strtoul strtoumax
  rw [List.cons_append] at hL ⊢
  simp only [umaxMax_div, umaxMax_mod, if_neg (show c ≠ 0x2d by omega), if_neg (show c ≠ 0x2b by omega), hL]
  have : (digitsVal 0 (c :: cs) : Int) ≤ 2 ^ 64 - 1 := by omega
  by_cases htl : tail = [] <;> simp only [htl, if_true, if_false, this]

end Asn1c.Proofs.Strtox
