import Asn1cModel.Proofs.L2XerEqns
import Asn1cModel.Proofs.L2XerDom
/-
  XER, third part (helper lemmas for Props/C01Xer.lean): the round trip.  The element decoders of the primitive types
  are the steps of Proofs/L2XerTok applied to the body texts of Proofs/L2XerBody (`rt_valueTag`, `rt_null` ... `rt_bitstr`;
  `utf8Loop` for the character strings, whose body is several chunks); the constructed types SEQUENCE OF, CHOICE,
  SEQUENCE go through their phase machines, one step lemma per phase and one induction per type (`listLoop`,
  `choice_alt`, `seqLoop`), again in the form "answers `out` from `n` units of fuel on"; a bound in terms of the input
  length is put in at the end (`RT`, `rt_all`).
  The round trip covers the types of `rtTy`, which leaves out OBJECT IDENTIFIER, RELATIVE-OID, SET and SET OF
  (CANONICAL-XER reorders the elements); for SET OF the file ends with the fact that stands in its place: the
  CANONICAL-XER encoding does not depend on the order of the elements (`mapEnc_eq`, `encTy_setOf_perm`).
  The domain `rtTy` / `rtVal` (Proofs/L2XerDom) and the NULL clauses of `encTy` / `decTy` (Proofs/L2XerEqns) are stated
  upstream, so that the many proofs here that unfold them find their equation lemmas derived.
-/
namespace Asn1c.Proofs.L2Xer
open Asn1c Asn1c.L2 Asn1c.L2.Xer

/-- the round-trip statement for the decoder of one type, as a member called `name` -/
def RT (t : XTy) : Prop :=
  ∀ (c : Bool) (name : Bytes) (il : Nat) (v : Val) (body rest : Bytes) (fuel : Nat),
    nameOk name = true → rtVal c t v = true → encTy c t il v = some body →
    body.length + 4 ≤ fuel →
    decTy fuel t name (openTag name ++ (body ++ (closeTag name ++ rest))) = some (v, rest)

/-- the decoders of the primitive types take one unit of fuel, whatever the length of the body -/
theorem RT.of_succ {t : XTy}
    (h : ∀ (c : Bool) (name : Bytes) (il : Nat) (v : Val) (body rest : Bytes) (f : Nat), nameOk name = true →
      rtVal c t v = true → encTy c t il v = some body →
      decTy (f + 1) t name (openTag name ++ (body ++ (closeTag name ++ rest))) = some (v, rest)) : RT t := by
  intro c name il v body rest fuel hname hv he hf
  obtain ⟨f, rfl⟩ : ∃ f, fuel = f + 1 := ⟨fuel - 1, by omega⟩
  exact h c name il v body rest f hname hv he

/-- BOOLEAN and ENUMERATED are written as one value tag, an empty-element tag `<x/>`, which the body decoder `pbd` of
    the type reads back; `clash` lists the names `x` it can have -/
theorem value_tag {e : XTy} (ht : e = .boolean ∨ ∃ ns vs, e = .enumerated ns vs ∧ enumOkB ns vs = true) {c : Bool}
    {il : Nat} {v : Val} {body : Bytes} (hv : rtVal c e v = true) (he : encTy c e il v = some body) :
    ∃ x pbd, body = emptyTag x ∧ nameOk x = true ∧ clash e x = true ∧ pbd (emptyTag x) = .consumed v ∧
      ∀ f name bs, decTy (f + 1) e name bs = decPrim pbd name bs := by
  rcases ht with rfl | ⟨ns, vs, rfl, hok⟩
  · cases v with
    | bool b =>
      obtain ⟨x, hx, hlit, hxe, hxb⟩ := boolTag b
      simp only [encTy, Option.some.injEq] at he
      refine ⟨x, boolBody, he ▸ hxe, hx, ?_, hxb, fun f name bs => by rw [decTy]⟩
      rcases hlit with rfl | rfl <;> rfl
    | _ => simp [rtVal] at hv
  · have hok' := enumOk_of_B hok
    cases v with
    | int z =>
      simp only [rtVal, Option.isSome_iff_exists] at hv
      obtain ⟨n, hn⟩ := hv
      simp only [encTy, hn, Option.map_some, Option.some.injEq] at he
      have hm := (lookupName_mem ns vs z n hn).1
      exact ⟨n, intBody .long ns vs, he.symm, hok'.2.2.1 n hm, by simp [clash, hm], intBody_enum ns vs z n hok' hn,
        fun f name bs => by rw [decTy]⟩
    | _ => simp [rtVal] at hv

theorem rt_valueTag {e : XTy} (ht : e = .boolean ∨ ∃ ns vs, e = .enumerated ns vs ∧ enumOkB ns vs = true) : RT e := by
  refine RT.of_succ fun c name il v body rest f hname hv he => ?_
  obtain ⟨x, pbd, rfl, hx, -, hp, hdec⟩ := value_tag ht hv he
  rw [hdec]
  exact decPrim_tag pbd name hname x rest v hx hp

theorem rt_null : RT .null := by
  refine RT.of_succ fun c name il v body rest f hname hv he => ?_
  cases v with
  | null =>
    obtain rfl := Option.some.inj ((encTy_null c il).symm.trans he)
    rw [decTy_null, List.nil_append]
    exact decPrim_empty nullBody name hname rest _ rfl
  | _ => simp [rtVal] at hv

theorem rt_integer (r : IntRepr) : RT (.integer r) := by
  refine RT.of_succ fun c name il v body rest f hname hv he => ?_
  cases v with
  | int z =>
    simp only [rtVal, decide_eq_true_eq] at hv
    simp only [encTy, encInt_intDec hv, Option.some.injEq] at he
    subst he
    obtain ⟨ch, rs, hd, hws, _⟩ := intDec_head z
    simp only [decTy]
    apply decPrim_text _ name hname (intDec z) rest _ (by rw [hd]; simp) (intDec_noLT z)
    rw [hd, List.dropWhile_cons_of_neg (Bool.eq_false_iff.mp hws), ← hd]
    exact intBody_intDec r [] [] z hv
  | _ => simp [rtVal] at hv

theorem rt_hexstr : RT .hexstr := by
  refine RT.of_succ fun c name il v body rest f hname hv he => ?_
  cases v with
  | octets bs =>
    simp only [rtVal, List.all_eq_true, decide_eq_true_eq] at hv
    simp only [encTy, Option.some.injEq] at he
    subst he
    have h1 := convHex_encHex c il bs hv
    simp only [decTy]
    rw [decStr_body hexCb [] bs name hname _ rest (convHex_noLT _ _ _ h1) (by simp [hexCb, h1])
      fun e => by rw [e] at h1; cases h1; rfl]
    rfl
  | _ => simp [rtVal] at hv

/-- the characters written as they are since the last tag (`run`) are one chunk of character data, if there are any;
    a tag follows -/
theorem utf8_flush (need : Bytes) {run s r : Bytes} {n : Nat} {out : Bytes × Bytes} (hrun : ∀ x ∈ run, isCtl x = false)
    (hr : r.head? = some cLT) (h : ∀ fuel, n ≤ fuel → decGeneral utf8Cb need fuel true (s ++ run) r = some out) :
    ∀ fuel, n + 1 ≤ fuel → decGeneral utf8Cb need fuel true s (encUtf8 run ++ r) = some out := by
  refine dg_text _ _ (encUtf8_run_noLT run hrun) hr ?_ (fun e => ?_) h
  · simp only [utf8Cb, convEnt_run run hrun _ (Nat.le_succ_of_le (encUtf8_run_len run hrun)), Option.map_some]
  · have := encUtf8_run_len run hrun
    rw [e] at this
    rw [List.length_eq_zero_iff.mp (Nat.le_zero.mp this), List.append_nil]

/-- the body of a character string, up to the closing tag: text runs and control-character tags -/
theorem utf8Loop (need : Bytes) (hneed : nameOk need = true) (rest : Bytes) :
    ∀ (bs run s : Bytes), (∀ x ∈ run, isCtl x = false) → ∀ fuel, (encUtf8 bs).length + 2 ≤ fuel →
      decGeneral utf8Cb need fuel true s (encUtf8 run ++ (encUtf8 bs ++ (closeTag need ++ rest))) =
        some (s ++ run ++ bs, rest) := by
  intro bs
  induction bs with
  | nil =>
    intro run s hrun fuel hf
    rw [List.append_nil]
    exact utf8_flush need hrun rfl (dg_close utf8Cb need hneed _ rest) fuel (by omega)
  | cons b bs ih =>
    intro run s hrun fuel hf
    cases hb : isCtl b with
    | true =>
      obtain ⟨-, hnok, hct⟩ := ctl_table b (isCtl_lt hb) hb
      rw [encUtf8_ctl hb, List.length_append, emptyTag_length] at hf
      rw [encUtf8_ctl hb, List.append_assoc, show s ++ run ++ b :: bs = s ++ run ++ [b] ++ [] ++ bs by simp]
      exact utf8_flush need hrun rfl (dg_unexp _ _ hneed hnok
        (show utf8Cb.unexp (s ++ run) _ = some (s ++ run ++ [b]) by simp [utf8Cb, hct])
        (ih [] _ (by simp))) fuel (by omega)
    | false =>
      have := ih (run ++ [b]) s (by simpa [or_imp, forall_and, hb] using hrun) fuel
        (by rw [encUtf8_cons, List.length_append] at hf; omega)
      simpa [encUtf8] using this

theorem decStr_utf8 (name : Bytes) (hname : nameOk name = true) (txt rest : Bytes) :
    decStr utf8Cb [] name (openTag name ++ (encUtf8 txt ++ (closeTag name ++ rest))) = some (txt, rest) :=
  dg_element utf8Cb name hname (n := (encUtf8 txt).length + 2) (by omega) (utf8Loop name hname rest txt [] [] (by simp))

/-- UTF8String and the other UTF-8 written strings; GeneralizedTime / UTCTime are written and read like them -/
theorem rt_utf8str (t : XTy) (ht : t = .utf8str ∨ ∃ u, t = .timestr u) : RT t := by
  refine RT.of_succ fun c name il v body rest f hname hv he => ?_
  rcases ht with rfl | ⟨u, rfl⟩
  all_goals
    cases v with
    | octets bs =>
      simp only [encTy, Option.some.injEq] at he
      subst he
      simp only [decTy, decStr_utf8 name hname]; rfl
    | _ => simp [rtVal] at hv

/-- BMPString (finding F150 repaired): the escaped UTF-8 text decodes to the UTF-8 text, which converts back to
    the 16-bit characters -/
theorem rt_bmpstr : RT .bmpstr := by
  refine RT.of_succ fun c name il v body rest f hname hv he => ?_
  cases v with
  | octets bs =>
    simp only [rtVal] at hv
    simp only [encTy, encBmp, Option.some.injEq] at he
    subst he
    simp only [decTy, decStr_utf8 name hname, bmpOfUtf8_bmpUtf8 bs hv]; rfl
  | _ => simp [rtVal] at hv

theorem rt_unistr : RT .unistr := by
  refine RT.of_succ fun c name il v body rest f hname hv he => ?_
  cases v with
  | octets bs =>
    simp only [rtVal] at hv
    simp only [encTy, encUni, Option.some.injEq] at he
    subst he
    simp only [decTy, decStr_utf8 name hname, uniOfUtf8_uniUtf8 bs hv]; rfl
  | _ => simp [rtVal] at hv

theorem rt_bitstr : RT .bitstr := by
  refine RT.of_succ fun c name il v body rest f hname hv he => ?_
  cases v with
  | bits bs u =>
    simp only [rtVal] at hv
    simp only [encTy, Option.some.injEq] at he
    subst he
    obtain ⟨bits, h1, h2, h3⟩ := encBits_spec c il bs u hv
    simp only [decTy]
    rw [decStr_body binCb [] bits name hname _ rest (convBin_noLT _ _ h1) (by simp [binCb, h1])
      fun e => by rw [e] at h1; cases h1; rfl]
    simp only [Option.map_some]
    rw [h2, h3]
  | _ => simp [rtVal] at hv

/-- the chunk is `<n>` or `<n/>` for a tag name `n` -/
def StartTag (chunk : Bytes) : Prop := ∃ n, nameOk n = true ∧ (chunk = openTag n ∨ chunk = emptyTag n)

theorem StartTag.head {chunk : Bytes} (h : StartTag chunk) (r : Bytes) : (chunk ++ r).head? = some cLT := by
  obtain ⟨n, _, rfl | rfl⟩ := h <;> rfl

theorem StartTag.length_pos {chunk : Bytes} (h : StartTag chunk) : 0 < chunk.length := by
  obtain ⟨n, _, rfl | rfl⟩ := h <;> simp [openTag, emptyTag]

/-- `x` renders the list element `v`: white space, the part `chunk ++ t` that the element decoder (called with the
    tag name `en`) consumes, white space that it leaves -/
def ElemOk (e : XTy) (en : Bytes) (x : Bytes) (v : Val) : Prop :=
  ∃ w chunk t w', x = w ++ (chunk ++ (t ++ w')) ∧ (∀ y ∈ w, y ≠ cLT) ∧ (∀ y ∈ w', y ≠ cLT) ∧ StartTag chunk ∧
    ∀ rest fuel, (chunk ++ t).length ≤ fuel → decTy fuel e en (chunk ++ (t ++ rest)) = some (v, rest)

/-- the statement for a CHOICE decoded without a tag of its own (the element of a SEQUENCE OF CHOICE): its
    rendering is `[indent] <alt>..</alt> [indent]`; the decoder, started at `<alt>`, returns after `</alt>` -/
def RT0 (t : XTy) : Prop :=
  isChoice t = true → ∀ (c : Bool) (il : Nat) (v : Val) (body : Bytes),
    rtVal c t v = true → encTy c t il v = some body → ElemOk t [] body v

theorem mapEnc_cons {α : Type} (f : α → Option Bytes) (v : α) (vs : List α) (bs : List Bytes)
    (h : mapEnc f (v :: vs) = some bs) : ∃ b bs', f v = some b ∧ mapEnc f vs = some bs' ∧ bs = b :: bs' := by
  simp only [mapEnc] at h
  cases h1 : f v with
  | none => simp [h1] at h
  | some b =>
    cases h2 : mapEnc f vs with
    | none => simp [h1, h2] at h
    | some bs' =>
      simp only [h1, h2, Option.some.injEq] at h
      exact ⟨b, bs', rfl, rfl, h.symm⟩

section list
variable (en : Bytes) (e : XTy) (name : Bytes) (hname : nameOk name = true)

theorem decListBody_skip {n : Nat} {w r : Bytes} {out : List Val × Bytes} (hw : ∀ x ∈ w, x ≠ cLT)
    (hr : r.head? = some cLT) (h : ∀ fuel, n ≤ fuel → decListBody fuel en e name r = some out) :
    ∀ fuel, n + w.length ≤ fuel → decListBody fuel en e name (w ++ r) = some out :=
  skip_text (fun f bs => decListBody f en e name bs)
    (fun hn f => by simp only [decListBody, nextTok_text w hn hw r hr]) h

include hname

theorem decListBody_close (r : Bytes) : ∀ fuel, 1 ≤ fuel → decListBody fuel en e name (closeTag name ++ r) = some ([], r) := by
  refine fuel_succ fun f hf => ?_
  simp [decListBody, nextTok_closeTag name hname, checkTag_close_self name hname]

theorem decListBody_elem {chunk r r' rest : Bytes} (hc : StartTag chunk) {v : Val} {vs : List Val} {n1 n2 : Nat}
    (h1 : ∀ fuel, n1 ≤ fuel → decTy fuel e en (chunk ++ r) = some (v, r'))
    (h2 : ∀ fuel, n2 ≤ fuel → decListBody fuel en e name r' = some (vs, rest)) :
    ∀ fuel, max n1 n2 + 1 ≤ fuel → decListBody fuel en e name (chunk ++ r) = some (v :: vs, rest) := by
  refine fuel_succ fun f hf => ?_
  obtain ⟨n, hn, rfl | rfl⟩ := hc
  · have h := checkTag_open n name hn (Or.inr hname)
    split at h <;> simp only [decListBody, nextTok_openTag n hn, h, h1 f (by omega), h2 f (by omega), Option.map_some]
  · have h := checkTag_empty n name hn (Or.inr hname)
    split at h <;> simp only [decListBody, nextTok_emptyTag n hn, h, h1 f (by omega), h2 f (by omega), Option.map_some]

/-- the elements of a list one after the other, then the closing tag; `w0` is white space left over in front -/
theorem listLoop (f : Val → Option Bytes) (g : Bytes → Bytes) (P : Val → Bool)
    (helem : ∀ v b, P v = true → f v = some b → ElemOk e en (g b) v) (w1 rest : Bytes) (hw1 : ∀ y ∈ w1, y ≠ cLT) :
    ∀ (vs : List Val) (bodies : List Bytes), mapEnc f vs = some bodies → vs.all P = true →
      ∀ (w0 : Bytes), (∀ y ∈ w0, y ≠ cLT) → ∀ fuel, w0.length + ((bodies.map g).flatten).length + w1.length + 2 ≤ fuel →
        decListBody fuel en e name (w0 ++ ((bodies.map g).flatten ++ (w1 ++ (closeTag name ++ rest)))) = some (vs, rest) := by
  intro vs
  induction vs with
  | nil =>
    intro bodies hm _ w0 hw0 fuel hf
    cases hm
    rw [List.map_nil, List.flatten_nil, List.nil_append, ← List.append_assoc]
    refine decListBody_skip en e name (List.forall_mem_append.mpr ⟨hw0, hw1⟩) rfl (decListBody_close en e name hname rest) fuel ?_
    simp only [List.map_nil, List.flatten_nil, List.length_nil, List.length_append] at hf ⊢; omega
  | cons v vs ih =>
    intro bodies hm hall w0 hw0 fuel hf
    obtain ⟨b, bs', hb, hbs, rfl⟩ := mapEnc_cons _ v vs bodies hm
    simp only [List.all_cons, Bool.and_eq_true] at hall
    obtain ⟨w, chunk, t, w', hx, hw, hw', hc, hdec⟩ := helem v b hall.1 hb
    have hpos := hc.length_pos
    simp only [List.map_cons, List.flatten_cons, hx, List.length_append, List.append_assoc] at hf ⊢
    rw [← List.append_assoc w0]
    refine decListBody_skip en e name (List.forall_mem_append.mpr ⟨hw0, hw⟩) (hc.head _)
      (decListBody_elem en e name hname hc (fun fuel hf => hdec _ fuel hf) (ih bs' hbs hall.2 w' hw')) fuel ?_
    simp only [List.length_append]; omega

end list

/-- the elements of a tag-wrapped list: `[indent] <en> body </en>` -/
theorem elem_wrapped (c : Bool) (il : Nat) (en : Bytes) (e : XTy) (hen : nameOk en = true) (ihe : RT e) (v : Val)
    (b : Bytes) (hv : rtVal c e v = true) (hb : encTy c e (il + 1) v = some b) :
    ElemOk e en (wrapSeqOfElem c 0 en il b) v := by
  refine ⟨ws c il, openTag en, b ++ closeTag en, [], by simp [wrapSeqOfElem, ws], ws_noLT c il, by simp,
    ⟨en, hen, Or.inl rfl⟩, fun rest fuel hf => ?_⟩
  have := ihe c en (il + 1) v b rest fuel hen hv hb (by
    simp only [List.length_append, openTag_length, closeTag_length] at hf; omega)
  simpa only [List.append_assoc] using this

/-- one element of a value list: its rendering is optional white space and one empty-element tag, which the
    element decoder (called with the type's own tag name `en`) consumes -/
theorem elem_valueList (c : Bool) (il : Nat) (en : Bytes) (e : XTy) (hen : nameOk en = true) (hvl : isVL e = true)
    (hcl : clash e en = false) (hty : rtTy e = true) (v : Val) (body : Bytes) (hv : rtVal c e v = true)
    (hb : encTy c e (il + 1) v = some body) : ElemOk e en (wrapSeqOfElem c 1 en il body) v := by
  suffices h : ∃ w x, wrapSeqOfElem c 1 en il body = w ++ emptyTag x ∧ (∀ y ∈ w, y ≠ cLT) ∧ nameOk x = true ∧
      ∀ f rest, decTy (f + 1) e en (emptyTag x ++ rest) = some (v, rest) by
    obtain ⟨w, x, hx, hw, hxn, hdec⟩ := h
    refine ⟨w, emptyTag x, [], [], by simpa using hx, hw, by simp, ⟨x, hxn, Or.inr rfl⟩, fun rest fuel hf => ?_⟩
    obtain ⟨f, rfl⟩ : ∃ f, fuel = f + 1 := ⟨fuel - 1, by simp [emptyTag] at hf; omega⟩
    exact hdec f rest
  have hcase : e = .null ∨ e = .boolean ∨ ∃ ns vs, e = .enumerated ns vs ∧ enumOkB ns vs = true := by
    cases e with
    | null => exact Or.inl rfl
    | boolean => exact Or.inr (Or.inl rfl)
    | enumerated ns vs => exact Or.inr (Or.inr ⟨ns, vs, rfl, by simpa [rtTy] using hty⟩)
    | _ => simp [isVL] at hvl
  rcases hcase with rfl | ht
  · cases v with
    | null =>
      obtain rfl := Option.some.inj ((encTy_null c _).symm.trans hb)
      exact ⟨ws c (il + 1), en, by simp [wrapSeqOfElem, ws], ws_noLT c _, hen,
        fun f rest => by rw [decTy_null]; exact decPrim_empty0 nullBody en hen rest _ rfl⟩
    | _ => simp [rtVal] at hv
  · obtain ⟨x, pbd, rfl, hx, hcx, hp, hdec⟩ := value_tag ht hv hb
    have hxn : x ≠ en := fun h => by rw [h, hcl] at hcx; cases hcx
    exact ⟨[], x, by simp [wrapSeqOfElem, emptyTag], by simp, hx,
      fun f rest => by rw [hdec]; exact decPrim_tag0 pbd en hen x rest v hx hxn hp⟩

/-- an unwrapped CHOICE element is rendered by the CHOICE itself -/
theorem elem_unwrapped (c : Bool) (il : Nat) (e : XTy) (v : Val) (b : Bytes) (h : ElemOk e [] b v) :
    ElemOk e [] (wrapSeqOfElem c 2 [] il b) v := by
  have hne : b ≠ [] := by
    obtain ⟨w, chunk, t, w', rfl, -, -, hc, -⟩ := h
    have hpos : 0 < chunk.length := hc.length_pos
    intro e
    have hlen : (w ++ (chunk ++ (t ++ w'))).length = 0 := congrArg List.length e
    simp only [List.length_append] at hlen
    omega
  have hwrap : wrapSeqOfElem c 2 [] il b = b := by simp [wrapSeqOfElem, hne]
  rwa [hwrap]

theorem rt_seqOf (mode : Nat) (en : Bytes) (e : XTy)
    (helem : ∀ c il v b, rtVal c e v = true → encTy c e (il + 1) v = some b → ElemOk e en (wrapSeqOfElem c mode en il b) v) :
    RT (.seqOf mode en e) := by
  intro c name il v body rest fuel hname hv he hf
  cases v with
  | list vs =>
    simp only [rtVal] at hv
    simp only [encTy, Option.map_eq_some_iff] at he
    obtain ⟨bodies, hmm, rfl⟩ := he
    obtain ⟨f, rfl⟩ : ∃ f, fuel = f + 2 := ⟨fuel - 2, by omega⟩
    have hl := listLoop en e name hname _ _ _ (helem c il) (ws c (il - 1)) rest (ws_noLT c _) vs bodies hmm hv []
      (by simp) f (by simp only [List.length_append] at hf; simp only [List.length_nil]; unfold ws; omega)
    simp only [decTy, decListOpen, List.append_assoc, nextTok_openTag name hname, checkTag_open_self name hname]
    unfold ws at hl
    simp only [List.nil_append] at hl
    rw [hl]; rfl
  | _ => simp [rtVal] at hv

/-- the member search over the names `l`, numbered from `edx` on, finds the member called `n` at its place `d`, if the `cnt`
    members it may look at reach that far (the names are distinct tag names, so every member before it answers "unknown
    opening tag") -/
theorem findMember_open {n : Bytes} (hn : nameOk n = true) : ∀ (l : List Bytes) (d edx cnt : Nat) (last : Tcv),
    (∀ x ∈ l, nameOk x = true) → l.Nodup → l[d]? = some n → d + 1 ≤ cnt →
      findMember (openTag n) l edx cnt last = .found (edx + d) := by
  intro l
  induction l with
  | nil => intro d edx cnt last _ _ hd; simp at hd
  | cons a l ih =>
    intro d edx cnt last hnm hnd hd hc
    obtain ⟨c, rfl⟩ : ∃ c, cnt = c + 1 := ⟨cnt - 1, by omega⟩
    cases d with
    | zero =>
      obtain rfl : a = n := by simpa using hd
      simp [findMember, checkTag_open_self a hn]
    | succ d =>
      have hne : n ≠ a := fun e => (List.nodup_cons.mp hnd).1 (e ▸ List.mem_of_getElem? hd)
      simp only [findMember, checkTag_open_ne n a hn (hnm a List.mem_cons_self) hne]
      rw [ih d (edx + 1) c .unkOp (fun x hx => hnm x (List.mem_cons_of_mem _ hx)) (List.nodup_cons.mp hnd).2 hd (by omega),
        Nat.add_right_comm, Nat.add_assoc]

/-- CHOICE_encode_xer writes the chosen alternative, number `i`, called `n`, of type `m`: `[indent] <n> body </n>` -/
theorem encAlt_spec (c : Bool) (il : Nat) (v : Val) : ∀ (names : List Bytes) (alts : List XTy) (i : Nat) (out : Bytes),
    rtAlt c alts i v = true → encAlt c names alts il i v = some out →
    ∃ n m b, names[i]? = some n ∧ alts[i]? = some m ∧ rtVal c m v = true ∧ encTy c m (il + 1) v = some b ∧
      out = ws c il ++ (openTag n ++ (b ++ closeTag n)) := by
  intro names
  induction names with
  | nil => intro alts i out _ h; simp [encAlt] at h
  | cons a as ih =>
    intro alts i out hv h
    cases alts with
    | nil => simp [encAlt] at h
    | cons m ms =>
      cases i with
      | zero =>
        simp only [encAlt] at h
        cases hb : encTy c m (il + 1) v with
        | none => simp [hb] at h
        | some b =>
          simp only [hb, Option.some.injEq] at h
          exact ⟨a, m, b, rfl, rfl, hv, hb, by rw [← h]; simp [ws]⟩
      | succ i => exact ih ms i out hv h

theorem decChoiceClose_nil (v : Val) (r : Bytes) : ∀ fuel, 1 ≤ fuel → decChoiceClose fuel [] v r = some (v, r) := by
  refine fuel_succ fun f hf => ?_
  simp [decChoiceClose]

section choiceSteps
variable (names : List Bytes) (alts : List XTy) (ext : Bool) (name : Bytes)

theorem decChoiceBody_skip {n : Nat} {w r : Bytes} {out : Val × Bytes} (hw : ∀ x ∈ w, x ≠ cLT)
    (hr : r.head? = some cLT) (h : ∀ fuel, n ≤ fuel → decChoiceBody fuel names alts ext name r = some out) :
    ∀ fuel, n + w.length ≤ fuel → decChoiceBody fuel names alts ext name (w ++ r) = some out :=
  skip_text (fun f bs => decChoiceBody f names alts ext name bs)
    (fun hn f => by simp only [decChoiceBody, nextTok_text w hn hw r hr]) h

theorem decChoiceClose_skip (v : Val) (hne : name ≠ []) {n : Nat} {w r : Bytes} {out : Val × Bytes}
    (hw : ∀ x ∈ w, x ≠ cLT) (hr : r.head? = some cLT)
    (h : ∀ fuel, n ≤ fuel → decChoiceClose fuel name v r = some out) :
    ∀ fuel, n + w.length ≤ fuel → decChoiceClose fuel name v (w ++ r) = some out :=
  skip_text (fun f bs => decChoiceClose f name v bs)
    (fun hn f => by simp only [decChoiceClose, hne, if_false, nextTok_text w hn hw r hr]) h

theorem decChoiceClose_close (hname : nameOk name = true) (v : Val) (r : Bytes) :
    ∀ fuel, 1 ≤ fuel → decChoiceClose fuel name v (closeTag name ++ r) = some (v, r) := by
  refine fuel_succ fun f hf => ?_
  simp [decChoiceClose, nameOk_ne_nil hname, nextTok_closeTag name hname, checkTag_close_self name hname]

theorem decChoiceBody_alt (hname : name = [] ∨ nameOk name = true) {n : Bytes} (hn : nameOk n = true) {i : Nat} {m : XTy}
    (hfind : ∀ last, findMember (openTag n) names 0 alts.length last = .found i) (hm : alts[i]? = some m)
    (hni : names[i]? = some n) {r r' : Bytes} {x : Val} {out : Val × Bytes} {n1 n2 : Nat}
    (h1 : ∀ fuel, n1 ≤ fuel → decTy fuel m n (openTag n ++ r) = some (x, r'))
    (h2 : ∀ fuel, n2 ≤ fuel → decChoiceClose fuel name (.choice i x) r' = some out) :
    ∀ fuel, max n1 n2 + 1 ≤ fuel → decChoiceBody fuel names alts ext name (openTag n ++ r) = some out := by
  refine fuel_succ fun f hf => ?_
  have h := checkTag_open n name hn hname
  split at h <;> simp only [decChoiceBody, nextTok_openTag n hn, h, hfind, hm, hni, h1 f (by omega), h2 f (by omega)]

end choiceSteps

section choiceRoundTrip
variable (names : List Bytes) (alts : List XTy) (ext : Bool) (hnm : ∀ n ∈ names, nameOk n = true)
  (hnd : names.Nodup) (ih : ∀ m ∈ alts, RT m)
include hnm hnd ih

/-- a CHOICE value is rendered `[indent] <n> body </n> [indent]` for the chosen alternative `n`; what the phase machine
    does from `<n>` on -/
theorem choice_alt (name : Bytes) (hname : name = [] ∨ nameOk name = true) {c : Bool} {il : Nat} {v : Val} {body : Bytes}
    (hv : rtVal c (.choice names alts ext) v = true) (he : encTy c (.choice names alts ext) il v = some body) :
    ∃ i x n b, v = .choice i x ∧ nameOk n = true ∧
      body = ws c il ++ (openTag n ++ (b ++ closeTag n)) ++ ws c (il - 1) ∧
      ∀ (r' : Bytes) (res : Val × Bytes) (n2 : Nat),
        (∀ fuel, n2 ≤ fuel → decChoiceClose fuel name (.choice i x) r' = some res) →
        ∀ fuel, max (b.length + 4) n2 + 1 ≤ fuel →
          decChoiceBody fuel names alts ext name (openTag n ++ (b ++ (closeTag n ++ r'))) = some res := by
  cases v with
  | choice i x =>
    simp only [rtVal] at hv
    simp only [encTy, Option.map_eq_some_iff] at he
    obtain ⟨out, ha, rfl⟩ := he
    obtain ⟨n, m, b, hn, hm, hvm, hb, rfl⟩ := encAlt_spec c il x names alts i out hv ha
    have hnok := hnm n (List.mem_of_getElem? hn)
    refine ⟨i, x, n, b, rfl, hnok, rfl, fun r' res n2 h2 => ?_⟩
    have hilt := (List.getElem?_eq_some_iff.mp hm).1
    have hfind : ∀ last, findMember (openTag n) names 0 alts.length last = .found i := fun last => by
      simpa using findMember_open hnok names i 0 alts.length last hnm hnd hn (by omega)
    exact decChoiceBody_alt names alts ext name hname hnok hfind hm hn
      (fun fuel hf => ih m (List.mem_of_getElem? hm) c n (il + 1) x b r' fuel hnok hvm hb hf) h2
  | _ => simp [rtVal] at hv

theorem rt_choice : RT (.choice names alts ext) := by
  intro c name il v body rest fuel hname hv he hf
  obtain ⟨i, x, n, b, rfl, hnok, rfl, hbody⟩ := choice_alt names alts ext hnm hnd ih name (Or.inr hname) hv he
  have hne : name ≠ [] := nameOk_ne_nil hname
  obtain ⟨f, rfl⟩ : ∃ f, fuel = f + 2 := ⟨fuel - 2, by omega⟩
  have hclose := decChoiceClose_skip name (.choice i x) hne (ws_noLT c (il - 1)) rfl
    (decChoiceClose_close name hname (.choice i x) rest)
  have := decChoiceBody_skip names alts ext name (ws_noLT c il) rfl (hbody _ _ _ hclose) f (by
    simp only [List.length_append, openTag_length, closeTag_length] at hf; omega)
  simp only [decTy, if_neg hne, decChoiceOpen, List.append_assoc, nextTok_openTag name hname,
    checkTag_open_self name hname] at this ⊢
  exact this

theorem rt_choice0 : RT0 (.choice names alts ext) := by
  intro _ c il v body hv he
  obtain ⟨i, x, n, b, rfl, hnok, rfl, hbody⟩ := choice_alt names alts ext hnm hnd ih [] (Or.inl rfl) hv he
  have hnl : 0 < n.length := List.length_pos_iff.mpr (nameOk_ne_nil hnok)
  refine ⟨ws c il, openTag n, b ++ closeTag n, ws c (il - 1), by simp only [List.append_assoc], ws_noLT c _, ws_noLT c _,
    ⟨n, hnok, Or.inl rfl⟩, fun rest fuel hf => ?_⟩
  simp only [List.length_append, openTag_length, closeTag_length] at hf
  obtain ⟨f, rfl⟩ : ∃ f, fuel = f + 1 := ⟨fuel - 1, by omega⟩
  have := hbody rest _ 1 (decChoiceClose_nil (.choice i x) rest) f (by omega)
  simp only [decTy, if_true]
  simpa only [List.append_assoc] using this

end choiceRoundTrip

theorem optCount_le_length : ∀ (l : List Attr), optCount l ≤ l.length := by
  intro l
  induction l with
  | nil => exact Nat.le_refl _
  | cons a as ih => simp only [optCount, List.length_cons]; split <;> omega

/-- the count reaches past a run of members that can be left out -/
theorem optCount_ge : ∀ (pre rest : List Attr), (∀ a ∈ pre, omitable a = true) → pre.length ≤ optCount (pre ++ rest) := by
  intro pre
  induction pre with
  | nil => intro rest _; simp
  | cons a as ih =>
    intro rest h
    have ha := h a (by simp)
    have := ih rest (fun x hx => h x (by simp [hx]))
    simp only [List.cons_append, optCount, ha, if_true, List.length_cons]; omega

/-- the member search of SEQUENCE_decode_xer started at member `q` looks at the members up to `q + optCount (attrs.drop q)`,
    the first one that cannot be left out; if it reaches member `p` and that one can be left out too, it reaches `p + 1` -/
theorem optCount_reach (attrs : List Attr) {p : Nat} (hp : p < attrs.length) (ho : omitable attrs[p] = true) :
    ∀ (d q : Nat), q + d = p → p ≤ q + optCount (attrs.drop q) → p + 1 ≤ q + optCount (attrs.drop q) := by
  intro d
  induction d with
  | zero =>
    intro q hq _
    obtain rfl : q = p := hq
    rw [List.drop_eq_getElem_cons hp, optCount, if_pos ho]; omega
  | succ d ih =>
    intro q hq h
    have ih' : p ≤ q + 1 + optCount (attrs.drop (q + 1)) → p + 1 ≤ q + 1 + optCount (attrs.drop (q + 1)) :=
      ih (q + 1) (by omega)
    rw [List.drop_eq_getElem_cons (by omega : q < attrs.length), optCount] at h ⊢
    split at h
    · rw [if_pos ‹_›]; omega
    · omega

/-- what SEQUENCE_encode_xer / SET_encode_xer do with a component that holds `v`: `none` - an error (a mandatory
    component is absent), `some none` - nothing is written, `some (some x)` - `x` is written -/
def memberVal (c : Bool) (a : Attr) (v : Val) : Option (Option Val) :=
  match v with
  | .absent =>
    match (if c then none else dfltVal a) with
    | some d => some (some d)
    | none => if omitable a then some none else none
  | v => if c && isDefault a v then some none else some (some v)

theorem memberVal_of_ne {v : Val} (hv : v ≠ .absent) (c : Bool) (a : Attr) :
    memberVal c a v = if c && isDefault a v then some none else some (some v) := by
  cases v with
  | absent => exact absurd rfl hv
  | _ => rfl

/-- an absent component for which nothing is substituted (CANONICAL-XER, or no DEFAULT value) is left out -/
theorem memberVal_absent {c : Bool} {a : Attr} (hd : (c || (dfltVal a).isNone) = true) (ho : omitable a = true) :
    memberVal c a .absent = some none := by
  cases c
  · simp only [Bool.false_or, Option.isNone_iff_eq_none] at hd
    simp [memberVal, hd, ho]
  · simp [memberVal, ho]

section members
variable (c : Bool) (n : Bytes) (ns : List Bytes) (m : XTy) (ms : List XTy) (a : Attr) (as : List Attr) (il : Nat)

theorem encMembers_cons (v : Val) (vs : List Val) :
    encMembers c (n :: ns) (m :: ms) (a :: as) il (v :: vs) =
      match memberVal c a v, encMembers c ns ms as il vs with
      | some none, some rest => some rest
      | some (some x), some rest =>
        match encTy c m (il + 1) x with
        | some b => some ((if c then [] else indent il) ++ openTag n ++ b ++ closeTag n ++ rest)
        | none => none
      | _, _ => none := by
  rw [encMembers.eq_def]; rfl

theorem encNth_zero (v : Val) (vs : List Val) :
    encNth c (n :: ns) (m :: ms) (a :: as) il (v :: vs) 0 =
      match memberVal c a v with
      | some none => some []
      | some (some x) =>
        match encTy c m (il + 1) x with
        | some b => some ((if c then [] else indent il) ++ openTag n ++ b ++ closeTag n)
        | none => none
      | none => none := by
  rw [encNth.eq_def]; rfl

theorem encMembers_absent (vs : List Val) (hd : (c || (dfltVal a).isNone) = true) (ho : omitable a = true) :
    encMembers c (n :: ns) (m :: ms) (a :: as) il (.absent :: vs) = encMembers c ns ms as il vs := by
  rw [encMembers_cons, memberVal_absent hd ho]
  cases encMembers c ns ms as il vs <;> rfl

theorem encMembers_present (v : Val) (vs : List Val) (hv : rtVal c m v = true) (hnd : (c && isDefault a v) = false)
    (R : Bytes)
    (h : encMembers c (n :: ns) (m :: ms) (a :: as) il (v :: vs) = some R) :
    ∃ b R', encTy c m (il + 1) v = some b ∧ encMembers c ns ms as il vs = some R' ∧
      R = ws c il ++ (openTag n ++ b ++ closeTag n) ++ R' := by
  rw [encMembers_cons, memberVal_of_ne (ne_absent_of_rtVal hv), hnd] at h
  cases hR : encMembers c ns ms as il vs with
  | none => simp [hR] at h
  | some R' =>
    cases hb : encTy c m (il + 1) v with
    | none => simp [hR, hb] at h
    | some b =>
      simp only [hR, hb, Bool.false_eq_true, if_false, Option.some.injEq] at h
      exact ⟨b, R', rfl, rfl, by rw [← h]; simp [ws]⟩

end members

section seq
variable (names : List Bytes) (ms : List XTy) (attrs : List Attr) (fe : Option Nat) (name : Bytes)

theorem decSeqBody_skip (edx : Nat) {n : Nat} {w r : Bytes} {out : List Val × Bytes} (hw : ∀ x ∈ w, x ≠ cLT)
    (hr : r.head? = some cLT) (h : ∀ fuel, n ≤ fuel → decSeqBody fuel names ms attrs fe name edx r = some out) :
    ∀ fuel, n + w.length ≤ fuel → decSeqBody fuel names ms attrs fe name edx (w ++ r) = some out :=
  skip_text (fun f bs => decSeqBody f names ms attrs fe name edx bs)
    (fun hn f => by simp only [decSeqBody, nextTok_text w hn hw r hr]) h

theorem decSeqBody_close (hname : nameOk name = true) (edx : Nat) (r : Bytes) (hend : seqEndOk attrs fe edx = true) :
    ∀ fuel, 1 ≤ fuel →
      decSeqBody fuel names ms attrs fe name edx (closeTag name ++ r) = some (absents (ms.length - edx), r) := by
  refine fuel_succ fun f hf => ?_
  simp [decSeqBody, nextTok_closeTag name hname, checkTag_close_self name hname, hend]

/-- the member called `n` is found at `k`, the members `edx ..< k` are taken as absent: its decoder, then the rest -/
theorem decSeqBody_member (hname : nameOk name = true) {edx k : Nat} {n : Bytes} {m : XTy} (hn : nameOk n = true)
    (hlt : edx < ms.length)
    (hfind : ∀ last, findMember (openTag n) (names.drop edx) edx (optCount (attrs.drop edx) + 1) last = .found k)
    (hm : ms[k]? = some m) (hnk : names[k]? = some n) {r r' rest : Bytes} {v : Val} {vs : List Val} {n1 n2 : Nat}
    (h1 : ∀ fuel, n1 ≤ fuel → decTy fuel m n (openTag n ++ r) = some (v, r'))
    (h2 : ∀ fuel, n2 ≤ fuel → decSeqBody fuel names ms attrs fe name (k + 1) r' = some (vs, rest)) :
    ∀ fuel, max n1 n2 + 1 ≤ fuel →
      decSeqBody fuel names ms attrs fe name edx (openTag n ++ r) = some (absents (k - edx) ++ v :: vs, rest) := by
  refine fuel_succ fun f hf => ?_
  have h := checkTag_open n name hn (Or.inr hname)
  split at h <;> simp only [decSeqBody, nextTok_openTag n hn, h, hlt, if_true, hfind, hm, hnk, h1 f (by omega), h2 f (by omega),
      Option.map_some]

variable (hname : nameOk name = true) (hnm : ∀ n ∈ names, nameOk n = true) (hnd : names.Nodup)
  (hl1 : names.length = ms.length) (hl2 : attrs.length = ms.length) (ih : ∀ m ∈ ms, RT m)
include hname hnm hnd hl1 hl2 ih

/-- the members from `p` on, after the members `q ..< p` were absent -/
theorem seqLoop (c : Bool) (il : Nat) (rest : Bytes) :
    ∀ (vs : List Val) (q p : Nat) (R : Bytes), q ≤ p → p ≤ ms.length → p ≤ q + optCount (attrs.drop q) →
      rtVals c (ms.drop p) (attrs.drop p) vs = true →
      encMembers c (names.drop p) (ms.drop p) (attrs.drop p) il vs = some R →
      ∀ fuel, R.length + (ws c (il - 1)).length + 2 ≤ fuel →
        decSeqBody fuel names ms attrs fe name q (R ++ (ws c (il - 1) ++ (closeTag name ++ rest))) =
          some (absents (p - q) ++ vs, rest) := by
  intro vs
  induction vs with
  | nil =>
    intro q p R hq hp hom hv hR fuel hf
    have hp' : ms.length ≤ p := by
      cases hd : ms.drop p with
      | nil => exact List.drop_eq_nil_iff.mp hd
      | cons m ms' => rw [hd] at hv; cases attrs.drop p <;> simp [rtVals] at hv
    obtain rfl : p = ms.length := Nat.le_antisymm hp hp'
    rw [List.drop_of_length_le (Nat.le_of_eq hl1), List.drop_length, List.drop_of_length_le (Nat.le_of_eq hl2)] at hR
    simp only [encMembers, Option.some.injEq] at hR
    subst hR
    have hend : seqEndOk attrs fe q = true := by
      have h2 := optCount_le_length (attrs.drop q)
      rw [List.length_drop] at h2
      simp only [seqEndOk, Bool.or_eq_true, decide_eq_true_eq]
      left; right; omega
    rw [List.nil_append, List.append_nil]
    exact decSeqBody_skip names ms attrs fe name q (ws_noLT c _) rfl
      (decSeqBody_close names ms attrs fe name hname q rest hend) fuel (by simp only [List.length_nil] at hf; omega)
  | cons v vs ihv =>
    intro q p R hq hp hom hv hR fuel hf
    have hlt : p < ms.length := by
      apply Nat.lt_of_not_le
      intro hle
      rw [List.drop_of_length_le hle] at hv
      cases attrs.drop p <;> simp [rtVals] at hv
    have hltn : p < names.length := hl1 ▸ hlt
    have hlta : p < attrs.length := hl2 ▸ hlt
    rw [List.drop_eq_getElem_cons hlt, List.drop_eq_getElem_cons hlta] at hv hR
    rw [List.drop_eq_getElem_cons hltn] at hR
    by_cases hab : v = .absent
    · subst hab
      simp only [rtVals, Bool.and_eq_true] at hv
      rw [encMembers_absent c _ _ _ _ _ _ il vs hv.1.1 hv.1.2] at hR
      rw [ihv q (p + 1) R (by omega) hlt (optCount_reach attrs hlta hv.1.2 (p - q) q (by omega) hom) hv.2 hR fuel hf, Nat.succ_sub hq]
      simp only [absents, List.replicate_succ', List.append_assoc, List.singleton_append]
    · simp only [rtVals_of_ne hab, Bool.and_eq_true, Bool.not_eq_true'] at hv
      have hvm := hv.1
      obtain ⟨b, R', hb, hR', rfl⟩ := encMembers_present c _ _ _ _ _ _ il v vs hvm.1 hvm.2 R hR
      have hnok := hnm _ (List.getElem_mem hltn)
      have hfind : ∀ last, findMember (openTag names[p]) (names.drop q) q (optCount (attrs.drop q) + 1) last =
          .found p := fun last => by
        rw [findMember_open hnok (names.drop q) (p - q) q _ last (fun x hx => hnm x (List.mem_of_mem_drop hx))
          (hnd.sublist (List.drop_sublist _ _)) (by rw [List.getElem?_drop, Nat.add_sub_cancel' hq, List.getElem?_eq_getElem hltn])
          (by omega), Nat.add_sub_cancel' hq]
      have hrest := ihv (p + 1) (p + 1) R' (Nat.le_refl _) hlt (Nat.le_add_right _ _) hv.2 hR'
      simp only [Nat.sub_self, absents, List.replicate_zero, List.nil_append] at hrest
      have := decSeqBody_skip names ms attrs fe name q (ws_noLT c il) rfl
        (decSeqBody_member names ms attrs fe name hname hnok (by omega) hfind (List.getElem?_eq_getElem hlt)
          (List.getElem?_eq_getElem hltn)
          (fun fuel hf => ih _ (List.getElem_mem hlt) c _ (il + 1) v b
            (R' ++ (ws c (il - 1) ++ (closeTag name ++ rest))) fuel hnok hvm.1 hb hf)
          hrest) fuel (by
            simp only [List.length_append, openTag_length, closeTag_length] at hf; omega)
      simpa only [List.append_assoc] using this

end seq

theorem rt_seq (names : List Bytes) (ms : List XTy) (attrs : List Attr) (fe : Option Nat)
    (hl1 : names.length = ms.length) (hl2 : attrs.length = ms.length) (hnm : ∀ n ∈ names, nameOk n = true)
    (hnd : names.Nodup) (ih : ∀ m ∈ ms, RT m) : RT (.seq names ms attrs fe) := by
  intro c name il v body rest fuel hname hv he hf
  cases v with
  | seq vs =>
    simp only [rtVal] at hv
    simp only [encTy, Option.map_eq_some_iff] at he
    obtain ⟨R, hR, rfl⟩ := he
    obtain ⟨f, rfl⟩ : ∃ f, fuel = f + 2 := ⟨fuel - 2, by omega⟩
    have hl := seqLoop names ms attrs fe name hname hnm hnd hl1 hl2 ih c il rest vs 0 0 R (Nat.le_refl _)
      (Nat.zero_le _) (Nat.zero_le _) hv hR f (by
        simp only [List.length_append] at hf; unfold ws; omega)
    simp only [decTy, decSeqOpen, List.append_assoc, nextTok_openTag name hname, checkTag_open_self name hname]
    unfold ws at hl
    simp only [Nat.sub_self, absents, List.replicate_zero, List.nil_append] at hl
    rw [hl]; rfl
  | _ => simp [rtVal] at hv

/-- every decoder of the supported subset inverts its encoder (`RT0`: also as an unwrapped list element) -/
theorem rt_rt0_all : ∀ t, rtTy t = true → RT t ∧ RT0 t := by
  have prim : ∀ {t}, isChoice t = false → RT t → RT t ∧ RT0 t :=
    fun hc h => ⟨h, fun hc' => by rw [hc] at hc'; cases hc'⟩
  intro t
  refine XTy.rec (motive_1 := fun t => rtTy t = true → RT t ∧ RT0 t) (motive_2 := fun ms => rtTys ms = true → ∀ m ∈ ms, RT m)
    ?_ ?_ ?_ ?_ ?_ ?_ ?_ ?_ ?_ ?_ ?_ ?_ ?seq ?_ ?choice ?seqOf ?_ ?nil ?cons t
  case seq =>
    intro names ms attrs fe ih h
    simp only [rtTy, Bool.and_eq_true, beq_iff_eq, decide_eq_true_eq, List.all_eq_true] at h
    obtain ⟨⟨⟨⟨h1, h2⟩, h3⟩, h4⟩, h6⟩ := h
    exact prim rfl (rt_seq names ms attrs fe h1 h2 h3 h4 (ih h6))
  case choice =>
    intro names alts ext ih h
    simp only [rtTy, Bool.and_eq_true, beq_iff_eq, decide_eq_true_eq, List.all_eq_true] at h
    obtain ⟨⟨⟨_, h3⟩, h4⟩, h6⟩ := h
    exact ⟨rt_choice names alts ext h3 h4 (ih h6), rt_choice0 names alts ext h3 h4 (ih h6)⟩
  case seqOf =>
    intro mode en e ih h
    simp only [rtTy, Bool.and_eq_true, Bool.or_eq_true, beq_iff_eq, Bool.not_eq_true'] at h
    obtain ⟨h1, h4⟩ := h
    refine prim rfl ?_
    rcases h1 with ⟨rfl | ⟨⟨rfl, hvl⟩, hcl⟩, hen⟩ | ⟨⟨rfl, rfl⟩, hc⟩
    · exact rt_seqOf 0 en e fun c il v b => elem_wrapped c il en e hen (ih h4).1 v b
    · exact rt_seqOf 1 en e fun c il v b => elem_valueList c il en e hen hvl hcl h4 v b
    · exact rt_seqOf 2 [] e fun c il v b hv hb => elem_unwrapped c il e v b ((ih h4).2 hc c (il + 1) v b hv hb)
  case nil => exact fun _ _ h => nomatch h
  case cons =>
    intro m ms h1 h2 h
    simp only [rtTys, Bool.and_eq_true] at h
    exact List.forall_mem_cons.mpr ⟨(h1 h.1).1, h2 h.2⟩
  · exact fun _ => prim rfl (rt_valueTag (Or.inl rfl))
  · exact fun _ => prim rfl rt_null
  · exact fun r _ => prim rfl (rt_integer r)
  · exact fun ns vs h => prim rfl (rt_valueTag (Or.inr ⟨ns, vs, rfl, by simpa [rtTy] using h⟩))
  · exact fun _ => prim rfl rt_hexstr
  · exact fun _ => prim rfl rt_bitstr
  · exact fun _ => prim rfl (rt_utf8str _ (Or.inl rfl))
  · exact fun u _ => prim rfl (rt_utf8str _ (Or.inr ⟨u, rfl⟩))
  · exact fun _ => prim rfl rt_bmpstr
  · exact fun _ => prim rfl rt_unistr
  -- OBJECT IDENTIFIER, RELATIVE-OID, SET, SET OF: not in `rtTy`
  all_goals intros; simp [rtTy] at *

/-- `RT` for every supported type, with the text in the shape `encXER` and the members' encoders write it -/
theorem rt_all (t : XTy) (h : rtTy t = true) (c : Bool) (name : Bytes) (il : Nat) (v : Val) (body rest : Bytes)
    (fuel : Nat) (hn : nameOk name = true) (hv : rtVal c t v = true) (he : encTy c t il v = some body)
    (hf : body.length + 4 ≤ fuel) :
    decTy fuel t name (openTag name ++ body ++ closeTag name ++ rest) = some (v, rest) := by
  rw [List.append_assoc, List.append_assoc]
  exact (rt_rt0_all t h).1 c name il v body rest fuel hn hv he hf

theorem mapEnc_eq {α : Type} (f : α → Option Bytes) (vs : List α) :
    mapEnc f vs = if vs.all (fun v => (f v).isSome) then some (vs.filterMap f) else none := by
  induction vs with
  | nil => rfl
  | cons v vs ih =>
    rw [mapEnc, ih, List.all_cons, List.filterMap_cons]
    cases f v with
    | none => rfl
    | some b => cases vs.all (fun v => (f v).isSome) <;> rfl

theorem encTy_setOf_perm (mode : Nat) (en : Bytes) (e : XTy) (il : Nat) (vs₁ vs₂ : List Val) (hp : vs₁.Perm vs₂) :
    encTy true (.setOf mode en e) il (.list vs₁) = encTy true (.setOf mode en e) il (.list vs₂) := by
  simp only [encTy, mapEnc_eq, hp.all_eq]
  by_cases h : (vs₂.all fun v => (encTy true e (if mode = 2 then il else il + 1) v).isSome) = true
  · simp only [h, Option.map_some, if_true]
    rw [Asn1c.Proofs.L2Der.sortBy_perm_eq bytesLe Asn1c.Proofs.L2Der.bytesLe_total Asn1c.Proofs.L2Der.bytesLe_trans
      Asn1c.Proofs.L2Der.bytesLe_antisymm _ _ ((hp.filterMap _).map (wrapSetOfElem true mode en il))]
  · rw [if_neg h, if_neg h]

end Asn1c.Proofs.L2Xer
