import Asn1cModel.Proofs.Bits
import Asn1cModel.Impl.BitData
import Asn1cModel.Impl.PerSupport
import Asn1cModel.Spec.Per
/-
  asn_bit_data.c (`asn_get_few_bits`, `asn_put_few_bits`, `asn_get_many_bits`) and per_support.c (`uper_get_length` /
  `uper_put_length` and the loops around them, the normally small numbers in their short forms, the constrained
  whole number, `per_long_range_rebase`).  On bit lists every reader is an equation "the next `n` bits as a number,
  or `none`" (`getFewBits_eq`, `getCwn_eq`) from which round trip, bounds and suffix facts follow; `getLength_some`
  reads a successful `uper_get_length` backwards in the same way.  That a reader hands on a suffix of its input is
  the relation `Sfx`, carried through the composite readers by its eliminator and through the loops by their own
  induction principles.  The byte-level `asn_get_few_bits` (pointer, `nboff`, `nbits`) is tied to the bit-list
  reader by `getFewRaw_fail` / `getFewRaw_ok`: no read outside the buffer, and the next `n` bits when the octets
  are octets.  `uper_get_length` is modelled a second time, with its own lemma about unconstrained lengths, for the
  stack-bound argument: `Impl.StackGuard.uperGetLength`, `Proofs.StackGuard.uperGetLength_unconstrained`.
-/
namespace Asn1c.Proofs.PerSupport
open Asn1c Asn1c.Impl.BitData Asn1c.Impl.PerSupport

theorem getFewBits_eq (n : Nat) (bs : Bits) :
    getFewBits n bs = if n > 31 ∨ bs.length < n then none else some (bitsVal 0 (bs.take n), bs.drop n) := by
  fun_cases getFewBits n bs with
  | case1 h => rw [if_pos (Or.inl h)]
  | case2 h hl => rw [List.length_take] at hl; rw [if_pos (Or.inr (by omega))]
  | case3 h hl => rw [List.length_take] at hl; rw [if_neg (by omega)]

theorem getFewBits_natBits (n v : Nat) (rest : Bits) (hn : n ≤ 31) :
    getFewBits n (natBits n v ++ rest) = some (v % 2 ^ n, rest) := by
  obtain ⟨h1, h2, h3⟩ := natBits_field n v rest
  rw [getFewBits_eq, if_neg (by omega), h2, h3]

theorem getFewBits_some {n : Nat} {bs r : Bits} {v : Nat} (h : getFewBits n bs = some (v, r)) :
    n ≤ 31 ∧ v < 2 ^ n ∧ bs = natBits n v ++ r := by
  rw [getFewBits_eq] at h
  split at h
  · cases h
  · obtain ⟨rfl, rfl⟩ := Prod.mk.inj (Option.some.inj h)
    exact ⟨by omega, take_drop_spec (by omega)⟩

theorem putFewBits_eq (n v : Nat) (hn : n ≤ 31) : putFewBits n v = some (natBits n v) := by
  unfold putFewBits; rw [if_neg (by omega)]

section
open Asn1c.Spec.Per

/-- C02: what one call of `uper_put_length(n)` writes and returns (X.691 §10.9.3.5–10.9.3.8), below 16K … -/
theorem putLength_small (n : Nat) (h : n < 16384) : putLength n = (lengthDetSmall n, n, false) := by
  unfold putLength lengthDetSmall nnbi
  by_cases h1 : n ≤ 127
  · rw [if_pos h1, if_pos h1, natBits_succ_lt (k := 7) (by omega)]
  · rw [if_neg h1, if_pos h, if_neg h1, Nat.add_comm, natBits_succ_add (k := 15) (by omega), natBits_succ_lt (k := 14) h]

/-- … and from 16K on -/
theorem putLength_frag (n : Nat) (h : 16384 ≤ n) :
    putLength n = (fragHeader (min (n / 16384) 4), min (n / 16384) 4 * 16384, decide (n = min (n / 16384) 4 * 16384)) := by
  have hdr : ∀ m, m ≤ 4 → natBits 8 (192 + m) = fragHeader m := fun m hm => by
    rw [show 192 + m = 2 ^ 7 + (2 ^ 6 + m) by omega, natBits_succ_add (by omega), natBits_succ_add (by omega)]; rfl
  unfold putLength
  rw [if_neg (by omega), if_neg (by omega)]
  simp only
  split
  · rw [Nat.min_eq_right (by omega), hdr 4 (Nat.le_refl _), decide_eq_false (by omega)]
  · rw [Nat.min_eq_left (by omega), hdr _ (by omega)]
    congr 2
    rw [Bool.eq_iff_iff]; simp only [beq_iff_eq, decide_eq_true_eq]; omega

/-- an unconstrained `uper_get_length` on the one- or two-octet form of X.691 §10.9.3.6 / §10.9.3.7 -/
theorem getLength_lengthDetSmall (n : Nat) (rest : Bits) (h : n < 16384) :
    getLength (-1) 0 (lengthDetSmall n ++ rest) = some (n, false, rest) := by
  unfold lengthDetSmall nnbi getLength
  rw [if_neg (by omega)]
  by_cases h1 : n ≤ 127
  · rw [if_pos h1, ← natBits_succ_lt (k := 7) (by omega), getFewBits_natBits 8 n rest (by omega)]
    simp only
    rw [if_pos (by omega)]
    congr 2; omega
  · rw [if_neg h1, ← natBits_succ_lt (k := 14) h, ← natBits_succ_add (k := 15) (by omega),
      natBits_split 8 8, List.append_assoc, getFewBits_natBits 8 _ _ (by omega)]
    simp only
    rw [if_neg (by omega), if_pos (by omega), getFewBits_natBits 8 _ _ (by omega)]
    simp only
    congr 2; omega

/-- … and on the fragment header `11mmmmmm` of §10.9.3.8: `m` · 16K items, `repeat` set -/
theorem getLength_fragHeader (m : Nat) (rest : Bits) (h1 : 1 ≤ m) (h4 : m ≤ 4) :
    getLength (-1) 0 (fragHeader m ++ rest) = some (16384 * m, true, rest) := by
  unfold fragHeader nnbi getLength
  rw [if_neg (by omega), ← natBits_succ_add (k := 6) (by omega), ← natBits_succ_add (k := 7) (by omega),
    getFewBits_natBits 8 _ _ (by omega)]
  simp only
  rw [if_neg (by omega), if_neg (by omega), if_neg (by omega)]
  congr 3; omega

theorem putLoop_small (items : List Bits) (h : items.length < 16384) :
    putLoop items = lengthDetSmall items.length ++ items.flatten := by
  rw [putLoop, putLength_small _ h]
  simp

theorem putLoop_frag (items : List Bits) (h : 16384 ≤ items.length) :
    putLoop items = fragHeader (min (items.length / 16384) 4)
      ++ (items.take (min (items.length / 16384) 4 * 16384)).flatten
      ++ putLoop (items.drop (min (items.length / 16384) 4 * 16384)) := by
  rw [putLoop, putLength_frag _ h]
  simp only
  split
  · -- last round: the end-of-message determinant is the loop on no items
    rw [List.drop_eq_nil_of_le (by omega), putLoop_small [] (by simp), putLength_small 0 (by omega),
      decide_eq_true (by omega), if_pos rfl]
    simp
  · rw [decide_eq_false (by omega)]
    simp

/-- the length loop of the UPER encoders emits exactly X.691 §10.9.3.5–10.9.3.8 (with fragmentation) -/
theorem lengthPrefixed_eq_putLoop (fuel : Nat) (items : List Bits) (hf : items.length < fuel) :
    Spec.Per.lengthPrefixed fuel items = putLoop items := by
  fun_induction lengthPrefixed fuel items with
  | case1 => omega
  | case2 fuel items n hs => exact (putLoop_small items hs).symm
  | case3 fuel items n hs m ih => rw [putLoop_frag items (by omega), ih (by simp only [List.length_drop]; omega)]

/-- up to 127 octets as 8-bit items behind their length determinant (X.691 §10.9.3.6): the length octet, the octets -/
theorem lengthPrefixed_octets (fuel : Nat) (os : Bytes) (h : os.length ≤ 127) :
    lengthPrefixed (fuel + 1) (os.map fun b => nnbi 8 b) = natBits 8 os.length ++ bytesToBits os := by
  rw [lengthPrefixed]
  simp only [List.length_map]
  rw [if_pos (by omega), lengthDetSmall, if_pos h, nnbi, ← natBits_succ_lt (k := 7) (by omega)]
  simp only [bytesToBits, List.flatMap, nnbi, (funext byteBits_eq : byteBits = natBits 8)]

/-- `ps` lists the items with their encodings (which need not be a function of the item: an encoder may thread a
    state): when every encoding is read back as its item, whatever follows, their concatenation is read back as the list -/
theorem getItems_encoded {α : Type} (rd : Bits → Option (α × Bits)) (ps : List (α × Bits)) (rest : Bits)
    (hrd : ∀ p ∈ ps, ∀ r, rd (p.2 ++ r) = some (p.1, r)) :
    getItems rd ps.length ((ps.map Prod.snd).flatten ++ rest) = some (ps.map Prod.fst, rest) := by
  induction ps with
  | nil => simp [getItems]
  | cons a as ih =>
    simp only [List.map_cons, List.flatten_cons, List.append_assoc, List.length_cons, getItems]
    rw [hrd a (by simp)]
    simp only
    rw [ih (fun b hb r => hrd b (by simp [hb]) r)]

theorem getLoopF_putLoop {α : Type} (rd : Bits → Option (α × Bits)) (fuel : Nat) (ps : List (α × Bits))
    (rest : Bits) (hrd : ∀ p ∈ ps, ∀ r, rd (p.2 ++ r) = some (p.1, r))
    (hf : (putLoop (ps.map Prod.snd) ++ rest).length / 8 < fuel) :
    getLoopF rd fuel (putLoop (ps.map Prod.snd) ++ rest) = some (ps.map Prod.fst, rest) := by
  induction fuel generalizing ps with
  | zero => omega
  | succ fuel ih =>
    by_cases hs : ps.length < 16384
    · rw [putLoop_small _ (by simpa using hs), List.append_assoc, getLoopF, getLength_lengthDetSmall _ _ (by simpa using hs)]
      simp only [List.length_map]
      rw [getItems_encoded rd ps rest hrd]
      rfl
    · -- one fragment of `c` items, then the loop on the others
      generalize hc : min (ps.length / 16384) 4 * 16384 = c
      have hm : 1 ≤ min (ps.length / 16384) 4 ∧ min (ps.length / 16384) 4 ≤ 4 := by omega
      have hlen : ((ps.map Prod.snd).length) = ps.length := List.length_map _
      rw [putLoop_frag _ (by rw [hlen]; omega), hlen, hc, ← List.map_take, ← List.map_drop] at hf ⊢
      rw [List.append_assoc, List.append_assoc, getLoopF, getLength_fragHeader _ _ hm.1 hm.2]
      simp only
      have hl : (ps.take c).length = 16384 * min (ps.length / 16384) 4 := by rw [List.length_take]; omega
      rw [← hl, getItems_encoded rd _ _ (fun a ha r => hrd a (List.mem_of_mem_take ha) r)]
      simp only [if_true]
      rw [ih (ps.drop c) (fun a ha r => hrd a (List.mem_of_mem_drop ha) r)]
      · simp only [← List.map_append, List.take_append_drop]
      · simp only [List.length_append, fragHeader, nnbi, List.length_cons, natBits_length] at hf ⊢
        omega
end

/-- `do { n = uper_get_length(); read n items } while(repeat)` returns exactly the items written by
    `do { uper_put_length(); put items; eom } while(left)`, for every number of items and any item codec
    whose reader inverts its writer -/
theorem getLoop_putLoop {α : Type} (rd : Bits → Option (α × Bits)) (ps : List (α × Bits)) (rest : Bits)
    (hrd : ∀ p ∈ ps, ∀ r, rd (p.2 ++ r) = some (p.1, r)) :
    getLoop rd (putLoop (ps.map Prod.snd) ++ rest) = some (ps.map Prod.fst, rest) :=
  getLoopF_putLoop rd _ ps rest hrd (by omega)

/-- the pairs of the items `xs` with their encodings under a function `enc`: what the lemmas above are applied to
    when the encoding is a function of the item -/
theorem map_graph {α β : Type} (enc : α → β) (xs : List α) :
    (xs.map fun a => (a, enc a)).map Prod.fst = xs ∧ (xs.map fun a => (a, enc a)).map Prod.snd = xs.map enc := by
  simp [List.map_map, Function.comp_def]

/-- X.691 §10.6.1: up to 63 the bit `0` and six bits of `n`, which is `n` in seven bits -/
theorem putNsnnwn_small (n : Nat) (h : n ≤ 63) : putNsnnwn n = some (natBits 7 n) := by
  unfold putNsnnwn
  rw [if_pos (by omega), if_neg (by omega), putFewBits_eq _ _ (by omega)]
  simp

theorem getNsnnwn_small (n : Nat) (rest : Bits) (h : n ≤ 63) : getNsnnwn (natBits 7 n ++ rest) = some (n, rest) := by
  unfold getNsnnwn
  rw [getFewBits_natBits 7 n rest (by omega)]
  simp only
  rw [if_neg (by omega)]
  congr 2; omega

/-- X.691 §10.9.3.4: a length up to 64 travels as the bit `0` and six bits of `n - 1`; `uper_get_nslength` reads it back -/
theorem getNslength_small (n : Nat) (rest : Bits) (h1 : 1 ≤ n) (h : n ≤ 64) :
    getNslength (natBits 7 (n - 1) ++ rest) = some (n, rest) := by
  unfold getNslength
  rw [show (7 : Nat) = 1 + 6 from rfl, natBits_split, List.append_assoc, getFewBits_natBits 1 _ _ (by omega)]
  simp only
  rw [if_pos (by omega), getFewBits_natBits 6 _ _ (by omega)]
  simp only
  congr 2; omega

theorem lt_two_pow_bitWidth (r x : Nat) (h : x < r) : x < 2 ^ Spec.Per.bitWidth r := by
  unfold Spec.Per.bitWidth
  split
  · omega
  · have := Nat.lt_log2_self (n := r - 1)
    omega

/-- `uper_put_constrained_whole_number_u` writes the `nbits` low bits of `v`, most significant first
    (the 31-bit split is invisible on the wire) and never fails -/
theorem putCwnU_eq (v nbits : Nat) : putCwnU v nbits = some (natBits nbits v) := by
  induction nbits using Nat.strongRecOn generalizing v with
  | _ nbits ih =>
    rw [putCwnU]
    by_cases h : nbits ≤ 31
    · rw [if_pos h, putFewBits_eq _ _ h]
    · rw [if_neg h, ih (nbits - 31) (by omega), putFewBits_eq _ _ (by omega)]
      simp only
      rw [← natBits_split, show nbits - 31 + 31 = nbits by omega]

/-- `uper_get_constrained_whole_number` reads the next `nbits ≤ 64` bits as a number (the 31-bit rounds are invisible) -/
theorem getCwn_eq (nbits : Nat) (bs : Bits) :
    getCwn nbits bs =
      if nbits > 64 ∨ bs.length < nbits then none else some (bitsVal 0 (bs.take nbits), bs.drop nbits) := by
  induction nbits using Nat.strongRecOn generalizing bs with
  | _ nbits ih =>
    rw [getCwn]
    by_cases h31 : nbits ≤ 31
    · rw [if_pos h31, getFewBits_eq]
      by_cases hl : bs.length < nbits
      · rw [if_pos (Or.inr hl), if_pos (Or.inr hl)]
      · rw [if_neg (by omega), if_neg (by omega)]
    rw [if_neg h31]
    by_cases h64 : nbits > 64
    · rw [if_pos h64, if_pos (Or.inl h64)]
    rw [if_neg h64, getFewBits_eq]
    by_cases hl : bs.length < 31
    · rw [if_pos (Or.inr hl), if_pos (Or.inr (by omega))]
    rw [if_neg (by omega)]
    simp only
    rw [ih (nbits - 31) (by omega), List.length_drop]
    by_cases hn : bs.length < nbits
    · rw [if_pos (Or.inr (by omega)), if_pos (Or.inr hn)]
    · rw [if_neg (by omega), if_neg (by omega), List.drop_drop]
      simp only
      rw [← bitsVal_take_add bs 31 (nbits - 31) (by omega), show 31 + (nbits - 31) = nbits by omega]

theorem getCwn_natBits (nbits v : Nat) (rest : Bits) (h : nbits ≤ 64) :
    getCwn nbits (natBits nbits v ++ rest) = some (v % 2 ^ nbits, rest) := by
  obtain ⟨h1, h2, h3⟩ := natBits_field nbits v rest
  rw [getCwn_eq, if_neg (by omega), h2, h3]

theorem getCwn_some {nbits : Nat} {bs r : Bits} {v : Nat} (h : getCwn nbits bs = some (v, r)) :
    nbits ≤ 64 ∧ v < 2 ^ nbits ∧ bs = natBits nbits v ++ r := by
  rw [getCwn_eq] at h
  split at h
  · cases h
  · obtain ⟨rfl, rfl⟩ := Prod.mk.inj (Option.some.inj h)
    exact ⟨by omega, take_drop_spec (by omega)⟩

theorem longRange_eq (lb ub : Int) (hl : isLong lb) (hu : isLong ub) (h : lb ≤ ub) :
    longRange lb ub = some (ub - lb).toNat := by
  unfold isLong longMin longMax at hl hu
  unfold longRange
  by_cases h1 : (ub < 0) = (lb < 0)
  · rw [if_pos h1, Int.emod_eq_of_lt (by omega) (by omega)]
  · have hs : lb < 0 ∧ ¬ ub < 0 := by rw [eq_iff_iff] at h1; omega
    rw [if_neg h1, if_pos hs.1]
    congr 1; omega

theorem rebase_eq (v lb ub : Int) (hl : isLong lb) (hu : isLong ub) (h1 : lb ≤ v) (h2 : v ≤ ub) :
    rebase v lb ub = some (v - lb).toNat := by
  unfold rebase
  rw [longRange_eq lb ub hl hu (by omega), if_neg (by simp; omega)]
  by_cases c : (v < 0) = (lb < 0)
  · rw [if_pos c]
  · have hs : ¬ v < 0 ∧ lb < 0 := by rw [eq_iff_iff] at c; omega
    rw [if_neg c, if_neg hs.1, if_pos hs.2]
    congr 1; omega

/-- `per_long_range_rebase` refuses a value outside `lb..ub` (whatever the bounds are) -/
theorem rebase_out_of_range (v lb ub : Int) (h : v < lb ∨ ub < v) : rebase v lb ub = none := by
  rw [rebase, if_pos (by omega)]

/-- `Sfx bs o`: `o` is the outcome of a reader run on `bs`, and the bits it hands on, if any, are a suffix of `bs`
    (the C reader only moves `pd->nboff` forward inside the same buffer).  Stated of the outcome, not of the
    reader, so that a proof follows the program: `elim` for a read whose result is matched on, `ite` for a test,
    `some` / `none` at the leaves, `mono` once a prefix has been consumed. -/
def Sfx {α : Type} (bs : Bits) (o : Option (α × Bits)) : Prop := ∀ a r, o = some (a, r) → r <:+ bs

namespace Sfx
variable {α : Type} {bs : Bits}

theorem none : Sfx bs (none : Option (α × Bits)) := nofun

theorem some {a : α} {r : Bits} (h : r <:+ bs) : Sfx bs (some (a, r)) := fun _ _ e => by
  obtain ⟨-, rfl⟩ := Prod.mk.inj (Option.some.inj e); exact h

theorem mono {r1 : Bits} {o : Option (α × Bits)} (h : Sfx r1 o) (hr : r1 <:+ bs) : Sfx bs o :=
  fun a r e => (h a r e).trans hr

theorem ite {c : Prop} {_ : Decidable c} {x y : Option (α × Bits)} (hx : Sfx bs x) (hy : Sfx bs y) :
    Sfx bs (if c then x else y) := by split <;> assumption

/-- reading on after a reader with the property: the goal is looked at for each of its outcomes
    (`elab_as_elim`: the `match` on the first reader's result in the goal is found by abstraction) -/
@[elab_as_elim] theorem elim {x : Option (α × Bits)} {motive : Option (α × Bits) → Prop} (hx : Sfx bs x)
    (h0 : motive .none) (h1 : ∀ a r, r <:+ bs → motive (.some (a, r))) : motive x := by
  match x, hx with
  | .none, _ => exact h0
  | .some (a, r), hx => exact h1 a r (hx a r rfl)

end Sfx

theorem getFewBits_suffix (n : Nat) (bs : Bits) : Sfx bs (getFewBits n bs) := fun _ _ h =>
  ⟨_, (getFewBits_some h).2.2.symm⟩

theorem getCwn_suffix {n : Nat} {bs r : Bits} {v : Nat} (h : getCwn n bs = some (v, r)) : r <:+ bs := by
  obtain ⟨_, _, e⟩ := getCwn_some h
  exact ⟨_, e.symm⟩

/-- a successful `uper_get_length` consumed a header in front of the rest; an unconstrained one consumed at least
    8 bits and announces less than 16K items, or 16K·m (1 ≤ m ≤ 4) items with `repeat` set -/
theorem getLength_some {e : Int} {lb : Nat} {bs r : Bits} {v : Nat} {rep : Bool}
    (h : getLength e lb bs = some (v, rep, r)) :
    ∃ hdr, bs = hdr ++ r ∧ ((e < 0 ∨ 16 < e) → 8 ≤ hdr.length ∧
      ((rep = false ∧ v < 16384) ∨ (rep = true ∧ (v = 16384 ∨ v = 32768 ∨ v = 49152 ∨ v = 65536)))) := by
  revert h
  -- the leaves of the model: a read that fails or `m` out of range (-1), then the constrained field, `0xxxxxxx`,
  -- `10xxxxxx xxxxxxxx` and `11mmmmmm`
  fun_cases getLength e lb bs with
  | case1 | case3 | case5 | case7 => nofun
  | case2 _ x r1 h1 =>
    rintro ⟨⟩
    exact ⟨_, (getFewBits_some h1).2.2, fun he => by omega⟩
  | case4 _ x r1 h1 =>
    obtain ⟨_, hx, e1⟩ := getFewBits_some h1
    rintro ⟨⟩
    exact ⟨_, e1, fun _ => ⟨by rw [natBits_length]; omega, Or.inl ⟨rfl, by omega⟩⟩⟩
  | case6 _ x r1 h1 _ _ w r2 h2 =>
    obtain ⟨_, hx, e1⟩ := getFewBits_some h1
    obtain ⟨_, hw, e2⟩ := getFewBits_some h2
    rintro ⟨⟩
    exact ⟨natBits 8 x ++ natBits 8 w, by rw [e1, e2, List.append_assoc],
      fun _ => ⟨by rw [List.length_append, natBits_length]; omega, Or.inl ⟨rfl, by omega⟩⟩⟩
  | case8 _ x r1 h1 =>
    obtain ⟨_, hx, e1⟩ := getFewBits_some h1
    rintro ⟨⟩
    exact ⟨_, e1, fun _ => ⟨by rw [natBits_length]; omega, Or.inr ⟨rfl, by omega⟩⟩⟩

theorem getLength_suffix {e : Int} {lb : Nat} {bs r : Bits} {v : Nat} {rep : Bool}
    (h : getLength e lb bs = some (v, rep, r)) : r <:+ bs := by
  obtain ⟨hdr, e, _⟩ := getLength_some h
  exact ⟨hdr, e.symm⟩

theorem getNslength_suffix (bs : Bits) : Sfx bs (getNslength bs) := by
  have long : ∀ r, r <:+ bs → Sfx bs (match getLength (-1) 0 r with
      | some (len, false, r') => some (len, r')
      | _ => none) := fun r hr => by
    split
    · rename_i h; exact .some ((getLength_suffix h).trans hr)
    · exact .none
  unfold getNslength
  exact (getFewBits_suffix 1 bs).elim (long bs (List.suffix_refl _)) fun v r hr =>
    .ite (((getFewBits_suffix 6 r).mono hr).elim .none fun w r' hr' => .some hr') (long r hr)

theorem getNsnnwn_suffix (bs : Bits) : Sfx bs (getNsnnwn bs) := by
  unfold getNsnnwn
  exact (getFewBits_suffix 7 bs).elim .none fun v r hr =>
    .ite (((getFewBits_suffix 2 r).mono hr).elim .none fun w r2 hr2 =>
      .ite .none (.ite (.some hr2) (.ite .none ((getFewBits_suffix _ r2).mono hr2)))) (.some hr)

theorem getItems_suffix {α : Type} (rd : Bits → Option (α × Bits)) (hrd : ∀ bs, Sfx bs (rd bs)) (k : Nat) (bs : Bits) :
    Sfx bs (getItems rd k bs) := by
  fun_induction getItems rd k bs with
  | case1 bs => exact .some (List.suffix_refl _)
  | case2 | case3 => exact .none
  | case4 k bs a bs' h1 as r h2 ih => exact .some ((ih as r h2).trans (hrd bs a bs' h1))

theorem getLoopF_suffix {α : Type} (rd : Bits → Option (α × Bits)) (hrd : ∀ bs, Sfx bs (rd bs)) (fuel : Nat) (bs : Bits) :
    Sfx bs (getLoopF rd fuel bs) := by
  fun_induction getLoopF rd fuel bs with
  | case1 | case2 | case3 | case4 => exact .none
  | case5 fuel bs n bs1 xs bs2 h2 ys r h3 h1 ih =>
    exact .some (((ih ys r h3).trans (getItems_suffix rd hrd n bs1 xs bs2 h2)).trans (getLength_suffix h1))
  | case6 fuel bs n rep bs1 h1 xs bs2 h2 =>
    exact .some ((getItems_suffix rd hrd n bs1 xs bs2 h2).trans (getLength_suffix h1))

/-- the position invariant of `asn_bit_data_t`: `nboff ≤ nbits ≤ 8 * (octets from pd->buffer to the end)` -/
def SrcInv (s : Src) : Prop := s.nboff ≤ s.nbits ∧ s.nbits ≤ 8 * s.buf.length

theorem rd_ok (buf : Bytes) (i : Nat) (k : Nat → RawRes) (h : i < buf.length) : rd buf i k = k (buf.getD i 0) := by
  unfold rd; rw [List.getD_eq_getElem?_getD, List.getElem?_eq_getElem h]; rfl

/-- normalisation without its test `nboff >= 8`: below 8 the three assignments
    `pd->buffer += nboff >> 3; pd->nbits -= nboff & ~7; pd->nboff &= 7` change nothing -/
theorem normalize_eq (s : Src) :
    s.normalize = ⟨s.buf.drop (s.nboff / 8), s.nboff % 8, s.nbits - (s.nboff - s.nboff % 8)⟩ := by
  unfold Src.normalize
  split
  · rfl
  · rw [Nat.div_eq_of_lt (by omega), Nat.mod_eq_of_lt (by omega), Nat.sub_self]; rfl

theorem normalize_inv (s : Src) (h : SrcInv s) :
    SrcInv s.normalize ∧ s.normalize.nboff < 8 ∧
    (s.normalize.nbits : Int) - s.normalize.nboff = (s.nbits : Int) - s.nboff := by
  unfold SrcInv at *
  rw [normalize_eq]
  simp only [List.length_drop]
  omega

theorem normalize_idem (s : Src) (h : s.nboff < 8) : s.normalize = s := by
  unfold Src.normalize; rw [if_neg (by omega)]

theorem normalize_wf (s : Src) (hw : s.buf.wf) : s.normalize.buf.wf := by
  rw [normalize_eq]
  exact fun x hx => hw x (List.mem_of_mem_drop hx)

/-- the position after reading `n` bits -/
def adv (s : Src) (n : Nat) : Src := { s.normalize with nboff := s.normalize.nboff + n }

theorem adv_inv (s : Src) (n : Nat) (h : SrcInv s) (hn : (n : Int) ≤ (s.nbits : Int) - s.nboff) :
    SrcInv (adv s n) ∧ ((adv s n).nbits : Int) - (adv s n).nboff + n = (s.nbits : Int) - s.nboff := by
  obtain ⟨hi, h8, hl⟩ := normalize_inv s h
  unfold SrcInv at hi ⊢
  unfold adv
  simp only
  omega

/-- the bits still to be read at a byte-level position -/
def srcBits (s : Src) : Bits := ((bytesToBits s.buf).take s.nbits).drop s.nboff

theorem srcBits_length (s : Src) (h : SrcInv s) : (srcBits s).length = s.nbits - s.nboff := by
  unfold SrcInv at h
  unfold srcBits
  rw [List.length_drop, List.length_take, bytesToBits_length]
  omega

theorem srcBits_normalize (s : Src) (h : SrcInv s) : srcBits s.normalize = srcBits s := by
  unfold SrcInv at h
  rw [normalize_eq]
  unfold srcBits
  simp only
  rw [bytesToBits_drop, List.take_drop, List.drop_drop,
    show 8 * (s.nboff / 8) + (s.nbits - (s.nboff - s.nboff % 8)) = s.nbits by omega,
    show 8 * (s.nboff / 8) + s.nboff % 8 = s.nboff by omega]

theorem srcBits_adv (s : Src) (n : Nat) (h : SrcInv s) : srcBits (adv s n) = (srcBits s).drop n := by
  rw [← srcBits_normalize s h]
  unfold adv srcBits
  simp only
  rw [List.drop_drop]

/-- one activation inside four octets (`off ≤ 31`): the window of `k = ⌈off / 8⌉` octets is inside the buffer; it is
    shifted right and masked, which gives the next `n` bits when the octets are octets -/
theorem core_spec (s : Src) (n : Nat) (h : SrcInv s) (hn : (n : Int) ≤ (s.nbits : Int) - s.nboff)
    (hoff : s.normalize.nboff + n ≤ 31) :
    ∃ v, getFewRawCore s n = .ok v (adv s n) ∧ v < 2 ^ n ∧ (s.buf.wf → v = bitsVal 0 ((srcBits s).take n)) := by
  obtain ⟨hi, h8, hl⟩ := normalize_inv s h
  have hlen : s.normalize.nboff + n ≤ 8 * s.normalize.buf.length := by unfold SrcInv at hi; omega
  obtain ⟨w1, w2, w3, w4⟩ := ofBE_window s.normalize.buf
  generalize hk : (s.normalize.nboff + n + 7) / 8 = k
  have hb : ∀ i, i < k → i < s.normalize.buf.length := fun i hi => Nat.lt_of_lt_of_le hi (by omega)
  refine ⟨ofBE 0 (s.normalize.buf.take k) / 2 ^ (8 * k - (s.normalize.nboff + n)) % 2 ^ n, ?_,
    Nat.mod_lt _ (Nat.pos_of_ne_zero (by simp)), fun hw => ?_⟩
  · unfold getFewRawCore adv
    rw [if_neg (by omega)]
    simp only
    clear hi hl hn h  -- not used below: fewer facts for the `omega` calls of the case analysis
    by_cases c1 : s.normalize.nboff + n ≤ 8
    · rw [if_pos c1]
      by_cases cn : n ≠ 0
      · obtain rfl : k = 1 := by omega
        rw [if_pos cn, rd_ok _ 0 _ (hb 0 (by decide)), w1 (hb 0 (by decide))]
      · obtain rfl : n = 0 := by omega
        simp [Nat.mod_one]
    · rw [if_neg c1]
      by_cases c2 : s.normalize.nboff + n ≤ 16
      · obtain rfl : k = 2 := by omega
        rw [if_pos c2, rd_ok _ 0 _ (hb 0 (by decide)), rd_ok _ 1 _ (hb 1 (by decide)), w2 (hb 1 (by decide))]
      · rw [if_neg c2]
        by_cases c3 : s.normalize.nboff + n ≤ 24
        · obtain rfl : k = 3 := by omega
          rw [if_pos c3, rd_ok _ 0 _ (hb 0 (by decide)), rd_ok _ 1 _ (hb 1 (by decide)), rd_ok _ 2 _ (hb 2 (by decide)),
            w3 (hb 2 (by decide))]
        · obtain rfl : k = 4 := by omega
          rw [if_neg c3, if_pos hoff, rd_ok _ 0 _ (hb 0 (by decide)), rd_ok _ 1 _ (hb 1 (by decide)),
            rd_ok _ 2 _ (hb 2 (by decide)), rd_ok _ 3 _ (hb 3 (by decide)), w4 (hb 3 (by decide))]
  · unfold SrcInv at hi
    rw [← srcBits_normalize s h]
    unfold srcBits
    rw [take_drop_take _ _ _ _ (by omega), slice_of_prefix _ k _ _ (normalize_wf s hw) (by omega) (by omega)]

/-- `asn_get_few_bits(pd, n)` without a refill callback returns -1 when more than 31 bits are asked for or fewer than
    `n` are left (`nbits > nleft`) -/
theorem getFewRaw_fail (s : Src) (n : Nat) (c : n > 31 ∨ (s.nbits : Int) - s.nboff < n) : getFewRaw s n = .fail := by
  unfold getFewRaw
  split
  · rfl
  · simp only
    rw [if_neg (by omega), if_neg (by omega)]

/-- `asn_get_few_bits(pd, n)` when `n ≤ 31` bits are left, on a position with `nboff ≤ nbits ≤ 8 * (octets of the
    buffer)`: it advances `pd->buffer` by the whole octets of `nboff`, reads `buf[0]` … `buf[3]` as far as the `n` bits
    reach (or, beyond 31 bits of offset, `n - 24` bits and then 24 on a copy of `pd`), never an octet outside the
    buffer, shifts, masks to `n` bits and leaves `nboff` advanced by `n`.  What it returns is the next `n` bits of the
    stream as a number, provided every `uint8_t` of the buffer is below 256. -/
theorem getFewRaw_ok (s : Src) (n : Nat) (h : SrcInv s) (c : ¬ (n > 31 ∨ (s.nbits : Int) - s.nboff < n)) :
    ∃ v, getFewRaw s n = .ok v (adv s n) ∧ v < 2 ^ n ∧ (s.buf.wf → v = bitsVal 0 ((srcBits s).take n)) := by
  obtain ⟨hi, h8, hl⟩ := normalize_inv s h
  unfold getFewRaw
  rw [if_neg (by omega)]
  simp only
  by_cases c1 : s.normalize.nboff + n ≤ 31
  · rw [if_pos c1]
    exact core_spec s n h (by omega) c1
  obtain ⟨ti, tl⟩ := adv_inv s.normalize (n - 24) hi (by omega)
  obtain ⟨_, t8, _⟩ := normalize_inv _ ti
  obtain ⟨x, e1, _, v1⟩ := core_spec s.normalize (n - 24) hi (by omega) (by rw [normalize_idem _ h8]; omega)
  obtain ⟨y, e2, _, v2⟩ := core_spec (adv s.normalize (n - 24)) 24 ti (by omega) (by omega)
  rw [if_neg c1, if_pos (by omega), e1]
  simp only
  rw [e2]
  refine ⟨_, rfl, Nat.mod_lt _ (Nat.pos_of_ne_zero (by simp)), fun hw => ?_⟩
  have hw1 := normalize_wf s hw
  have hlt := (take_drop_spec (n := n) (bs := srcBits s) (by rw [srcBits_length s h]; omega)).1
  rw [v1 hw1, v2 (normalize_wf _ hw1), srcBits_adv _ _ hi, srcBits_normalize s h, show (16777216 : Nat) = 2 ^ 24 from rfl,
    ← bitsVal_take_add _ (n - 24) 24 (by rw [srcBits_length s h]; omega), show n - 24 + 24 = n by omega, Nat.mod_eq_of_lt hlt]

theorem getManyLoop_none (n : Nat) (bs : Bits) (h : bs.length < n) : getManyLoop n bs = none := by
  fun_induction getManyLoop n bs with
  | case1 => omega
  | case2 | case3 | case5 => rfl
  | case4 n bs _ _ v bs' h1 out r h2 ih =>
    -- 24 bits were there, so the others are too few
    obtain ⟨_, _, e⟩ := getFewBits_some h1
    rw [e, List.length_append, natBits_length] at h
    rw [ih (by omega)] at h2; cases h2
  | case6 n bs _ _ v bs' h1 => rw [getFewBits_eq, if_pos (Or.inr h)] at h1; cases h1

/-- `asn_get_many_bits(pd, dst, 0, n)`: the `⌈n/8⌉` octets stored are the next `n` bits, left-aligned and
    zero-padded; exactly `n` bits are consumed -/
theorem getManyLoop_some (n : Nat) (bs : Bits) (h : n ≤ bs.length) :
    ∃ out, getManyLoop n bs = some (out, bs.drop n) ∧ out.length = (n + 7) / 8 ∧ Bytes.wf out ∧
      bytesToBits out = bs.take n ++ List.replicate (8 * ((n + 7) / 8) - n) false := by
  -- the octet count follows from the bits
  suffices ∃ out, getManyLoop n bs = some (out, bs.drop n) ∧ Bytes.wf out ∧
      bytesToBits out = bs.take n ++ List.replicate (8 * ((n + 7) / 8) - n) false by
    obtain ⟨out, ho, hw, hb⟩ := this
    have := congrArg List.length hb
    rw [bytesToBits_length, List.length_append, List.length_take, List.length_replicate] at this
    exact ⟨out, ho, by omega, hw, hb⟩
  induction n using Nat.strongRecOn generalizing bs with
  | _ n ih =>
    rw [getManyLoop]
    by_cases c0 : n = 0
    · subst c0; exact ⟨[], by simp, (fun _ h => nomatch h), rfl⟩
    rw [if_neg c0]
    by_cases c24 : n ≥ 24
    · obtain ⟨out, ho, hw, hb⟩ := ih (n - 24) (by omega) (bs.drop 24) (by rw [List.length_drop]; omega)
      rw [if_pos c24, getFewBits_eq, if_neg (by omega)]
      simp only [ho]
      refine ⟨toBEn 3 (bitsVal 0 (bs.take 24)) ++ out, by simp [toBEn, List.drop_drop]; omega,
        Integer.wf_append (Integer.toBEn_wf _ _) hw, ?_⟩
      rw [bytesToBits_append, bytesToBits_toBEn, hb, natBits_bitsVal_take (by omega), ← List.append_assoc, ← List.take_add]
      congr 2 <;> omega
    · -- the last `n < 24` bits, shifted left to an octet boundary: `k` octets
      rw [if_neg c24, getFewBits_eq, if_neg (by omega)]
      simp only
      rw [ite_pad n (bitsVal 0 (bs.take n) * 2 ^ ·) _ (Nat.mul_one _), ite_pad n (n + ·) n rfl, Nat.add_sub_of_le (by omega)]
      generalize hk : (n + 7) / 8 = k
      generalize hp : 8 * k - n = p
      refine ⟨toBEn k (bitsVal 0 (bs.take n) * 2 ^ p), ?_, Integer.toBEn_wf _ _, ?_⟩
      · have : k = 1 ∨ k = 2 ∨ k = 3 := by omega
        rcases this with rfl | rfl | rfl <;> simp [toBEn]
      · rw [bytesToBits_toBEn, show 8 * k = n + p by omega, natBits_shift, natBits_bitsVal_take h]

end Asn1c.Proofs.PerSupport
