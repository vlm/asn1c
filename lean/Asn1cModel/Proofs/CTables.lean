import Asn1cModel.Spec.Constraint
import Asn1cModel.Impl.CTables
import Mathlib.Algebra.Group.Int.Defs
/- The bit-count loops of `emit_single_member_PER_constraint` (asn1c_C.c) against `IsRangeBits`, for C09.
   The Mathlib import brings Mathlib's `Monoid` power into scope, with which every `2 ^ k` over `Int` in the
   statements of this file and of Props/C09 is elaborated (and `pow_succ`). -/
namespace Asn1c.Impl.CTables
open Asn1c.Impl.CRange Asn1c.Spec.Constraint

/-- the "compute real constraint" loop finds the least `k` with `r ≤ 2^k` -/
theorem rbitsLoop_spec (r : Int) (hr : r ≤ 2 ^ 126) : ∀ (k rbits : Nat) (cover : Int), cover = 2 ^ rbits →
    (∀ j, j < rbits → (2:Int) ^ j < r) → rbits ≤ 126 → 126 ≤ rbits + k →
    ∃ n : Nat, rbitsLoop r k rbits cover = n ∧ IsRangeBits r n := by
  intro k
  induction k with
  | zero =>
    intro rbits cover _ hlow h1 h2
    have : rbits = 126 := by omega
    subst this
    exact ⟨126, rfl, hr, hlow⟩
  | succ k ih =>
    intro rbits cover hcov hlow hb1 hb2
    simp only [rbitsLoop]
    by_cases h1 : r ≤ cover
    · simp only [h1, if_true]
      exact ⟨rbits, rfl, hcov ▸ h1, hlow⟩
    · have hrb : rbits < 126 := by
        refine Decidable.byContradiction fun hge => ?_
        have : rbits = 126 := by omega
        subst this; exact h1 (hcov ▸ hr)
      -- `cover < r ≤ 2^126`: the doubled cover does not overflow
      rw [if_neg h1, if_neg (by omega)]
      refine ih (rbits + 1) (cover * 2) (by rw [hcov, pow_succ]) (fun j hj => ?_) (by omega) (by omega)
      by_cases hj' : j < rbits
      · exact hlow j hj'
      · obtain rfl : j = rbits := by omega
        omega

theorem rangeBits_spec {r : Int} (h : r ≤ 2 ^ 126) : ∃ n : Nat, rangeBits r = n ∧ IsRangeBits r n := by
  unfold rangeBits
  exact rbitsLoop_spec r h 128 0 1 rfl (by intro j hj; omega) (by omega) (by omega)

/-- `IsRangeBits` determines the number -/
theorem isRangeBits_unique {r : Int} {a b : Nat} (ha : IsRangeBits r a) (hb : IsRangeBits r b) : a = b := by
  rcases Nat.lt_trichotomy a b with h | h | h
  · have := hb.2 a h; have := ha.1; omega
  · exact h
  · have := ha.2 b h; have := hb.1; omega

/-- the loop of X.691 #10.9.4.1 started at or below the range bit count, with enough rounds left to reach it, stops
    there: further down `r` is not covered yet -/
theorem ebitsLoop_eq {r : Int} {n : Nat} (h : IsRangeBits r n) : ∀ (k e : Nat), e ≤ n → n < e + k →
    ebitsLoop r k e = n := by
  intro k
  induction k with
  | zero => intro e h1 h2; omega
  | succ k ih =>
    intro e h1 h2
    rw [ebitsLoop]
    by_cases hr : r ≤ 2 ^ e
    · have : ¬ e < n := fun hlt => absurd (h.2 e hlt) (by omega)
      rw [if_pos hr]; omega
    · have : e ≠ n := fun heq => hr (heq ▸ h.1)
      rw [if_neg hr]
      exact ih (e + 1) (by omega) (by omega)

/-- X.691 10.9.4.1 for sizes: with `0 ≤ lb`, `effective_bits` is the range bit count when
    `ub < 64K` and −1 otherwise -/
theorem effBits_spec {l u : Int} (hl : 0 ≤ l) (hu : u ≤ 2 ^ 64) :
    effBits (1 + u - l) u = if u < 65536 then rangeBits (1 + u - l) else -1 := by
  unfold effBits
  by_cases h : u < 65536
  · obtain ⟨n, hn1, hn2⟩ := rangeBits_spec (r := 1 + u - l) (by omega)
    -- the range is at most 2^16 wide, so its bit count is at most 16
    have hn : ¬ 16 < n := fun hlt => absurd (hn2.2 16 hlt) (by omega)
    rw [ebitsLoop_eq hn2 17 0 (by omega) (by omega), hn1, if_pos h, if_neg (by simp; omega)]
  · have : u ≥ 65536 := by omega
    simp [h, this]

end Asn1c.Impl.CTables
