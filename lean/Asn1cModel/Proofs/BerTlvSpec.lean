import Asn1cModel.Proofs.BerTlv
import Asn1cModel.Spec.Ber
import Mathlib.Algebra.Group.Nat.Defs
/-
  The statements about `ber_fetch_tag` and the two serializers against `Spec.Ber` (X.690 §8.1.2, §8.1.3) that the
  checks C01 and C02 audit.  Each is an instance of the general lemma in Proofs/BerTlv.lean: `fetchTag_serialize` of
  `fetchTag_tagSerialize` (a long tag number: `fetchTag_long`), `lenSerialize_eq_derLen` of `toBEn_lenOctets`,
  `tagSerialize_eq_spec` of `tagGroupOctets_eq_spec`.  They stand apart because their bounds `2 ^ 30`, `2 ^ 64` are
  read with Mathlib's `Monoid` power, imported here; Proofs/BerTlv and what rests on it below the L2 codecs import no
  Mathlib.
-/
namespace Asn1c.Proofs.BerTlv
open Asn1c Asn1c.Impl.BerTlv Asn1c.Spec

/-- `ber_fetch_tag` inverts `ber_tlv_tag_serialize`, whatever follows.  `hc` (the class is two bits wide in C) is not
    used: `fetchTag_tagSerialize` is the same statement without it -/
theorem fetchTag_serialize (t : Tag) (rest : Bytes) (hc : t.cls < 4) (hn : t.num < 2 ^ 30) :
    fetchTag (tagSerialize t ++ rest) = .ok t (tagSerialize t).length :=
  have _ := hc
  fetchTag_tagSerialize t rest hn

theorem lenSerialize_eq_derLen (n : Nat) (h : n < 2 ^ 64) : lenSerialize n = derLen n := by
  unfold lenSerialize derLen
  split
  · rfl
  · rw [toBEn_lenOctets n h (by omega), toBE_length_lenOctets n h (by omega)]

theorem tagSerialize_eq_spec (t : Tag) (h : t.num < 2 ^ 30) :
    tagSerialize t = identOctets t.cls false t.num := by
  unfold tagSerialize identOctets
  simp only [Bool.false_eq_true, if_false, Nat.add_zero]
  split
  · rfl
  · rw [tagGroupOctets_eq_spec _ (by omega)]

end Asn1c.Proofs.BerTlv
