import Asn1cModel.Proofs.BerStreamStep
/-
  The OCTET STRING / BIT STRING machine (`ostrIt`): its iteration phase by phase (`ostrIt_eq`), what the TL reader and
  the copying phases (shape `onCopy`) do when octets are appended, one walk over an iteration (`ostr_step`), and
  from that `consumed ≤ size` and the restart laws.
-/
namespace Asn1c.Proofs.BerStream
open Asn1c Asn1c.Impl.BerTlv Asn1c.Impl.Restart Asn1c.Impl.BerStream Asn1c.Proofs.BerTlv

section OstrIt
variable {tags allTags : List Tag} {bits : Bool} {tm : Int}

/-- the TL-reading part of phase 1 -/
def ostrFetchPart (ex : Nat → Tag → Tag) (s : OS) (q : Bytes) : Out OS :=
  match ostrFetch s.selLeft q with
  | .ret rc => .ret s rc 0
  | .ok t _ => ostrTlv ex s t

theorem ostrIt_eq (s : OS) (q : Bytes) :
    ostrIt tags allTags bits tm s q =
      match s.ctx.phase with
      | 0 =>
        onCheck tags s.ctx.step tm (-1) (fun st => { s with ctx := { s.ctx with step := st } })
          (fun ct =>
            if ct.constr != 0 then .cont { s with ctx := ⟨1, ct.step, ct.lastLen⟩, appended := false, stack := [] } 0
            else .cont { s with ctx := ⟨3, ct.step, ct.lastLen⟩, appended := false } ct.consumed) q
      | 1 =>
        match s.stack with
        | f :: prev :: rest' =>
          if f.left ≤ 0 && f.wantNulls == 0 then
            if prev.left != -1 && prev.left < f.got then .ret s .fail 0
            else
              .cont { s with stack := { prev with left := if prev.left != -1 then prev.left - f.got else prev.left,
                                                  got := prev.got + f.got } :: rest' } 0
          else ostrFetchPart (ostrEx tags allTags bits tm) s q
        | [f] =>
          if f.left ≤ 0 && f.wantNulls == 0 then .cont (ostrLoopEnd { s with stack := [] } false) 0
          else ostrFetchPart (ostrEx tags allTags bits tm) s q
        | [] => ostrFetchPart (ostrEx tags allTags bits tm) s q
      | 2 =>
        match s.stack with
        | [] => .ret s .fail 0
        | f :: rest =>
          if f.left < 0 then .ret s .fail 0 else onCopy f.left.toNat (ostrCopy2 bits s f rest) q
      | 3 => if s.ctx.left < 0 then .ret s .fail 0 else onCopy s.ctx.left.toNat (ostrCopy3 bits s) q
      | _ => ostrFinish bits s := by
  unfold ostrIt
  rfl

end OstrIt

theorem ostrFetch_spec (l : Int) (p ext : Bytes) :
    WF.Ext (fun t n => n = t.tl + t.ll ∧ 2 ≤ n ∧ n ≤ leftOf l p.length) (ostrFetch l p) (ostrFetch l (p ++ ext)) := by
  obtain ⟨e, he, _⟩ := win_ext l p ext
  unfold winOf at he
  unfold ostrFetch
  simp only
  rw [he]
  have hlo := leftOf_le l p.length
  refine (fetchTag_ext _ e).elim (fun _ => ⟨nofun, fun h => absurd rfl h⟩) ⟨nofun, fun _ => rfl⟩ fun tag tl htl => ?_
  simp only [List.length_take] at htl
  have hne : 1 ≤ p.length := by omega
  simp only
  rw [headD_append _ _ _ hne, List.drop_append_of_le_length (by simp only [List.length_take]; omega)]
  refine (fetchLength_ext _ _ e).elim (fun _ => ⟨nofun, fun h => absurd rfl h⟩) ⟨nofun, fun _ => rfl⟩ fun len ll hll => ?_
  simp only [List.length_take, List.length_drop] at hll
  refine ⟨⟨rfl, by omega, by omega⟩, ?_⟩
  simp only
  rw [headD_append _ _ _ hne, List.drop_append_of_le_length (by omega),
    headD_append _ _ _ (by simp only [List.length_drop]; omega)]

/-- what phase 1 does with a TL: RC_FAIL with the state untouched, or it goes on, having advanced over the two
    end-of-contents octets or over the TL and pushed at most one frame -/
def TlvOut (s : OS) (t : TL) (o : Out OS) : Prop :=
  o = .ret s .fail 0 ∨
    ∃ stk c n, o = .cont (ostrLoopEnd { s with stack := stk } c) n ∧ stk.length ≤ s.stack.length + 1 ∧
      (n = 2 ∨ n = t.tl + t.ll)

theorem ostrTlv_shape (ex : Nat → Tag → Tag) (s : OS) (t : TL) : TlvOut s t (ostrTlv ex s t) := by
  unfold ostrTlv
  cases hs : s.stack with
  | nil =>
    exact iteInduction (motive := (TlvOut s t ·)) (fun _ => Or.inl rfl) fun _ =>
      Or.inr ⟨_, _, _, rfl, by simp [hs], Or.inr rfl⟩
  | cons f rest =>
    have hpush : ∀ (fr : Frame) c, TlvOut s t (.cont (ostrLoopEnd { s with stack := fr :: f :: rest } c) (t.tl + t.ll)) :=
      fun fr c => Or.inr ⟨_, _, _, rfl, by simp [hs], Or.inr rfl⟩
    refine iteInduction (motive := (TlvOut s t ·)) (fun _ => Or.inr ⟨_, _, _, rfl, by simp [hs], Or.inl rfl⟩) fun _ => ?_
    refine iteInduction (motive := (TlvOut s t ·)) (fun _ => Or.inl rfl) fun _ => ?_
    refine iteInduction (motive := (TlvOut s t ·)) (fun _ => Or.inl rfl) fun _ => ?_
    refine iteInduction (motive := (TlvOut s t ·)) (fun _ => ?_) fun _ => hpush ..
    exact iteInduction (motive := (TlvOut s t ·)) (fun _ => Or.inl rfl) fun _ => hpush ..

theorem isEmpty_append_left {α} (c1 c2 : List α) (h : c1 ≠ []) : (c1 ++ c2).isEmpty = false := by
  cases c1 with
  | nil => exact absurd rfl h
  | cons a t => rfl

/-- `APPEND` of `c1` and then of `c2` is `APPEND` of `c1 ++ c2`: the first octet is chopped off at most once -/
theorem copyIn_append (s : OS) (chop : Bool) (c1 c2 : Bytes) (h1 : c1 ≠ []) :
    (s.copyIn chop c1).copyIn false c2 = s.copyIn chop (c1 ++ c2) := by
  cases c1 with
  | nil => exact absurd rfl h1
  | cons a t => cases chop <;> simp [OS.copyIn]

theorem copy3_append (bits : Bool) (s : OS) (c1 c2 : Bytes) (h1 : c1 ≠ []) :
    (s.copy3 bits c1).copy3 bits c2 = s.copy3 bits (c1 ++ c2) := by
  have e := copyIn_append s (bits && !s.appended) c1 c2 h1
  unfold OS.copy3
  simp only [isEmpty_append_left _ _ h1, List.isEmpty_eq_false_iff.mpr h1, Bool.not_false, Bool.and_true, ← e]
  simp only [OS.copyIn, Bool.not_true, Bool.and_false, Bool.false_and, Bool.false_eq_true, if_false, List.length_append,
    OS.mk.injEq, Ctx.mk.injEq, true_and, and_true]
  omega

theorem ostrCopy3_append (bits : Bool) (s : OS) (c1 c2 : Bytes) (h1 : c1 ≠ []) :
    ostrCopy3 bits s (c1 ++ c2) = bump c1.length (ostrCopy3 bits (s.copy3 bits c1) c2) := by
  have hl : (s.copy3 bits c1).ctx.left = s.ctx.left - c1.length := rfl
  unfold ostrCopy3
  simp only [hl, List.length_append, isEmpty_append_left _ _ h1, copy3_append bits s c1 c2 h1]
  by_cases hlt : ((c1.length + c2.length : Nat) : Int) < s.ctx.left
  · have hlt2 : (c2.length : Int) < s.ctx.left - c1.length := by push_cast at hlt; omega
    simp only [hlt, hlt2, if_true, Bool.false_eq_true, if_false]
    by_cases hc2 : c2.isEmpty = true
    · have : c2 = [] := List.isEmpty_iff.mp hc2
      subst this
      simp only [List.isEmpty_nil, if_true, bump, List.append_nil, List.length_nil, Nat.add_zero]
    · simp only [hc2, if_false, Bool.false_eq_true, bump]
  · have hlt2 : ¬ (c2.length : Int) < s.ctx.left - c1.length := by push_cast at hlt; omega
    simp only [hlt, hlt2, if_false, bump]

/-- state / frame after phase 2 copied `c` -/
def c2S (bits : Bool) (s : OS) (f : Frame) (c : Bytes) : OS :=
  if c.isEmpty then s else s.copyIn (bits && !f.chopped && !c.isEmpty) c
def c2F (bits : Bool) (f : Frame) (c : Bytes) : Frame := f.copied (bits && !f.chopped && !c.isEmpty) c.length

theorem ostrCopy2_eq (bits : Bool) (s : OS) (f : Frame) (rest : List Frame) (c : Bytes) :
    ostrCopy2 bits s f rest c =
      if (c2F bits f c).left != 0 then .ret { (c2S bits s f c) with stack := c2F bits f c :: rest } .more c.length
      else .cont { (c2S bits s f c) with stack := c2F bits f c :: rest,
                                          ctx := { (c2S bits s f c).ctx with phase := 1 } } c.length := rfl

theorem c2F_append (bits : Bool) (f : Frame) (c1 c2 : Bytes) :
    c2F bits (c2F bits f c1) c2 = c2F bits f (c1 ++ c2) := by
  obtain ⟨lf, got, wn, ch⟩ := f
  unfold c2F Frame.copied
  by_cases h1 : c1 = []
  · subst h1; simp
  · -- the first octet is chopped off at most once: after a non-empty copy nothing is chopped any more
    have hno : (bits && !(ch || (bits && !ch))) = false := by cases bits <;> cases ch <;> rfl
    simp only [isEmpty_append_left _ _ h1, List.isEmpty_eq_false_iff.mpr h1, Bool.not_false, Bool.and_true, List.length_append,
      hno, Bool.false_and, Bool.or_false, Frame.mk.injEq, and_true]
    constructor <;> omega

theorem c2S_append (bits : Bool) (s : OS) (f : Frame) (rest : List Frame) (c1 c2 : Bytes) :
    c2S bits { (c2S bits s f c1) with stack := c2F bits f c1 :: rest } (c2F bits f c1) c2 =
      { (c2S bits s f (c1 ++ c2)) with stack := c2F bits f c1 :: rest } := by
  by_cases h1 : c1 = []
  · subst h1; cases h2 : c2.isEmpty <;> simp [c2S, c2F, Frame.copied, OS.copyIn, h2]
  · by_cases h2 : c2 = []
    · subst h2; simp [c2S]
    · -- the first octet is chopped off at most once: after a non-empty copy nothing is chopped any more
      have hno : (bits && !(f.chopped || (bits && !f.chopped))) = false := by cases bits <;> cases f.chopped <;> rfl
      simp only [c2S, c2F, Frame.copied, isEmpty_append_left _ _ h1, List.isEmpty_eq_false_iff.mpr h1,
        List.isEmpty_eq_false_iff.mpr h2, Bool.not_false, Bool.and_true, hno, Bool.false_eq_true, if_false,
        ← copyIn_append s (bits && !f.chopped) c1 c2 h1]
      rfl

theorem ostrCopy2_append (bits : Bool) (s : OS) (f : Frame) (rest : List Frame) (c1 c2 : Bytes) :
    ostrCopy2 bits s f rest (c1 ++ c2) =
      bump c1.length (ostrCopy2 bits { (c2S bits s f c1) with stack := c2F bits f c1 :: rest } (c2F bits f c1) rest c2) := by
  rw [ostrCopy2_eq, ostrCopy2_eq, c2F_append, c2S_append]
  split <;> simp [bump]

section Ostr
variable (tags allTags : List Tag) (bits : Bool) (tm : Int) (ex : Nat → Tag → Tag)

/-- the rank of a phase in the measure: 0 > 2 > 1 > 3 > 4.  The one transition that raises it, phase 1 → 2, and a
    push of a frame come with a TL consumed (≥ 2 octets, 8 each); a pop in phase 1 lowers the stack term instead -/
def ostrRank (ph : Nat) : Nat := match ph with | 0 => 5 | 1 => 2 | 2 => 3 | 3 => 1 | _ => 0

/-- the rank of a state of the OCTET STRING machine: `ostrMeasure` is `8 * size + rank + 1` -/
def ostrSRank (s : OS) : Nat := 2 * s.stack.length + ostrRank s.ctx.phase

theorem ostrLoopEnd_shape (s : OS) (c : Bool) (hph : s.ctx.phase = 1) :
    (ostrLoopEnd s c).stack = s.stack ∧ ostrRank (ostrLoopEnd s c).ctx.phase ≤ 3 := by
  unfold ostrLoopEnd
  split
  · exact ⟨rfl, by rw [hph]; decide⟩
  · split
    · exact ⟨rfl, by simp only [hph]; decide⟩
    · exact ⟨rfl, by simp only [hph]; decide⟩

/-- the TL-reading part of phase 1: a new TL takes at least two octets and pushes at most one frame -/
theorem ostrFetchPart_step (s : OS) (p ext : Bytes) (hph : s.ctx.phase = 1) :
    Step True (ostrIt tags allTags bits tm) 8 ostrSRank s p ext (ostrFetchPart ex s p) (ostrFetchPart ex s (p ++ ext)) := by
  have := leftOf_le s.selLeft p.length
  unfold ostrFetchPart
  refine (ostrFetch_spec s.selLeft p ext).elim (fun rc b _ hb => Step.ret fun hne => by rw [hb hne]) fun t n hfl => ?_
  show Step _ _ _ _ _ _ _ (ostrTlv ex s t) (ostrTlv ex s t)
  rcases ostrTlv_shape ex s t with ho | ⟨stk, c, m, ho, hstk, hm⟩
  · rw [ho]; exact Step.fin nofun
  · rw [ho]
    have hl := ostrLoopEnd_shape { s with stack := stk } c hph
    have r1 : ostrRank 1 = 2 := rfl
    refine Step.cont (by omega) fun _ => Or.inr ⟨by omega, ?_⟩
    simp only [ostrSRank, hl.1, hph, r1]
    omega

/-- nothing is asked (`True`): the machine calls no member decoder -/
theorem ostr_step (s : OS) (p ext : Bytes) :
    Step True (ostrIt tags allTags bits tm) 8 ostrSRank s p ext (ostrIt tags allTags bits tm s p)
      (ostrIt tags allTags bits tm s (p ++ ext)) := by
  rw [ostrIt_eq, ostrIt_eq]
  split
  next h0 =>
    refine Step.check ?_ fun ct hle => ite_rel (fun _ => Step.cont (Nat.zero_le _) fun _ => Or.inl ?_)
      fun _ => Step.cont hle fun _ => Or.inl ?_
    · rfl
    all_goals simp only [ostrSRank, ostrRank, h0, List.length_nil]; omega
  next h1 =>
    -- the loop over the TLVs of a constructed string: leave exhausted frames, else read the next TL
    have hf := ostrFetchPart_step tags allTags bits tm (ostrEx tags allTags bits tm) s p ext h1
    have r1 : ostrRank 1 = 2 := rfl
    rcases hs : s.stack with _ | ⟨f, _ | ⟨prev, rest'⟩⟩
    · exact hf
    · refine ite_rel (fun _ => Step.cont (Nat.zero_le _) fun _ => Or.inl ?_) fun _ => hf
      -- the outermost frame is left: `ostrLoopEnd` on the empty stack goes to phase 1 + 3, of rank 0
      simp only [ostrSRank, ostrLoopEnd, h1, r1, List.isEmpty_nil, List.length_nil, if_true, Bool.false_eq_true, if_false]
      have : ostrRank (1 + 3) = 0 := rfl
      omega
    · refine ite_rel (fun _ => ite_rel (fun _ => Step.fin nofun) fun _ => Step.cont (Nat.zero_le _) fun _ => Or.inl ?_)
        fun _ => hf
      simp only [ostrSRank, hs, List.length_cons]; omega
  next h2 =>
    -- the content of a segment is copied
    rcases hs : s.stack with _ | ⟨f, rest⟩
    · exact Step.fin nofun
    refine ite_rel (fun _ => Step.fin nofun) fun hneg => Step.copy (fun hge => ?_) fun hlt => Or.inr ?_
    · have hlen : (p.take f.left.toNat).length = f.left.toNat := by rw [List.length_take]; omega
      have h0 : (c2F bits f (p.take f.left.toNat)).left = 0 := by
        unfold c2F Frame.copied
        simp only [hlen]
        omega
      rw [ostrCopy2_eq]
      simp only [h0, bne_self_eq_false, Bool.false_eq_true, if_false]
      refine Step.cont (by omega) fun _ => Or.inl ?_
      simp only [ostrSRank, hs, h2, ostrRank, List.length_cons]
      omega
    · have hf2 : (c2F bits f p).left = f.left - p.length := rfl
      have hph2 : ({ (c2S bits s f p) with stack := c2F bits f p :: rest } : OS).ctx.phase = 2 := by
        unfold c2S; split <;> exact h2
      refine ⟨{ (c2S bits s f p) with stack := c2F bits f p :: rest }, ostrCopy2 bits _ (c2F bits f p) rest,
        (c2F bits f p).left.toNat, by omega, ?_, fun q => ?_,
        fun c => ostrCopy2_append bits s f rest p c⟩
      · rw [ostrCopy2_eq, if_pos (by rw [hf2]; simp only [bne_iff_ne, ne_eq]; omega)]
      · rw [ostrIt_eq, hph2]
        exact if_neg (by rw [hf2]; omega)
  next h3 =>
    -- the content of a primitive string is copied
    refine ite_rel (fun _ => Step.fin nofun) fun hneg => Step.copy (fun hge => ?_) fun hlt => ?_
    · have hlen : (p.take s.ctx.left.toNat).length = s.ctx.left.toNat := by rw [List.length_take]; omega
      unfold ostrCopy3
      rw [if_neg (by rw [hlen]; omega)]
      refine Step.cont (by omega) fun _ => Or.inl ?_
      have hstk : (OS.copy3 bits s (p.take s.ctx.left.toNat)).stack = s.stack := rfl
      simp only [ostrSRank, hstk, h3, ostrRank]
      omega
    · have hl3 : (OS.copy3 bits s p).ctx.left = s.ctx.left - p.length := rfl
      by_cases hemp : p = []
      · subst hemp
        refine Or.inl ?_
        unfold ostrCopy3
        rw [if_pos (by simp only [List.length_nil] at hlt ⊢; omega)]; rfl
      · refine Or.inr ⟨OS.copy3 bits s p, ostrCopy3 bits (OS.copy3 bits s p), (OS.copy3 bits s p).ctx.left.toNat, by omega,
          ?_, fun q => ?_, fun c => ostrCopy3_append bits s p c hemp⟩
        · unfold ostrCopy3
          rw [if_pos (by omega), List.isEmpty_eq_false_iff.mpr hemp]; rfl
        · rw [ostrIt_eq, show (OS.copy3 bits s p).ctx.phase = 3 from h3]
          exact if_neg (by rw [hl3]; omega)
  next =>
    -- phase 4 returns at once, with RC_OK or RC_FAIL
    unfold ostrFinish
    exact ite_rel (fun _ => ite_rel (fun _ => ite_rel (fun _ => Step.fin nofun) fun _ => Step.fin nofun)
      fun _ => ite_rel (fun _ => Step.fin nofun) fun _ => Step.fin nofun) fun _ => Step.fin nofun

theorem ostr_itLaws :
    ItLaws (ostrIt tags allTags bits tm) fun s bs => 8 * bs.length + 2 * s.stack.length + ostrRank s.ctx.phase :=
  itLaws_of_step _ _ _ _ (fun _ _ => Nat.add_assoc ..) trivial (ostr_step tags allTags bits tm)

theorem ostrDec_le (n : Node) (bs : Bytes) : (ostrDec tags allTags bits tm n bs).2.2 ≤ bs.length := by
  unfold ostrDec
  exact iterate_le _ (itBound_of_step _ _ _ _ (ostr_step tags allTags bits tm)) _ _ _

/-- OCTET STRING / BIT STRING (primitive or constructed encoding, any nesting) is a
    lawful restartable decoder -/
theorem ostrDec_lawfulRc :
    LawfulRc (⟨ostrDec tags allTags bits tm⟩ : Dec Node) :=
  lawfulRc_of_itLaws _ _ (ostr_itLaws tags allTags bits tm) OS.ofNode OS.toNode fun _ => rfl

end Ostr

end Asn1c.Proofs.BerStream
