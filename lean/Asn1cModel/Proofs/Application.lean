import Asn1cModel.Impl.Application
import Asn1cModel.Spec.EncoderApi
/- The callbacks of asn_application.c, one at a time: what each does to its key over a whole encoder run.
   The wrappers themselves and the property theorems are in Props/C07.lean. -/
namespace Asn1c.Proofs.Application
open Asn1c Asn1c.Impl.Application Asn1c.Spec.EncoderApi

/-- the callback accepts every chunk in every state (it never returns < 0) -/
def NeverFails {σ : Type} (cb : Callback σ) : Prop := ∀ s c, (cb s c).2 = true

/-- state after a never-failing callback has seen `chunks` -/
def foldCb {σ : Type} (cb : Callback σ) (s : σ) (chunks : List Bytes) : σ :=
  chunks.foldl (fun s c => (cb s c).1) s

@[simp] theorem foldCb_nil {σ : Type} (cb : Callback σ) (s : σ) : foldCb cb s [] = s := rfl
@[simp] theorem foldCb_cons {σ : Type} (cb : Callback σ) (s : σ) (c : Bytes) (cs : List Bytes) :
    foldCb cb s (c :: cs) = foldCb cb (cb s c).1 cs := rfl

theorem foldCb_append {σ : Type} (cb : Callback σ) (s : σ) (a b : List Bytes) :
    foldCb cb s (a ++ b) = foldCb cb (foldCb cb s a) b :=
  List.foldl_append

theorem foldCb_inv {σ : Type} (cb : Callback σ) (P : List Bytes → σ → Prop)
    (step : ∀ d s c, P d s → P (d ++ [c]) (cb s c).1) (d : List Bytes) (s : σ) (chunks : List Bytes) (h : P d s) :
    P (d ++ chunks) (foldCb cb s chunks) := by
  induction chunks generalizing d s with
  | nil => simpa using h
  | cons c cs ih => simpa using ih _ _ (step d s c h)

theorem run_inv {σ : Type} (cb : Callback σ) (P : σ → Prop) (step : ∀ s c, P s → P (cb s c).1)
    (e : Enc) (s : σ) (h : P s) : P (e.run cb s).1 := by
  fun_induction Enc.run cb e s with
  | case1 => exact h
  | case2 c _ _ s _ _ ih | case3 c _ _ s _ _ ih => exact ih (step s c h)

theorem run_neverFails {σ : Type} (cb : Callback σ) (h : NeverFails cb) (e : Enc) (s : σ) :
    e.run cb s = (foldCb cb s e.trace, e.result) := by
  fun_induction Enc.run cb e s with
  | case1 => rfl
  | case2 _ _ _ _ _ _ ih => exact ih
  | case3 c _ _ s _ hr => exact absurd (h s c) hr

theorem stdBranch_neverFails {σ : Type} (cb : Callback σ) (h : NeverFails cb) (e : Enc) (s : σ) :
    stdBranch cb s (some e) = (foldCb cb s e.trace, match e.result with
      | .ok n => ⟨(n : Int), none⟩
      | .fail b => ⟨-1, some (errnoOfBlame b)⟩) := by
  simp only [stdBranch, run_neverFails cb h]
  cases e.result <;> rfl

theorem recordCb_neverFails : NeverFails recordCb := fun _ _ => rfl

theorem foldCb_record (acc chunks : List Bytes) : foldCb recordCb acc chunks = acc ++ chunks := by
  induction chunks generalizing acc with
  | nil => simp
  | cons c cs ih => simp [ih, recordCb]

theorem total_nil : total [] = 0 := rfl
theorem total_cons (c : Bytes) (cs : List Bytes) : total (c :: cs) = c.length + total cs := by
  simp [total]
theorem total_append (a b : List Bytes) : total (a ++ b) = total a + total b := by
  simp [total]
theorem total_eq_flatten_length (cs : List Bytes) : total cs = cs.flatten.length :=
  List.length_flatten.symm

theorem countBytes_neverFails {σ : Type} (cb : Callback σ) (h : NeverFails cb) : NeverFails (countBytesCb cb) := by
  intro s c; simp [countBytesCb, h s.1 c]

theorem foldCb_countBytes {σ : Type} (cb : Callback σ) (h : NeverFails cb) (s : σ) (n : Nat) (chunks : List Bytes) :
    foldCb (countBytesCb cb) (s, n) chunks = (foldCb cb s chunks, n + total chunks) := by
  induction chunks generalizing s n with
  | nil => simp [total_nil]
  | cons c cs ih =>
    simp only [foldCb_cons, countBytesCb, h s c, if_true, total_cons]
    rw [ih]; simp [Nat.add_assoc]

theorem writeAt_append (w r c : Bytes) : writeAt (w ++ r) w.length c = w ++ c ++ r.drop c.length := by
  simp [writeAt, List.drop_append]

theorem overrunCb_neverFails : NeverFails overrunCb := by
  intro s c
  fun_cases overrunCb s c <;> rfl

theorem overrun_computed (key : OverrunKey) (chunks : List Bytes) :
    (foldCb overrunCb key chunks).computedSize = key.computedSize + total chunks := by
  induction chunks generalizing key with
  | nil => rfl
  | cons c cs ih =>
    rw [foldCb_cons, ih, total_cons, ← Nat.add_assoc]
    congr 1
    fun_cases overrunCb key c <;> rfl

/-- after the first overflow (`buffer_size = 0`, `computed_size > 0`) nothing is ever copied again -/
theorem overrun_dead (m : Bytes) (comp hi : Nat) (h : 0 < comp) (chunks : List Bytes) :
    foldCb overrunCb ⟨m, 0, comp, hi⟩ chunks = ⟨m, 0, comp + total chunks, hi⟩ := by
  induction chunks generalizing comp with
  | nil => simp [total_nil]
  | cons c cs ih =>
    have : comp + c.length > 0 := by omega
    simp only [foldCb_cons, overrunCb, this, if_true]
    rw [ih _ (by omega), total_cons]; simp [Nat.add_assoc]

theorem fitChunks_length_le (n acc : Nat) (chunks : List Bytes) (h : acc ≤ n) :
    acc + (fitChunks n acc chunks).flatten.length ≤ n := by
  fun_induction fitChunks n acc chunks with
  | case1 | case3 => simpa
  | case2 acc c cs hfit ih => simpa [Nat.add_assoc] using ih hfit

theorem fitChunks_prefix (n acc : Nat) (chunks : List Bytes) : fitChunks n acc chunks <+: chunks := by
  fun_induction fitChunks n acc chunks with
  | case1 | case3 => exact List.nil_prefix
  | case2 acc c cs _ ih => exact (List.prefix_cons_inj c).mpr ih

theorem fitChunks_all (n acc : Nat) (chunks : List Bytes) (h : acc + total chunks ≤ n) :
    fitChunks n acc chunks = chunks := by
  fun_induction fitChunks n acc chunks with
  | case1 => rfl
  | case2 acc c cs _ ih => rw [ih (by rwa [total_cons, ← Nat.add_assoc] at h)]
  | case3 acc c cs hfit => exact absurd (Nat.le_trans (by rw [total_cons]; omega) h) hfit

/-- complete description of `overrun_encoder_cb` over a chunk list, started with `w` (`acc` octets) already written -/
theorem overrun_fold (n acc : Nat) (chunks : List Bytes) (w r : Bytes) (hw : w.length = acc) (hle : acc ≤ n) :
    foldCb overrunCb ⟨w ++ r, n, acc, acc⟩ chunks =
      ⟨w ++ (fitChunks n acc chunks).flatten ++ r.drop (fitChunks n acc chunks).flatten.length,
       if acc + total chunks ≤ n then n else 0,
       acc + total chunks,
       acc + (fitChunks n acc chunks).flatten.length⟩ := by
  fun_induction fitChunks n acc chunks generalizing w r with
  | case1 => simp [total_nil, hle]
  | case2 acc c cs hfit ih =>
    subst hw
    simp only [foldCb_cons, overrunCb, Nat.not_lt.mpr hfit, if_false, writeAt_append,
      Nat.max_eq_right (Nat.le_add_right _ _)]
    rw [ih (w ++ c) (r.drop c.length) List.length_append hfit]
    simp only [total_cons, List.flatten_cons, List.length_append, List.drop_drop,
      List.append_assoc, Nat.add_assoc, Nat.add_comm c.length]
  | case3 acc c cs hfit =>
    simp only [foldCb_cons, overrunCb, Nat.lt_of_not_le hfit, if_true]
    rw [overrun_dead _ _ _ (Nat.lt_of_le_of_lt (Nat.zero_le _) (Nat.lt_of_not_le hfit))]
    simp [total_cons, Nat.add_assoc, show ¬ acc + (c.length + total cs) ≤ n from
      fun h => hfit (Nat.le_trans (Nat.add_le_add_left (Nat.le_add_right _ _) _) h)]

theorem writeAt_length (mem : Bytes) (off : Nat) (data : Bytes) (h : off + data.length ≤ mem.length) :
    (writeAt mem off data).length = mem.length := by
  rw [writeAt, List.length_append, List.length_append, List.length_take, List.length_drop,
    Nat.min_eq_left (Nat.le_trans (Nat.le_add_right _ _) h), Nat.add_sub_cancel' h]

theorem writeAt_take (mem : Bytes) (off : Nat) (data : Bytes) (h : off ≤ mem.length) :
    (writeAt mem off data).take (off + data.length) = mem.take off ++ data := by
  have hl : (mem.take off ++ data).length = off + data.length := by simp [List.length_take]; omega
  unfold writeAt
  rw [← hl, List.take_left]

/-- the terminating NUL stored at offset `n` of a longer block -/
theorem writeAt_nul (b : Bytes) (n : Nat) (h : n < b.length) :
    (writeAt b n [0]).length = b.length ∧ (writeAt b n [0]).take n = b.take n ∧ (writeAt b n [0])[n]? = some 0 := by
  have hl : (b.take n).length = n := List.length_take_of_le (Nat.le_of_lt h)
  refine ⟨writeAt_length _ _ _ h, ?_, ?_⟩
  · rw [writeAt, List.append_assoc, List.take_left' hl]
  · rw [writeAt, List.append_assoc, List.getElem?_append_right (Nat.le_of_eq hl), hl, Nat.sub_self]
    rfl

theorem growLoop_spec (b t : Nat) (hb : 0 < b) : ∃ ns, growLoop b t = some ns ∧ t < ns ∧ b < ns := by
  fun_induction growLoop b t
  · exact absurd hb (Nat.lt_irrefl 0)
  · rename_i ih
    obtain ⟨ns, h, h2, h3⟩ := ih (Nat.mul_pos (by decide) hb)
    exact ⟨ns, h, h2, Nat.lt_of_le_of_lt (Nat.le_mul_of_pos_left _ (by decide)) h3⟩
  · exact ⟨_, rfl, Nat.lt_of_not_le ‹_›, Nat.lt_of_lt_of_eq (Nat.lt_add_of_pos_left hb) (Nat.two_mul _).symm⟩

theorem dynamicCb_neverFails (allocOk : Nat → Bool) (junk : Nat) : NeverFails (dynamicCb allocOk junk) := by
  intro s c
  fun_cases dynamicCb allocOk junk s c <;> rfl

/-- invariant of `struct dynamic_encoder_key` after `d` has been delivered -/
structure DynInv (d : Bytes) (key : DynKey) : Prop where
  notStuck : key.stuck = false
  computed : key.computedSize = d.length
  live : ∀ b, key.buffer = some b →
    b.length = key.bufferSize ∧ key.computedSize < key.bufferSize ∧ b.take key.computedSize = d

theorem dynamicCb_inv (allocOk : Nat → Bool) (junk : Nat) (d : Bytes) (key : DynKey) (c : Bytes) (h : DynInv d key) :
    DynInv (d ++ c) (dynamicCb allocOk junk key c).1 := by
  obtain ⟨hs, hc, hl⟩ := h
  have hcomp : key.computedSize + c.length = (d ++ c).length := by rw [hc, List.length_append]
  -- `c` copied into a block `b'` of `ns` octets that starts with `d` and has room for it
  have hcopy : ∀ (b' : Bytes) (ns a : Nat), b'.length = ns → key.computedSize + c.length < ns →
      b'.take key.computedSize = d →
      DynInv (d ++ c) ⟨some (writeAt b' key.computedSize c), ns, key.computedSize + c.length, a, key.stuck⟩ := by
    intro b' ns a hlen hlt htake
    subst hlen
    refine ⟨hs, hcomp, fun _ hb' => ?_⟩
    cases hb'
    exact ⟨writeAt_length _ _ _ (Nat.le_of_lt hlt), hlt,
      by rw [writeAt_take _ _ _ (Nat.le_of_lt (Nat.lt_of_le_of_lt (Nat.le_add_right _ _) hlt)), htake]⟩
  -- the leaves of `dynamicCb`: no buffer; the doubling loop gives up (it cannot, `growLoop_spec`); REALLOC succeeds;
  -- REALLOC fails; the chunk fits
  fun_cases dynamicCb allocOk junk key c with
  | case1 hb => exact ⟨hs, hcomp, fun _ hb' => nomatch hb.symm.trans hb'⟩
  | case2 b hb _ hg =>
    obtain ⟨_, hg', -⟩ := growLoop_spec key.bufferSize (key.computedSize + c.length)
      (Nat.lt_of_le_of_lt (Nat.zero_le _) (hl b hb).2.1)
    cases hg.symm.trans hg'
  | case3 b hb _ ns hg _ =>
    obtain ⟨hlen, hlt, htake⟩ := hl b hb
    obtain ⟨_, hg', h1, h2⟩ := growLoop_spec key.bufferSize (key.computedSize + c.length)
      (Nat.lt_of_le_of_lt (Nat.zero_le _) hlt)
    cases hg.symm.trans hg'
    rw [← hlen] at h2 hlt
    exact hcopy _ ns _ (by rw [List.length_append, List.length_replicate, Nat.add_sub_cancel' (Nat.le_of_lt h2)]) h1
      (by rw [List.take_append_of_le_length (Nat.le_of_lt hlt), htake])
  | case4 => exact ⟨hs, hcomp, fun _ hb' => nomatch hb'⟩
  | case5 b hb hgrow =>
    obtain ⟨hlen, -, htake⟩ := hl b hb
    exact hcopy b key.bufferSize _ hlen (Nat.lt_of_not_le hgrow) htake

theorem allocFailed_succ (mallocOk : Bool) (allocOk : Nat → Bool) (n : Nat) :
    AllocFailed mallocOk allocOk (n + 1) ↔ AllocFailed mallocOk allocOk n ∨ allocOk n = false := by
  simp [AllocFailed, Nat.lt_succ_iff_lt_or_eq, or_and_right, exists_or, or_assoc]

theorem not_allocFailed (allocOk : Nat → Bool) (hall : ∀ i, allocOk i = true) (n : Nat) : ¬ AllocFailed true allocOk n := by
  rintro (h | ⟨i, _, hi⟩)
  · cases h
  · rw [hall i] at hi; cases hi

/-- the buffer pointer is NULL exactly when an allocation has failed so far -/
theorem dynamicCb_null_iff (mallocOk : Bool) (allocOk : Nat → Bool) (junk : Nat) (key : DynKey) (c : Bytes)
    (h : key.buffer = none ↔ AllocFailed mallocOk allocOk key.allocs) :
    (dynamicCb allocOk junk key c).1.buffer = none ↔
      AllocFailed mallocOk allocOk (dynamicCb allocOk junk key c).1.allocs := by
  -- only a REALLOC, successful (`case3`) or not (`case4`), changes the pointer or the count of allocations
  fun_cases dynamicCb allocOk junk key c with
  | case1 | case2 => exact h
  | case3 _ hb _ _ _ ha => simp [allocFailed_succ, ← h, hb, ha]
  | case4 _ _ _ _ _ ha => simp [allocFailed_succ, ha]
  | case5 _ hb => simpa [hb] using h

theorem dynamic_fold_buffer_some (allocOk : Nat → Bool) (junk : Nat) (key : DynKey) (chunks : List Bytes)
    (hall : ∀ i, allocOk i = true) (hb : key.buffer.isSome) (hpos : 0 < key.bufferSize) :
    (foldCb (dynamicCb allocOk junk) key chunks).buffer.isSome := by
  have _ := hpos  -- plays no part: the pointer is lost only through a failed allocation (`dynamicCb_null_iff`)
  have hnf := not_allocFailed allocOk hall
  have := foldCb_inv _ (fun _ k => k.buffer = none ↔ AllocFailed true allocOk k.allocs)
    (fun _ k c => dynamicCb_null_iff true allocOk junk k c) [] key chunks
    ⟨fun hn => (by rw [hn] at hb; cases hb), fun hf => absurd hf (hnf _)⟩
  exact Option.isSome_iff_ne_none.mpr fun hf => hnf _ (this.mp hf)

theorem failsEventually_run {σ : Type} (cb : Callback σ) (e : Enc) (h : FailsEventually e) (s : σ) :
    (e.run cb s).2 = .fail .hasEnc := by
  fun_induction Enc.run cb e s with
  | case1 => exact h
  | case2 _ _ _ _ _ _ ih => exact ih h.1
  | case3 _ _ _ _ _ _ ih => exact ih h.2

/-- `callback_failed` is sticky -/
theorem catch_flag_sticky {σ : Type} (cb : Callback σ) (e : Enc) (s : σ) :
    (e.run (failureCatchCb cb) (s, true)).1.2 = true :=
  run_inv (failureCatchCb cb) (fun key => key.2 = true)
    (fun key c h => by simp only [failureCatchCb]; split <;> first | exact h | rfl) e (s, true) rfl

/-- the recorder that refuses invocation `k` (`none`: never), behind the catcher -/
abbrev cbk (k : Option Nat) : Callback (RecState × Bool) := failureCatchCb (failAtCb k)

theorem cbk_accepts (k : Option Nat) (st : RecState) (flag : Bool) (c : Bytes) (h : k ≠ some st.calls) :
    cbk k (st, flag) c = ((⟨st.calls + 1, st.accepted ++ [c], st.sizes ++ [c.length]⟩, flag), true) := by
  simp [failureCatchCb, failAtCb, h]

theorem run_failAt (k : Nat) (e : Enc) (hP : Propagates e) (st : RecState)
    (hacc : st.accepted.length = st.calls) (hle : st.calls ≤ k) (hk : k < st.calls + e.trace.length) :
    ∃ st', e.run (cbk (some k)) (st, false) = ((st', true), .fail .hasEnc) ∧
      st'.accepted.take k = (st.accepted ++ e.trace).take k := by
  induction e generalizing st with
  | ret o => exact absurd hk (Nat.not_lt.mpr hle)
  | emit c ko kf ihk _ =>
    by_cases heq : k = st.calls
    · subst heq
      -- after the refusal the encoder may go on calling: `callback_failed` stays set and the recorder only appends
      obtain ⟨hflag, -, t, ht⟩ := run_inv (cbk (some st.calls))
        (fun key => key.2 = true ∧ st.calls < key.1.calls ∧ st.accepted <+: key.1.accepted)
        (fun key c ⟨h1, h2, h3⟩ => by
          rw [cbk_accepts _ _ _ _ fun h => Nat.ne_of_lt h2 (Option.some.inj h)]
          exact ⟨h1, Nat.lt_succ_of_lt h2, h3.trans (List.prefix_append _ _)⟩)
        kf (⟨st.calls + 1, st.accepted, st.sizes ++ [c.length]⟩, true) ⟨rfl, Nat.lt_succ_self _, List.prefix_rfl⟩
      simp only [Enc.run, failureCatchCb, failAtCb, if_true, Bool.false_eq_true, if_false]
      refine ⟨_, Prod.ext (Prod.ext rfl hflag) (failsEventually_run _ kf hP.1 _), ?_⟩
      rw [← ht, List.take_left' hacc, List.take_left' hacc]
    · simp only [Enc.run, cbk_accepts (some k) st false c fun h => heq (Option.some.inj h), if_true]
      obtain ⟨st', h1, h2⟩ := ihk hP.2 ⟨st.calls + 1, st.accepted ++ [c], st.sizes ++ [c.length]⟩
        (by rw [List.length_append, hacc]; rfl) (Nat.lt_of_le_of_ne hle (Ne.symm heq))
        (by rw [Enc.trace, List.length_cons] at hk; show k < st.calls + 1 + _; omega)
      exact ⟨st', h1, by rwa [List.append_assoc] at h2⟩

theorem recorder_neverFails : NeverFails (cbk none) := fun s c => by
  rw [cbk_accepts none s.1 s.2 c nofun]

theorem foldCb_recorder (cs : List Bytes) (st : RecState) :
    foldCb (cbk none) (st, false) cs =
      (⟨st.calls + cs.length, st.accepted ++ cs, st.sizes ++ cs.map List.length⟩, false) := by
  induction cs generalizing st with
  | nil => simp
  | cons c cs ih =>
    rw [foldCb_cons, cbk_accepts none st false c nofun, ih]
    simp [Nat.add_assoc, Nat.add_comm 1]

end Asn1c.Proofs.Application
