import Asn1cModel.Proofs.Native
import Asn1cModel.Proofs.Real
import Asn1cModel.Proofs.PerSupport
/-
  Helper lemmas for the semi-constrained path of `INTEGER_encode_uper` (Impl.Native.offsetOctets):
  the octets of the offset are the minimal non-negative octets of X.691 §10.3.6.  Used by Props.C13.
-/
namespace Asn1c.Proofs.NativeSemi
open Asn1c Asn1c.Impl.Integer Asn1c.Impl.BerTlv Asn1c.Impl.Native Asn1c.Spec
open Asn1c.Proofs.Integer Asn1c.Proofs.Native

theorem oerStripZeros_zero_cons (b : Nat) (l : Bytes) : oerStripZeros (0 :: b :: l) = oerStripZeros (b :: l) := rfl

theorem oerStripZeros_cons_ne (a : Nat) (l : Bytes) (h : a ≠ 0) : oerStripZeros (a :: l) = a :: l := by
  cases a with
  | zero => exact absurd rfl h
  | succ a => cases l <;> rfl

theorem oerStripZeros_length_le (l : Bytes) : (oerStripZeros l).length ≤ l.length := by
  fun_induction oerStripZeros l with
  | case1 b bs ih => simp only [List.length_cons] at ih ⊢; omega
  | case2 bs _ => exact Nat.le_refl _

/-- the "remove leading zeros" loops of `INTEGER_encode_oer` and of `asn_double2REAL` are the same function -/
theorem oerStripZeros_eq_stripZeros (l : Bytes) : oerStripZeros l = Impl.Real.stripZeros l := by
  fun_induction Impl.Real.stripZeros l with
  | case1 => rfl
  | case2 x => cases x <;> rfl
  | case3 y rest ih => exact ih
  | case4 x y rest hx => exact oerStripZeros_cons_ne x _ hx

/-- the offset octets of `INTEGER_encode_uper` are the minimal non-negative octets of X.691 §10.3.6 -/
theorem offsetOctets_eq (n : Nat) (h : n < 2 ^ 64) : offsetOctets n = Spec.Per.nnOctets n := by
  unfold offsetOctets Spec.Per.nnOctets
  by_cases h0 : n = 0
  · subst h0; rfl
  rw [if_neg h0, oerStripZeros_eq_stripZeros,
    Asn1c.Proofs.Real.stripZeros_eq_toBE _ (toBEn_wf 8 n) (ofBE_toBEn_lt (by omega)) h0]

theorem offsetOctets_length (n : Nat) : (offsetOctets n).length ≤ 8 := by
  unfold offsetOctets
  have := oerStripZeros_length_le (toBEn 8 n)
  rw [toBEn_length] at this
  exact this

/-- up to 127 octets behind their length octet are the X.691 §10.9 length-prefixed form of those octets -/
theorem uperLenOctets_short (os : Bytes) (h : os.length ≤ 127) :
    uperLenOctets os = some (Spec.Per.lengthPrefixed (os.length + 1) (os.map fun b => Spec.Per.nnbi 8 b)) := by
  unfold uperLenOctets
  rw [if_pos h, Asn1c.Proofs.PerSupport.lengthPrefixed_octets _ os h]

end Asn1c.Proofs.NativeSemi
