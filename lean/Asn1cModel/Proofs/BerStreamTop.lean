import Asn1cModel.Proofs.BerStreamLaws
import Asn1cModel.Proofs.BerStreamOstr
/-
  Progress from a fresh structure, machine by machine (`OutPos`), and the assembly over descriptor trees by one
  recursion (`dec_spec`): every decoder reports `consumed ≤ size` (`dec_le`), consumes at least one octet before RC_OK
  when started on a fresh structure (`dec_progress`; SET OF asks it of its element decoder), and obeys the restart laws
  on `inDomain` trees (`dec_lawfulRc`).
-/
namespace Asn1c.Proofs.BerStream
open Asn1c Asn1c.Impl.BerTlv Asn1c.Impl.Restart Asn1c.Impl.BerStream Asn1c.Proofs.BerTlv

/-- an iteration outcome that keeps progress, `F` being the states the machine passes through while it has consumed
    nothing: RC_OK only with something consumed; going on, something consumed or a state in `F` again -/
def OutPos {σ : Type} (F : σ → Prop) : Out σ → Prop
  | .ret _ .ok n => 1 ≤ n
  | .ret _ _ _ => True
  | .cont s' n => 1 ≤ n ∨ F s'

theorem OutPos.ret {σ : Type} {F : σ → Prop} {s : σ} {rc : Rc} {n : Nat} (h : rc ≠ .ok) : OutPos F (.ret s rc n) := by
  cases rc with
  | ok => exact absurd rfl h
  | more => trivial
  | fail => trivial

/-- a machine started in `F`, whose iterations from `F` keep progress, consumes before RC_OK -/
theorem iterate_progress {σ : Type} (it : σ → Bytes → Out σ) (F : σ → Prop) (hF : ∀ s p, F s → OutPos F (it s p))
    (f : Nat) (s : σ) (p : Bytes) (hs : F s) (h : (iterate it f s p).2.1 = .ok) : 1 ≤ (iterate it f s p).2.2 := by
  fun_induction iterate it f s p with
  | case1 => cases h
  | case2 f s p s' rc n hit => have ho := hF s p hs; rw [hit] at ho; subst h; exact ho
  | case3 f s p s' n hit r ih =>
    have ho := hF s p hs
    rw [hit] at ho
    show 1 ≤ n + (iterate it f s' (p.drop n)).2.2
    rcases ho with ho | ho
    · omega
    · have := ih ho h; omega

/-- the same for the decoder built from the machine and a state embedding -/
theorem progress_of_iterate {σ : Type} (it : σ → Bytes → Out σ) (F : σ → Prop) (hF : ∀ s p, F s → OutPos F (it s p))
    (μ : σ → Bytes → Nat) (frm : Node → σ) (tof : σ → Node) (hs : F (frm .none)) :
    ProgressFresh fun n q => (tof (iterate it (μ (frm n) q) (frm n) q).1, (iterate it (μ (frm n) q) (frm n) q).2) := by
  intro q n' k h
  have h2 := (Prod.mk.inj h).2
  have := iterate_progress it F hF _ _ q hs (by rw [h2])
  rw [h2] at this; exact this

theorem onCheck_pos {σ : Type} {F : σ → Prop} {tags : List Tag} {step : Nat} {tm lf : Int} {upd : Nat → σ}
    {k : CT → Out σ} {q : Bytes} (hk : ∀ ct, 1 ≤ ct.consumed → OutPos F (k ct)) :
    OutPos F (onCheck tags step tm lf upd k q) :=
  iteInduction (motive := OutPos F) (fun h => OutPos.ret (by simpa using h)) fun h =>
    hk _ ((checkTags_cons tags (some step) tm lf q).2.1 (by simpa using h))

theorem onTag_pos {σ : Type} {F : σ → Prop} {s : σ} {left : Int} {k : Tag → Nat → Out σ} {q : Bytes}
    (hk : ∀ tag tl, 1 ≤ tl → OutPos F (k tag tl)) : OutPos F (onTag s left k q) := by
  unfold onTag
  exact (winFetchTag_spec left q []).elim (fun _ _ h _ => OutPos.ret h) fun tag tl h => hk tag tl h.1

theorem onSkip_pos {σ : Type} {F : σ → Prop} {s : σ} {left : Int} {tl : Nat} {k : Nat → Out σ} {q : Bytes}
    (hk : ∀ n, OutPos F (k n)) : OutPos F (onSkip s left tl k q) := by
  unfold onSkip
  exact (winSkip_spec left q [] tl).elim (fun _ _ h _ => OutPos.ret h) fun _ n _ => hk n

/-- the member decoder called on a fresh structure -/
theorem onMember_pos {σ : Type} {F : σ → Prop} {d : Node → Bytes → Node × Rc × Nat} (hd : ProgressFresh d) {left : Int}
    {ok more fail : Node → Int → σ} {nf : Nat → Nat} {q : Bytes} :
    OutPos F (onMember d left .none ok more fail nf q) := by
  simp only [onMember]
  cases hrc : (callMember d left .none q).2.1 with
  | ok => exact Or.inl (hd _ (callMember d left .none q).1 _ (by rw [← callMember_ok_inner hrc, ← hrc]))
  | more => trivial
  | fail => trivial

/-- phase 0 of SEQUENCE / SET OF: RC_OK needs `ber_check_tags` to succeed, which consumes -/
theorem seqDec_progress (tags : List Tag) (es : List Elem) (fe : Int) (t2e : List T2M) (mdec : MDec) (tm : Int) :
    ProgressFresh (seqDec tags es fe t2e mdec tm) :=
  progress_of_iterate _ (fun s => s.ctx.phase = 0)
    (fun s p h => by rw [seqIt_eq, h]; exact onCheck_pos fun ct h => Or.inl h)
    (seqMeasure es.length) (SeqSt.ofNode es.length) SeqSt.toNode rfl

theorem setOfDec_progress (tags : List Tag) (el : Elem) (edec : Node → Bytes → Node × Rc × Nat) (tm : Int) :
    ProgressFresh (setOfDec tags el edec tm) :=
  progress_of_iterate _ (fun s => s.ctx.phase = 0)
    (fun s p h => by rw [setOfIt_eq, h]; exact onCheck_pos fun ct h => Or.inl h)
    setOfMeasure SetOfSt.ofNode SetOfSt.toNode rfl

/-- a constructed string falls into phase 1 without advancing over the tags and reads the TL again, which takes at
    least two octets -/
theorem ostrDec_progress (tags allTags : List Tag) (bits : Bool) (tm : Int) :
    ProgressFresh (ostrDec tags allTags bits tm) := by
  refine progress_of_iterate _ (fun s => s.ctx.phase = 0 ∨ (s.ctx.phase = 1 ∧ s.stack = [])) (fun s p h => ?_)
    ostrMeasure OS.ofNode OS.toNode (Or.inl rfl)
  rcases h with h | ⟨h, hs⟩
  · rw [ostrIt_eq, h]
    exact onCheck_pos fun ct hc =>
      iteInduction (motive := OutPos _) (fun _ => Or.inr (Or.inr ⟨rfl, rfl⟩)) fun _ => Or.inl hc
  · rw [ostrIt_eq, h, hs]
    show OutPos _ (ostrFetchPart (ostrEx tags allTags bits tm) s p)
    unfold ostrFetchPart
    refine (ostrFetch_spec s.selLeft p []).elim (fun _ _ h _ => OutPos.ret h) fun t n hfl => ?_
    show OutPos _ (ostrTlv _ s t)
    rcases ostrTlv_shape (ostrEx tags allTags bits tm) s t with ho | ⟨stk, c, m, ho, _, hm⟩ <;> rw [ho]
    · trivial
    · exact Or.inl (by omega)

/-- an untagged CHOICE looks at the tag in phase 1 and runs the alternative on a fresh structure in phase 2 -/
theorem choiceDec_progress (tags : List Tag) (es : List Elem) (xs : Int) (t2e : List T2M) (mdec : MDec) (tm : Int)
    (hmp : ∀ i, ProgressFresh (mdec i)) : ProgressFresh (choiceDec tags es xs t2e mdec tm) := by
  refine progress_of_iterate _ (fun s => s.ctx.phase ≤ 2 ∧ s.m = .none) (fun s p h => ?_)
    choiceMeasure ChoiceSt.ofNode ChoiceSt.toNode ⟨Nat.zero_le _, rfl⟩
  obtain ⟨hph, hm⟩ := h
  rw [choiceIt_eq]
  match s.ctx.phase, hph with
  | 0, _ =>
    exact iteInduction (motive := OutPos _) (fun _ => onCheck_pos fun ct h => Or.inl h)
      fun _ => Or.inr ⟨Nat.le_succ 1, hm⟩
  | 1, _ =>
    refine onTag_pos fun tag tl htl => ?_
    cases bsearchIdx (fun (e : T2M) => cmpTag tag e.tag) t2e (t2e.length + 1) 0 t2e.length with
    | some i => exact Or.inr ⟨Nat.le_refl _, hm⟩
    | none =>
      exact iteInduction (motive := OutPos _) (fun _ => trivial) fun _ => onSkip_pos fun n => by
        show 1 ≤ n + tl; omega
  | 2, _ => rw [hm]; exact onMember_pos (hmp _)
  | _ + 3, h => exact absurd h (by omega)

theorem decPrim_progress (tags : List Tag) (k : PKind) (tm : Int) : ProgressFresh (decPrim tags k tm) := by
  intro q n' c h
  rcases decPrim_shape tags k tm .none q with ⟨rc, hrc, e⟩ | ⟨_, n, e, hn, _⟩ <;> rw [e] at h
  · exact absurd (Prod.mk.inj (Prod.mk.inj h).2).1 hrc
  · rw [← (Prod.mk.inj (Prod.mk.inj h).2).2]; exact hn

/-- What the assembly proves of the decoder `d` of a descriptor tree: `consumed ≤ size`, progress from a fresh
    structure and, where the tree is in the domain (`dom`), the restart laws.  The three go by one recursion over the
    tree since they feed each other: the bound of a constructed decoder needs the bounds of its members, the laws of
    SET OF the progress of its element decoder, the progress of an untagged CHOICE that of its alternatives. -/
structure DecSpec (d : Node → Bytes → Node × Rc × Nat) (dom : Prop) : Prop where
  le : DecBound d
  progress : ProgressFresh d
  lawful : dom → LawfulRc (⟨d⟩ : Dec Node)

theorem DecSpec.mono {d : Node → Bytes → Node × Rc × Nat} {dom dom' : Prop} (h : DecSpec d dom) (hd : dom' → dom) :
    DecSpec d dom' :=
  ⟨h.le, h.progress, fun x => h.lawful (hd x)⟩

/-- `decAt` beyond the member table: RC_FAIL with nothing consumed -/
theorem constFail_spec : DecSpec (fun n _ => (n, Rc.fail, 0)) True where
  le _ _ := Nat.zero_le _
  progress _ _ _ := nofun
  lawful _ :=
    { consumed_le := fun _ _ => Nat.zero_le _
      resume := fun _ _ _ _ => nofun
      ok_stable := fun _ _ _ _ => nofun
      fail_stable := fun _ _ _ _ _ _ => rfl }

/-- the decoders of a leaf of the descriptor tree: OCTET STRING / BIT STRING and the primitive kinds -/
theorem decLeaf_spec (tags allTags : List Tag) (k : PKind) (tm : Int) : DecSpec (dec (.prim tags allTags k) tm) True := by
  by_cases hk : ∃ bits, k = .ostr bits
  · obtain ⟨bits, rfl⟩ := hk
    exact ⟨ostrDec_le tags allTags bits tm, ostrDec_progress tags allTags bits tm, fun _ =>
      ostrDec_lawfulRc tags allTags bits tm⟩
  · have e : dec (.prim tags allTags k) tm = decPrim tags k tm := by
      funext n bs; rw [dec]; exact fun bits h => hk ⟨bits, h⟩
    rw [e]
    exact ⟨decPrim_le tags k tm, decPrim_progress tags k tm, fun _ => lawfulRc_of_lawful _ (decPrim_lawful tags k tm)⟩

mutual
theorem dec_spec : ∀ (td : TD) (tm : Int), DecSpec (dec td tm) (inDomain td = true)
  | .prim tags allTags k, tm => (decLeaf_spec tags allTags k tm).mono fun _ => trivial
  | .seq tags ms es fe t2e, tm =>
    ⟨seqDec_le tags es fe t2e _ tm fun i => (decAt_spec ms es i).le, seqDec_progress tags es fe t2e _ tm, fun h => by
      simp only [inDomain, Bool.and_eq_true] at h
      exact seqDec_lawfulRc tags es fe t2e _ tm (fun i => (decAt_spec ms es i).lawful h.2)
        fun e he => by simpa using List.all_eq_true.mp h.1 e he⟩
  | .setOf tags e el, tm =>
    ⟨setOfDec_le tags el _ tm (dec_spec e el.tagMode).le, setOfDec_progress tags el _ tm, fun h =>
      setOfDec_lawfulRc tags el _ tm ((dec_spec e el.tagMode).lawful h) (dec_spec e el.tagMode).progress⟩
  | .choice tags ms es xs t2e, tm =>
    ⟨choiceDec_le tags es xs t2e _ tm fun i => (decAt_spec ms es i).le,
      choiceDec_progress tags es xs t2e _ tm fun i => (decAt_spec ms es i).progress, fun h =>
      choiceDec_lawfulRc tags es xs t2e _ tm fun i => (decAt_spec ms es i).lawful h⟩
theorem decAt_spec : ∀ (ms : List TD) (es : List Elem) (i : Nat), DecSpec (decAt ms es i) (inDomainL ms = true)
  | m :: _, e :: _, 0 => (dec_spec m e.tagMode).mono fun h => (Bool.and_eq_true _ _ ▸ h).1
  | _ :: ms, _ :: es, i + 1 => (decAt_spec ms es i).mono fun h => (Bool.and_eq_true _ _ ▸ h).2
  | [], _, _ => constFail_spec.mono fun _ => trivial
  | _ :: _, [], _ => constFail_spec.mono fun _ => trivial
end

theorem dec_le : ∀ (td : TD) (tm : Int) (n : Node) (bs : Bytes), (dec td tm n bs).2.2 ≤ bs.length :=
  fun td tm => (dec_spec td tm).le
theorem decAt_le : ∀ (ms : List TD) (es : List Elem) (i : Nat) (n : Node) (bs : Bytes),
    (decAt ms es i n bs).2.2 ≤ bs.length :=
  fun ms es i => (decAt_spec ms es i).le

theorem dec_progress : ∀ (td : TD) (tm : Int), ProgressFresh (dec td tm) := fun td tm => (dec_spec td tm).progress
theorem decAt_progress : ∀ (ms : List TD) (es : List Elem) (i : Nat), ProgressFresh (decAt ms es i) :=
  fun ms es i => (decAt_spec ms es i).progress

theorem dec_lawfulRc : ∀ (td : TD) (tm : Int), inDomain td = true → LawfulRc (⟨dec td tm⟩ : Dec Node) :=
  fun td tm => (dec_spec td tm).lawful
theorem decAt_lawfulRc : ∀ (ms : List TD) (es : List Elem), inDomainL ms = true →
    ∀ i, LawfulRc (⟨decAt ms es i⟩ : Dec Node) :=
  fun ms es h i => (decAt_spec ms es i).lawful h

end Asn1c.Proofs.BerStream
