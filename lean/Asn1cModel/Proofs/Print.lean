import Asn1cModel.Impl.Print
/-  parse ∘ print = id on the printed subset: lemmas, bottom-up.
    Each parser ends in a catch-all branch for "none of the keywords I look for".  That the printed
    continuation lands there: for each keyword pattern of the parser, `headNot.ne` gives as a hypothesis that the
    continuation is not of that form (`∀ r, rest ≠ kw k :: r`, with as many tokens as the pattern has), and with
    these at hand `simp only` with the parser's equations takes the catch-all branch. -/
namespace Asn1c.Proofs.Print
open Asn1c.Print Tok

/-- head of a token list is not one of the given keywords -/
def headNot (ks : List Kw) (r : List Tok) : Prop := ∀ k ∈ ks, r.head? ≠ some (kw k)

theorem headNot_cons {ks : List Kw} {t : Tok} {r : List Tok} (h : ∀ k, t = kw k → k ∉ ks) : headNot ks (t :: r) :=
  fun k hk e => h k (Option.some.inj e) hk

theorem headNot_cons_kw {ks : List Kw} {k : Kw} {r : List Tok} (h : k ∉ ks) : headNot ks (kw k :: r) :=
  headNot_cons fun _ e => Tok.kw.inj e ▸ h

theorem headNot_sub {ks ks' : List Kw} {r : List Tok} (h : headNot ks r) (hs : ∀ k ∈ ks', k ∈ ks) :
    headNot ks' r := fun k hk => h k (hs k hk)

theorem headNot.ne {ks : List Kw} {k : Kw} {r : List Tok} (h : headNot ks r) (hk : k ∈ ks) (r' : List Tok) :
    r ≠ kw k :: r' := by
  intro e; subst e; exact h k hk rfl

theorem parseVal_pVal (v : Val) : parseVal (pVal v) = some v := by cases v <;> rfl

theorem parseElem_print (e : Elem) (rest : List Tok) (h : headNot [.dotdot] rest) :
    parseElem (pElem e ++ rest) = some (e, rest) := by
  have hd : ∀ b r, rest ≠ kw .dotdot :: b :: r := fun _ _ => h.ne (by simp) _
  cases e <;> simp only [pElem, List.cons_append, List.nil_append, parseElem, parseVal_pVal]

theorem pMore_headNot (es : List Elem) {rest : List Tok} (h : headNot [.dotdot] rest) :
    headNot [.dotdot] (pMore es ++ rest) := by
  cases es with
  | nil => exact h
  | cons e es => exact headNot_cons_kw (by simp)

theorem parseMore_print : (es : List Elem) → (rest : List Tok) → (fuel : Nat) → (pMore es).length < fuel →
    headNot [.dotdot, .bar] rest → parseMore fuel (pMore es ++ rest) = some (es, rest)
  | _, _, 0, hf, _ => absurd hf (Nat.not_lt_zero _)
  | [], rest, f + 1, _, h => by
    have hb : ∀ r, rest ≠ kw .bar :: r := h.ne (by simp)
    simp only [pMore, List.nil_append, parseMore]
  | e :: es, rest, f + 1, hf, h => by
    simp only [pMore, List.cons_append, List.append_assoc, parseMore,
      parseElem_print e _ (pMore_headNot es (headNot_sub h (by simp))),
      parseMore_print es rest f (by simp [pMore] at hf; omega) h]

/-- an element set is always followed by ")" -/
theorem parseESet_print (s : ESet) (rest : List Tok) :
    parseESet (pESet s ++ kw .rparen :: rest) = some (s, kw .rparen :: rest) := by
  obtain ⟨first, more, ext⟩ := s
  unfold parseESet pESet
  simp only [List.append_assoc]
  have hm : headNot [.dotdot, .bar] ((if ext = true then [kw .comma, kw .dots] else []) ++ kw .rparen :: rest) := by
    cases ext <;> exact headNot_cons_kw (by simp)
  rw [parseElem_print first _ (pMore_headNot more (headNot_sub hm (by simp)))]
  simp only []
  rw [parseMore_print more _ _ (Nat.lt_succ_of_le (by simp)) hm]
  cases ext <;> rfl

/-- an element set starts with a value, never with a keyword the parsers branch on -/
theorem pESet_headNot (s : ESet) (tl : List Tok) : headNot [.size, .from_] (pESet s ++ tl) := by
  have hv : ∀ v r, headNot [.size, .from_] (pVal v :: r) := fun v r =>
    headNot_cons (by cases v <;> rintro _ ⟨⟩ <;> simp)
  obtain ⟨first, more, ext⟩ := s
  cases first <;> exact hv _ _

theorem parseOptCons_print (c : Option Cons) (rest : List Tok) (h : headNot [.lparen] rest) :
    parseOptCons (pOptCons c ++ rest) = some (c, rest) := by
  cases c with
  | none =>
    have hp : ∀ r, rest ≠ kw .lparen :: r := h.ne (by simp)
    simp only [pOptCons, List.nil_append, parseOptCons]
  | some c =>
    cases c with
    | value s =>
      have hs : ∀ r, pESet s ++ kw .rparen :: rest ≠ kw .size :: kw .lparen :: r :=
        fun _ => (pESet_headNot s _).ne (by simp) _
      have hf : ∀ r, pESet s ++ kw .rparen :: rest ≠ kw .from_ :: kw .lparen :: r :=
        fun _ => (pESet_headNot s _).ne (by simp) _
      simp only [pOptCons, pCons, List.cons_append, List.nil_append, List.append_assoc, parseOptCons, parseConsBody,
        parseESet_print s rest]
      rfl
    | size s | alpha s | sizeAlpha s a =>
      simp only [pOptCons, pCons, List.cons_append, List.nil_append, List.append_assoc, parseOptCons, parseConsBody,
        parseESet_print]
      rfl

theorem parseNamedItems_print : (l : List (String × Int)) → l ≠ [] → (rest : List Tok) → (fuel : Nat) →
    (pNamedItems l).length < fuel → parseNamedItems fuel (pNamedItems l ++ kw .rbrace :: rest) = some (l, rest)
  | _, _, _, 0, hf => absurd hf (Nat.not_lt_zero _)
  | [], hl, _, _, _ => absurd rfl hl
  | [(n, v)], _, rest, f + 1, _ => by simp [pNamedItems, parseNamedItems]
  | (n, v) :: y :: ys, _, rest, f + 1, hf => by
    have ih := parseNamedItems_print (y :: ys) (by simp) rest f (by simp [pNamedItems] at hf ⊢; omega)
    simp only [pNamedItems, List.cons_append, List.nil_append, parseNamedItems] at ih ⊢
    simp only [ih]

theorem parseNamed_print (l : List (String × Int)) (rest : List Tok) (h : headNot [.lbrace] rest) :
    parseNamed (pNamed l ++ rest) = some (l, rest) := by
  cases l with
  | nil =>
    have hb : ∀ r, rest ≠ kw .lbrace :: r := h.ne (by simp)
    simp only [pNamed, List.nil_append, parseNamed]
  | cons x xs =>
    simp only [pNamed, List.cons_append, List.append_assoc, parseNamed]
    exact parseNamedItems_print (x :: xs) (by simp) rest _ (Nat.lt_succ_of_le (by simp))

theorem parseEntry_print (e : EEntry) (rest : List Tok) (h : headNot [.lparen] rest) :
    parseEntry (pEntry e ++ rest) = some (e, rest) := by
  have hp : ∀ v r, rest ≠ kw .lparen :: num v :: kw .rparen :: r := fun _ _ => h.ne (by simp) _
  rcases e with ⟨n, _ | v⟩ | _ <;> simp only [pEntry, List.cons_append, List.nil_append, parseEntry]

theorem pEntry_headNot (e : EEntry) (tl : List Tok) : headNot [.rbrace] (pEntry e ++ tl) := by
  cases e with
  | dots => exact headNot_cons_kw (by simp)
  | item n v => cases v <;> exact headNot_cons (by rintro _ ⟨⟩)

theorem parseEntries_print : (es : List EEntry) → (rest : List Tok) → (fuel : Nat) → (pEntries es).length < fuel →
    parseEntries fuel (pEntries es ++ kw .rbrace :: rest) = some (es, rest)
  | _, _, 0, hf => absurd hf (Nat.not_lt_zero _)
  | [], rest, f + 1, _ => by simp [pEntries, parseEntries]
  | [e], rest, f + 1, _ => by
    have hb := (pEntry_headNot e (kw .rbrace :: rest)).ne (k := .rbrace) (by simp)
    simp only [pEntries, parseEntries, parseEntry_print e (kw .rbrace :: rest) (headNot_cons_kw (by simp))]
  | e :: e2 :: es, rest, f + 1, hf => by
    have ih := parseEntries_print (e2 :: es) rest f (by simp [pEntries] at hf ⊢; omega)
    have hp := parseEntry_print e (kw .comma :: (pEntries (e2 :: es) ++ kw .rbrace :: rest)) (headNot_cons_kw (by simp))
    have hb := (pEntry_headNot e (kw .comma :: (pEntries (e2 :: es) ++ kw .rbrace :: rest))).ne (k := .rbrace)
      (by simp)
    simp only [pEntries, List.append_assoc, List.cons_append] at ih ⊢
    simp only [parseEntries, hp, ih]

theorem parseMarker_print (m : Marker) (rest : List Tok) (h : headNot [.optional, .default_] rest) :
    parseMarker (pMarker m ++ rest) = some (m, rest) := by
  have ho : ∀ r, rest ≠ kw .optional :: r := h.ne (by simp)
  have hd : ∀ v r, rest ≠ kw .default_ :: v :: r := fun _ _ => h.ne (by simp) _
  cases m <;> simp only [pMarker, List.cons_append, List.nil_append, parseMarker, parseVal_pVal, Option.map_some]

/-- a tag is followed by a type, whose first token is none of these (`pTy_headNot`) -/
theorem parseTag_print (t : Option Tag) (toks : List Tok) (h : headNot [.lbrack, .implicit, .explicit] toks) :
    parseTag (pTag t ++ toks) = some (t, toks) := by
  have hb : ∀ r, toks ≠ kw .lbrack :: r := h.ne (by simp)
  -- after the "]" of a tag without a mode comes the first token of the type, neither IMPLICIT nor EXPLICIT
  have hi : ∀ r, toks ≠ kw .implicit :: r := h.ne (by simp)
  have he : ∀ r, toks ≠ kw .explicit :: r := h.ne (by simp)
  rcases t with _ | ⟨cls, n, _ | _ | _⟩
  · simp only [pTag, List.nil_append, parseTag]
  · cases cls <;> simp only [pTag, List.cons_append, List.nil_append, parseTag]
  · cases cls <;> rfl
  · cases cls <;> rfl

theorem parseSizeOf_print (sz : Option ESet) (rest : List Tok) :
    parseSizeOf (pSizeOf sz ++ kw .of_ :: rest) = some (sz, kw .of_ :: rest) := by
  cases sz with
  | none => rfl
  | some s =>
    simp only [pSizeOf, List.cons_append, List.nil_append, List.append_assoc, parseSizeOf]
    rw [parseESet_print s (kw .rparen :: kw .of_ :: rest)]

/-- what may follow a type: not "(" and not "{" -/
def okFollow (r : List Tok) : Prop := headNot [.lparen, .lbrace] r

theorem pTy_headNot (t : Ty) (tl : List Tok) : headNot [.lbrack, .implicit, .explicit] (pTy t ++ tl) := by
  cases t <;> rw [pTy]
  case constr k cs => cases k <;> exact headNot_cons_kw (by simp)
  case listOf isSet sz tag el => cases isSet <;> exact headNot_cons_kw (by simp)
  all_goals exact headNot_cons (by rintro _ ⟨⟩ <;> simp)

theorem pOptCons_headNot_lbrace (c : Option Cons) (rest : List Tok) (h : okFollow rest) :
    headNot [.lbrace] (pOptCons c ++ rest) := by
  cases c with
  | none => simpa [pOptCons] using headNot_sub h (by simp)
  | some c => cases c <;> simp only [pOptCons, pCons, List.cons_append] <;> exact headNot_cons_kw (by simp)

/-- after a member: "}" when it was the last one, else "," and the remaining members -/
theorem pSep_pComps (rest' : Comps) (tl : List Tok) :
    (rest' = .nil ∧ pSep rest' ++ (pComps rest' ++ kw .rbrace :: tl) = kw .rbrace :: tl) ∨
    (rest'.isNil = false ∧
      pSep rest' ++ (pComps rest' ++ kw .rbrace :: tl) = kw .comma :: (pComps rest' ++ kw .rbrace :: tl)) := by
  cases rest' <;> simp [pSep, pComps, Comps.isNil]

theorem pSep_headNot {ks : List Kw} (h₁ : Kw.comma ∉ ks) (h₂ : Kw.rbrace ∉ ks) (rest' : Comps) (tl : List Tok) :
    headNot ks (pSep rest' ++ (pComps rest' ++ kw .rbrace :: tl)) := by
  rcases pSep_pComps rest' tl with ⟨_, h⟩ | ⟨_, h⟩ <;> rw [h]
  · exact headNot_cons_kw h₂
  · exact headNot_cons_kw h₁

theorem closeBrace_some {α} (f : α → Ty) (x : α) (r : List Tok) :
    closeBrace f (some (x, kw .rbrace :: r)) = some (f x, r) := rfl

mutual
theorem parseTy_print : (t : Ty) → (fuel : Nat) → (rest : List Tok) → (pTy t).length < fuel → okFollow rest →
    parseTy fuel (pTy t ++ rest) = some (t, rest)
  | _, 0, _, hf, _ => absurd hf (Nat.not_lt_zero _)
  | .prim b c, f + 1, rest, hf, hr => by
    simp only [pTy, List.cons_append, parseTy, parseOptCons_print c rest (headNot_sub hr (by simp)), Option.map_some]
  | .integer named c, f + 1, rest, hf, hr => by
    simp only [pTy, List.cons_append, List.append_assoc, parseTy,
      parseNamed_print named _ (pOptCons_headNot_lbrace c rest hr),
      parseOptCons_print c rest (headNot_sub hr (by simp)), Option.map_some]
  | .enumerated es, f + 1, rest, hf, hr => by
    simp only [pTy, List.cons_append, List.append_assoc, List.nil_append, parseTy]
    rw [parseEntries_print es rest _ (Nat.lt_succ_of_le (by simp))]; rfl
  | .ref n, f + 1, rest, hf, hr => by simp [pTy, parseTy]
  | .constr k cs, f + 1, rest, hf, hr => by
    have hlen : (pComps cs).length < f := by simp [pTy] at hf; omega
    have ih := parseComps_print cs f rest hlen
    cases k <;>
      simp only [pTy, pKind, List.cons_append, List.append_assoc, List.nil_append, parseTy, ih,
        closeBrace_some]
  | .listOf isSet sz tag el, 1, rest, hf, hr => by simp [pTy] at hf
  | .listOf isSet sz tag el, f + 2, rest, hf, hr => by
    have hof : parseOf (f + 1) isSet (pSizeOf sz ++ kw .of_ :: (pTag tag ++ (pTy el ++ rest)))
        = some (.listOf isSet sz tag el, rest) := by
      simp only [parseOf, parseSizeOf_print, parseTag_print tag _ (pTy_headNot el rest),
        parseTy_print el f rest (by simp [pTy] at hf; omega) hr]
    -- "SEQUENCE" / "SET" is followed by "(" or "OF" here, not by "{": `simp` needs this to choose the branch
    have hnb : ∀ r', pSizeOf sz ++ kw .of_ :: (pTag tag ++ (pTy el ++ rest)) ≠ kw .lbrace :: r' := by
      cases sz <;> (intro r' e; cases e)
    cases isSet <;> simp only [pTy, List.cons_append, List.append_assoc, parseTy, Bool.false_eq_true, if_false,
      if_true] <;> exact hof

theorem parseComps_print : (cs : Comps) → (fuel : Nat) → (rest : List Tok) → (pComps cs).length < fuel →
    parseComps fuel (pComps cs ++ kw .rbrace :: rest) = some (cs, kw .rbrace :: rest)
  | _, 0, _, hf => absurd hf (Nat.not_lt_zero _)
  | .nil, f + 1, rest, hf => by simp [pComps, parseComps]
  | .ext rest', f + 1, rest, hf => by
    simp only [pComps, List.cons_append, List.append_assoc, parseComps]
    rcases pSep_pComps rest' rest with ⟨rfl, hshape⟩ | ⟨hn, hshape⟩
    · rw [hshape]   -- the last member: "}" follows
    · rw [hshape]   -- else ",", and the remaining members
      simp only [parseComps_print rest' f rest (by simp [pComps] at hf; omega), hn, Bool.false_eq_true, if_false]
  | .comp id tag t m rest', f + 1, rest, hf => by
    -- what follows the member's type: marker tokens, then "," or "}"
    have hT : okFollow (pMarker m ++ (pSep rest' ++ (pComps rest' ++ kw .rbrace :: rest))) := by
      cases m with
      | none => exact pSep_headNot (by simp) (by simp) rest' rest
      | optional => exact headNot_cons_kw (by simp)
      | dflt v => exact headNot_cons_kw (by simp)
    simp only [pComps, List.cons_append, List.append_assoc, parseComps, parseTag_print tag _ (pTy_headNot t _),
      parseTy_print t f _ (by simp [pComps] at hf; omega) hT,
      parseMarker_print m _ (pSep_headNot (by simp) (by simp) rest' rest)]
    rcases pSep_pComps rest' rest with ⟨rfl, hshape⟩ | ⟨hn, hshape⟩
    · rw [hshape]
    · rw [hshape]
      simp only [parseComps_print rest' f rest (by simp [pComps] at hf; omega), hn, Bool.false_eq_true, if_false]
end

theorem pAssignments_head (l : List Assignment) (rest : List Tok) :
    okFollow (pAssignments l ++ kw .end_ :: rest) := by
  cases l with
  | nil => exact headNot_cons_kw (by simp)
  | cons a r => intro k _; simp [pAssignments]

theorem parseAssignments_print : (l : List Assignment) → (rest : List Tok) → (fuel : Nat) →
    (pAssignments l).length < fuel → parseAssignments fuel (pAssignments l ++ kw .end_ :: rest) = some (l, rest)
  | _, _, 0, hf => absurd hf (Nat.not_lt_zero _)
  | [], rest, f + 1, _ => by simp [pAssignments, parseAssignments]
  | ⟨name, tag, ty⟩ :: r, rest, f + 1, hf => by
    have ih := parseAssignments_print r rest f (by simp [pAssignments] at hf; omega)
    have hty := parseTy_print ty ((pTy ty ++ (pAssignments r ++ kw .end_ :: rest)).length + 1) _
      (Nat.lt_succ_of_le (by simp)) (pAssignments_head r rest)
    simp only [pAssignments, List.cons_append, List.append_assoc, parseAssignments,
      parseTag_print tag _ (pTy_headNot ty _), hty, ih]

theorem parseTagDefault_print (td : Option TagDefault) (rest : List Tok) :
    parseTagDefault (pTagDefault td ++ kw .assign :: rest) = some (td, kw .assign :: rest) := by
  cases td with
  | none => rfl
  | some d => cases d <;> rfl

theorem parse_print (m : Module) : parse (print m) = some m := by
  obtain ⟨name, td, types⟩ := m
  unfold print parse
  simp only [List.append_assoc, List.cons_append]
  rw [parseTagDefault_print td]
  simp only []
  simp only [parseAssignments_print types [] ((pAssignments types ++ [kw .end_]).length + 1)
    (Nat.lt_succ_of_le (by simp))]

end Asn1c.Proofs.Print
