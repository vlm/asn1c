import Asn1cModel.Proofs.Time
/- The fraction part of GeneralizedTime (C17).
   Writing, `asn_time2GT_frac`: `fracLoop_spec` says that the digit loop started at `fbase = 10^k` emits a prefix of
   the `k+1` decimal digits of `frac_value` and leaves out only zeros; with it `fracText_eq_fracCanon` identifies the
   "Deal with fractions" block with the canonical fraction text (digits without trailing zeros, no '.' when empty).
   Reading, `asn_GT2time_frac`: `gtFracLoop_digits` says that on at most nine digits the loop takes every digit (the
   `INT_MAX/10` cut-off is not reached) and stops at the 'Z'; `fracDigits_numeral` and `stripZeros_split` turn
   the value read back into the one written.  Property theorems: Props/C17.lean. -/
namespace Asn1c.Proofs.Time
open Asn1c Asn1c.Impl.Time Asn1c.Spec.Time

theorem digit_mod_pow (fv n m : Nat) (h : n < m) : fv % 10 ^ m / 10 ^ n % 10 = fv / 10 ^ n % 10 := by
  obtain ⟨c, rfl⟩ : ∃ c, m = n + 1 + c := ⟨m - n - 1, by omega⟩
  rw [show 10 ^ (n + 1 + c) = 10 ^ n * (10 * 10 ^ c) by rw [Nat.pow_add, Nat.pow_succ, Nat.mul_assoc]]
  rw [Nat.mod_mul_right_div_self, Nat.mod_mul_right_mod]

theorem fracDigits_mod (n m fv : Nat) (h : n ≤ m) : fracDigits n (fv % 10 ^ m) = fracDigits n fv := by
  induction n with
  | zero => rfl
  | succ n ih =>
    simp only [fracDigits]
    rw [digit_mod_pow _ _ _ (by omega), ih (by omega)]

theorem stripZeros_append_zeros (l : List Nat) (j : Nat) :
    stripZeros (l ++ List.replicate j 48) = stripZeros l := by
  unfold stripZeros
  rw [List.reverse_append, List.reverse_replicate,
    List.dropWhile_append_of_pos fun a ha => decide_eq_true (List.eq_of_mem_replicate ha)]

theorem div_pow_lt {fv k : Nat} : fv / 10 ^ k < 10 ↔ fv < 10 ^ (k + 1) := by
  rw [Nat.div_lt_iff_lt_mul (Nat.pow_pos (by decide)), Nat.mul_comm, ← Nat.pow_succ]

/-- with `fbase = 10^k`, a value that fits `k+1` digits and enough room, the loop never aborts and emits a
    prefix of the `k+1` digits of the value; what it leaves out are zeros -/
theorem fracLoop_spec (k room fv : Nat) (h : fv < 10 ^ (k + 1)) (hr : k + 1 ≤ room) :
    ∃ ds j, fracLoop k room fv = some ds ∧ ds ++ List.replicate j 48 = fracDigits (k + 1) fv := by
  fun_induction fracLoop k room fv with
  | case1 _ fv h9 => omega
  | case2 _ fv h9 => exact ⟨_, 0, rfl, by simp [fracDigits]; omega⟩
  | case3 k room fv digit hd => exact absurd (div_pow_lt.mpr h) (by omega)
  | case4 k room fv digit hd hc ih =>
    -- the leading digit is `fv / 10^(k+1)`; the digits after it are those of `fv % 10^(k+1)`
    obtain ⟨ds, j, e1, e2⟩ := ih (Nat.mod_lt _ (Nat.pow_pos (by decide))) (by omega)
    rw [e1, fracDigits, ← fracDigits_mod (k + 1) (k + 1) fv (Nat.le_refl _), ← e2, Nat.mod_eq_of_lt (by omega)]
    exact ⟨_, j, rfl, rfl⟩
  | case5 k room fv digit hd hc =>
    rw [fracDigits, ← fracDigits_mod (k + 1) (k + 1) fv (Nat.le_refl _), show fv % 10 ^ (k + 1) = 0 by omega,
      fracDigits_zero, Nat.mod_eq_of_lt (by omega)]
    exact ⟨_, k + 1, rfl, rfl⟩

theorem fracLoop_none (k room fv : Nat) (h : 10 ^ (k + 1) ≤ fv) : fracLoop k room fv = none := by
  have hd : ¬ fv / 10 ^ k < 10 := mt div_pow_lt.mp (Nat.not_lt.mpr h)
  cases k with
  | zero => rw [fracLoop, if_pos (by omega)]
  | succ k => rw [fracLoop]; exact if_pos (by omega)

theorem fracText_zero (fd : Int) : fracText 0 fd = [] := by simp [fracText]

theorem fracText_no_digits (fv : Int) : fracText fv 0 = [] := by simp [fracText]

/-- the canonical fraction strips trailing zeros as the writer does -/
theorem fracCanon_eq (n d : Nat) : fracCanon n d =
    if stripZeros (fracDigits d n) = [] then [] else 0x2e :: stripZeros (fracDigits d n) := rfl

theorem fracCanon_zero (d : Nat) : fracCanon 0 d = [] := by
  simp [fracCanon, fracDigits_zero]

/-- for 1..9 `frac_digits` and a positive `frac_value` neither scaling loop changes anything: the block
    prints what the digit loop yields, without its trailing zeros -/
theorem fracText_succ (n k : Nat) (hn : 0 < n) (hk : k ≤ 8) :
    fracText (n : Int) ((k + 1 : Nat) : Int) =
      match fracLoop k 9 n with
      | none => []
      | some ds => if stripZeros ds = [] then [] else 0x2e :: stripZeros ds := by
  unfold fracText
  rw [if_pos (by omega)]
  simp only
  rw [if_neg (by omega), if_neg (by omega), show (((k + 1 : Nat) : Int) - 1).toNat = k by omega,
    Int.toNat_natCast]
  rfl

/-- the "Deal with fractions" block of `asn_time2GT_frac` prints the fraction `n / 10^d` (at most nine digits,
    `n < 10^d`) canonically: '.' and the `d` digits without trailing zeros, and nothing at all when `n = 0` -/
theorem fracText_eq_fracCanon (n d : Nat) (hd9 : d ≤ 9) (hn : n < 10 ^ d) :
    fracText (n : Int) (d : Int) = fracCanon n d := by
  by_cases hn0 : n = 0
  · subst hn0; rw [fracCanon_zero]; exact fracText_zero _
  cases d with
  | zero => simp at hn; omega
  | succ k =>
    obtain ⟨ds, j, e1, e2⟩ := fracLoop_spec k 9 n hn (by omega)
    rw [fracText_succ n k (by omega) (by omega), e1, fracCanon_eq, ← e2, stripZeros_append_zeros]

theorem gtCanon_dropLast (Y M D h m s : Nat) : (gtCanon Y M D h m s).dropLast = gtDigits14 Y M D h m s :=
  List.dropLast_concat

theorem digitsValAcc_nil (acc : Nat) : digitsValAcc acc [] = acc := rfl
theorem digitsValAcc_cons (acc c : Nat) (r : List Nat) :
    digitsValAcc acc (c :: r) = digitsValAcc (acc * 10 + (c - 48)) r := by
  unfold digitsValAcc; rw [List.foldl_cons]

theorem gtFracLoop_stop (fv fd : Int) (rest : Bytes) : gtFracLoop fv fd (0x5a :: rest) = (fv, fd, 0x5a :: rest) := by
  rw [gtFracLoop, if_neg (by omega)]

theorem gtFracLoop_step (fv fd : Int) (c : Nat) (r : Bytes) (hc : 48 ≤ c ∧ c ≤ 57) (hfv : fv < 214748364) :
    gtFracLoop fv fd (c :: r) = gtFracLoop (fv * 10 + ((c : Int) - 0x30)) (fd + 1) r := by
  rw [gtFracLoop, if_pos (by omega), if_pos hfv]

/-- the fraction loop on at most `9 - k` digits after a `k`-digit value: every digit is taken
    (the `fvalue < INT_MAX/10` cut-off is not reached) and the loop stops at the 'Z' -/
theorem gtFracLoop_digits (rest : Bytes) : ∀ (ds : List Nat) (k fv : Nat) (fd : Int),
    (∀ c ∈ ds, 48 ≤ c ∧ c ≤ 57) → fv < 10 ^ k → k + ds.length ≤ 9 →
    gtFracLoop (fv : Int) fd (ds ++ 0x5a :: rest) = (((digitsValAcc fv ds : Nat) : Int), fd + ds.length, 0x5a :: rest) := by
  intro ds
  induction ds with
  | nil =>
    intro k fv fd _ _ _
    simp only [List.nil_append, digitsValAcc_nil, List.length_nil]
    rw [gtFracLoop_stop]
    simp
  | cons c r ih =>
    intro k fv fd hds hfv hk
    have hc := hds c (List.mem_cons_self)
    simp only [List.length_cons] at hk
    have h8 : 10 ^ k ≤ 10 ^ 8 := Nat.pow_le_pow_right (by decide) (by omega)
    have e8 : (10 : Nat) ^ 8 = 100000000 := by decide
    rw [List.cons_append, gtFracLoop_step _ _ _ _ hc (by omega)]
    have hcast : (fv : Int) * 10 + ((c : Int) - 48) = ((fv * 10 + (c - 48) : Nat) : Int) := by omega
    rw [hcast, ih (k + 1) (fv * 10 + (c - 48)) (fd + 1) (fun x hx => hds x (List.mem_cons_of_mem _ hx))
      (by rw [Nat.pow_succ]; omega) (by omega)]
    simp only [digitsValAcc_cons, List.length_cons]
    congr 2
    push_cast; omega

theorem gtFracLoop_canon (ds : List Nat) (rest : Bytes) (hds : ∀ c ∈ ds, 48 ≤ c ∧ c ≤ 57) (hlen : ds.length ≤ 9) :
    gtFracLoop 0 0 (ds ++ 0x5a :: rest) = (((digitsVal ds : Nat) : Int), (ds.length : Int), 0x5a :: rest) := by
  have := gtFracLoop_digits rest ds 0 0 0 hds (by decide) (by omega)
  simpa [digitsVal] using this

theorem stripZeros_split (l : List Nat) : ∃ j, l = stripZeros l ++ List.replicate j 48 := by
  obtain ⟨j, h⟩ : ∃ j, l.reverse.takeWhile (· = 48) = List.replicate j 48 :=
    ⟨_, List.eq_replicate_of_mem fun b hb => of_decide_eq_true (List.all_eq_true.mp List.all_takeWhile b hb)⟩
  refine ⟨j, ?_⟩
  rw [← List.reverse_replicate, ← h, stripZeros, ← List.reverse_append, List.takeWhile_append_dropWhile,
    List.reverse_reverse]

theorem digitsValAcc_zeros (a : Nat) (l : List Nat) (j : Nat) :
    digitsValAcc a (l ++ List.replicate j 48) = digitsValAcc a l * 10 ^ j := by
  induction j generalizing a l with
  | zero => simp
  | succ j ih =>
    rw [List.replicate_succ, show l ++ 48 :: List.replicate j 48 = (l ++ [48]) ++ List.replicate j 48 by simp, ih]
    unfold digitsValAcc
    rw [List.foldl_append, List.foldl_cons, List.foldl_nil, Nat.pow_succ]
    simp only [Nat.sub_self, Nat.add_zero]
    rw [Nat.mul_assoc, Nat.mul_comm 10]

theorem fracDigits_numeral (d n : Nat) :
    (fracDigits d n).length = d ∧ (∀ c ∈ fracDigits d n, 48 ≤ c ∧ c ≤ 57) ∧
      ∀ a, digitsValAcc a (fracDigits d n) = a * 10 ^ d + n % 10 ^ d := by
  induction d with
  | zero =>
    exact ⟨rfl, fun c hc => absurd hc List.not_mem_nil, fun a => by simp [fracDigits, digitsValAcc_nil, Nat.mod_one]⟩
  | succ d ih =>
    obtain ⟨hl, hr, hv⟩ := ih
    refine ⟨by rw [fracDigits, List.length_cons, hl], fun c hc => ?_, fun a => ?_⟩
    · rcases List.mem_cons.mp hc with rfl | hc
      · omega
      · exact hr c hc
    · rw [fracDigits, digitsValAcc_cons, hv, Nat.pow_succ, Nat.mod_mul]
      rw [show 48 + n / 10 ^ d % 10 - 48 = n / 10 ^ d % 10 by omega]
      rw [Nat.add_mul, Nat.mul_assoc, Nat.mul_comm 10, Nat.mul_comm (n / 10 ^ d % 10)]
      omega

end Asn1c.Proofs.Time
