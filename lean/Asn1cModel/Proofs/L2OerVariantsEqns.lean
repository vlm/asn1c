import Asn1cModel.L2.OerVariants
/-
  One defining equation of each function of the variant OER encoder (`L2/OerVariants.lean`): `encV` on a SET OF,
  the list functions on the empty list; asked for upstream of Proofs/L2OerVariants for the reason given in
  Proofs/L2OerEqns.
-/
namespace Asn1c.Proofs.L2OerVariants
open Asn1c Asn1c.L2 Asn1c.L2.Oer Asn1c.L2.OerVar

/-- BASIC-OER does not sort: a SET OF is encoded like a SEQUENCE OF -/
theorem encV_setOf (e : OTy) (vs : List Val) (s : VSt) :
    encV (.setOf e) (.list vs) s = encV (.seqOf e) (.list vs) s := by rw [encV, encV]

theorem encRootV_nil (s : VSt) : encRootV [] [] [] s = some ([], [], s) := by rw [encRootV]

theorem encAddsV_nil (s : VSt) : encAddsV [] [] [] s = some ([], [], s) := by rw [encAddsV]

theorem encAltV_nil (i : Nat) (v : Val) (s : VSt) : encAltV [] i v s = none := by rw [encAltV]

end Asn1c.Proofs.L2OerVariants
