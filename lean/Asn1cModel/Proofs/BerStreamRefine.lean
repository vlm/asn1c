import Asn1cModel.Proofs.BerStream
import Asn1cModel.L2.Der
import Asn1cModel.Proofs.Integer
/-
  Refinement: on primitive types with a one-tag chain the streaming C decoder (Impl/BerStream.lean) agrees with the
  reference BER decoder of L2 (`decBER`) whenever the latter accepts.
-/
namespace Asn1c.Proofs.BerStream
open Asn1c Asn1c.Impl.BerTlv Asn1c.Impl.Restart Asn1c.Impl.BerStream Asn1c.L2

/-- the C storage of a primitive value as an abstract L2 value -/
def pvVal : PVal → Val
  | .bool b => .bool (b != 0)
  | .null => .null
  | .int z => .int z
  | .bytes bs => .octets bs

theorem fetchLength_prim_nonneg (bs : Bytes) (len : Int) (ll : Nat) (h : fetchLength false bs = .ok len ll) : 0 ≤ len :=
  ((Asn1c.Proofs.BerTlv.fetchLength_ext false bs []).out h).2.2.2 rfl

/-- `ber_check_tags` on a one-tag primitive chain, in terms of the TL readers -/
theorem checkTags_single_prim (t : Tag) (bs : Bytes) (tl ll : Nat) (len : Int)
    (ht : fetchTag bs = .ok t tl) (hc : isConstructed (bs.headD 0) = false)
    (hl : fetchLength false (bs.drop tl) = .ok len ll) :
    checkTags [t] none 0 0 bs = ⟨.ok, tl + ll, 1, len, 0⟩ := by
  have hlen := fetchLength_prim_nonneg _ len ll hl
  have hne : (len == -1) = false := by simp only [beq_eq_false_iff_ne, ne_eq]; omega
  have hpos : ¬ len + tl + ll < 0 := by omega
  suffices h : checkTagsRaw [t] none 0 0 bs = ⟨.ok, tl + ll, 1, len, 0⟩ by unfold checkTags; rw [h]; rfl
  -- one turn of the loop: `tagno = 0 < 1 = tags_count`, no limit yet, no indefinite length seen
  show ctLoop [t] 0 0 false 1 0 0 (-1) 0 0 (-1) 0 bs = _
  unfold ctLoop
  simp only [ht, hc, hl]
  simp [ctTagBad, ctFormBad, b2i, hne, hpos, ctLoop, ctRet]

/-- the primitive kinds whose C decoder is compared with the reference decoder -/
def kindOf : Prim → Option PKind
  | .boolean => some .boolean
  | .null => some .null
  | .integer => some (.nint false)
  | .enumerated => some (.nint false)
  | _ => none

theorem interp_prim_single (t : Tag) (p : Prim) (k : PKind) (hk : kindOf p = some k) (x : Tlv) (v : Val)
    (h : interp (.prim [t] p) x = some v) : ∃ form c, x = .prim t form c ∧ L2.decPrim p (.prim t form c) = some v := by
  simp only [interp, unwrapTags, List.reverse_cons, List.reverse_nil, List.nil_append, unwrapAround] at h
  by_cases ht : x.tag = t
  · rw [if_pos ht] at h
    cases x with
    | prim tag form c => exact ⟨form, c, by rw [← ht]; rfl, ht ▸ h⟩
    | cons tag form cs => cases p <;> cases hk <;> cases h   -- none of the four kinds reads a constructed node
  · rw [if_neg ht] at h; cases h

theorem parseTlv_prim (fuel : Nat) (bs : Bytes) (t : Tag) (form : Nat) (c r : Bytes)
    (h : parseTlv fuel bs = .ok (.prim t form c) r) :
    ∃ tl ll len, fetchTag bs = .ok t tl ∧ isConstructed (bs.headD 0) = false ∧
      fetchLength false (bs.drop tl) = .ok len ll ∧ 0 ≤ len ∧ tl + ll + len.toNat ≤ bs.length ∧
      c = (bs.drop (tl + ll)).take len.toNat ∧ r = (bs.drop (tl + ll)).drop len.toNat := by
  revert h
  -- of the twelve ways through `parseTlv`, one ends in a primitive node
  fun_cases parseTlv fuel bs <;> intro h <;> try cases h
  next tl len ll hneg _ _ hl _ hbody hc ht =>
    have hc : isConstructed (bs.headD 0) = false := Bool.eq_false_iff.mpr hc
    have htl := fetchTag_le ht
    have hll := fetchLength_le hl
    have hbody : ¬ (bs.drop (tl + ll)).length < len.toNat := hbody
    simp only [List.length_drop] at hll hbody
    exact ⟨tl, ll, len, ht, hc, hc ▸ hl, by omega, by omega, rfl, rfl⟩

/-- after the tags of a one-tag chain, the value conversion of the C decoder stores what `L2.decPrim` makes of the
    same content octets -/
theorem primTail_refines (p : Prim) (k : PKind) (hk : kindOf p = some k) (t : Tag) (form cons : Nat) (len : Int)
    (rest : Bytes) (hlen : 0 ≤ len) (hle : len.toNat ≤ rest.length) (hwf : Bytes.wf rest) (v : Val)
    (hd : L2.decPrim p (.prim t form (rest.take len.toNat)) = some v) (hfit : ∀ z, v = .int z → Asn1c.Spec.fitsS64 z) :
    ∃ pv, primTail k none cons len rest = (.prim (some pv), .ok, cons + len.toNat) ∧ pvVal pv = v := by
  have hnot : ¬ len > (rest.length : Int) := by omega
  have hcwf : Bytes.wf (rest.take len.toNat) := fun y hy => hwf y (List.mem_of_mem_take hy)
  generalize hc : rest.take len.toNat = c at hd hcwf
  -- the kinds with a `kindOf`: BOOLEAN, NULL, then INTEGER and ENUMERATED, which are stored alike
  cases p <;> simp only [kindOf, Option.some.injEq, reduceCtorEq] at hk <;> subst hk
  · rw [primTail_enough .boolean nofun _ _ _ _ hnot, hc]
    match c, hd with
    | [b], hd =>
      cases hd
      exact ⟨.bool (boolValue [b]), rfl, by by_cases hb0 : b = 0 <;> simp [pvVal, boolValue, hb0]⟩
  · match c, hd with
    | [], hd =>
      cases hd
      have : len = 0 := by have := congrArg List.length hc; simp only [List.length_take, List.length_nil] at this; omega
      subst this; exact ⟨.null, rfl, rfl⟩
  all_goals
    rw [primTail_enough (.nint false) nofun _ _ _ _ hnot, hc]
    match c, hd with
    | b :: cs, hd =>
      cases hd
      refine ⟨.int (Asn1c.Spec.twosVal (b :: cs)), ?_, rfl⟩
      simp only [primBody, Asn1c.Proofs.Integer.INTEGER2long_spec _ hcwf, if_pos (hfit _ rfl)]

/-- **refinement (primitive types with one tag)**: whenever the reference BER decoder of L2 accepts a
    BOOLEAN / NULL / INTEGER / ENUMERATED value (the integer fitting `long`), the streaming C decoder started
    on a fresh structure answers RC_OK, has consumed exactly what the reference decoder consumed, and
    stores the same value -/
theorem prim_refines_decBER (t : Tag) (p : Prim) (k : PKind) (hk : kindOf p = some k) (fuel : Nat) (bs : Bytes)
    (hwf : Bytes.wf bs) (v : Val) (rest : Bytes) (h : decBER fuel (.prim [t] p) bs = .ok v rest)
    (hfit : ∀ z, v = .int z → Asn1c.Spec.fitsS64 z) :
    ∃ pv, dec (.prim [t] [t] k) 0 .none bs = (.prim (some pv), .ok, bs.length - rest.length) ∧ pvVal pv = v := by
  unfold decBER at h
  cases hp : parseTlv fuel bs with
  | more | fail => rw [hp] at h; cases h
  | ok x r =>
    cases hi : interp (.prim [t] p) x with
    | none => simp only [hp, hi] at h; cases h
    | some v' =>
      simp only [hp, hi, PRes.ok.injEq] at h
      obtain ⟨rfl, rfl⟩ := h
      -- the reference decoder's side: one primitive TLV with tag `t`, read by the TL readers
      obtain ⟨form, c, rfl, hd⟩ := interp_prim_single t p k hk x _ hi
      obtain ⟨tl, ll, len, ht, hc, hl, hlen, hle, rfl, rfl⟩ := parseTlv_prim fuel bs t form c _ hp
      -- the C decoder's side: `ber_check_tags` reads the same TL, and the value conversions agree
      have hct := checkTags_single_prim t bs tl ll len ht hc hl
      obtain ⟨pv, hpv, hv⟩ := primTail_refines p k hk t form (tl + ll) len (bs.drop (tl + ll)) hlen
        (by rw [List.length_drop]; omega) (fun y hy => hwf y (List.mem_of_mem_drop hy)) _ hd hfit
      refine ⟨pv, ?_, hv⟩
      have e : dec (.prim [t] [t] k) 0 .none bs = decPrim [t] k 0 .none bs := by cases p <;> cases hk <;> rfl
      rw [e, decPrim_of_ok (by rw [hct]), hct]
      refine hpv.trans ?_
      simp only [List.length_drop, Prod.mk.injEq, true_and]
      omega

end Asn1c.Proofs.BerStream
