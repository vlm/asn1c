import Asn1cModel.Base
/-
  The algebra of the list functions of `Base`, in the order of their definitions, behind two list principles: octets
  (`Bytes.wf`, `ofBE`, `toBEn`, then `toBE`, which is `toBEn` at the width of the number: `toBE_eq_toBEn`), bits
  (`bitsVal`, `natBits`), octets as bits (`bytesToBits`; `bytesToBits_toBEn` is the one induction that joins the two
  halves), `bitsToBytes`, and last the two spellings octet-level C code has (`ofBE_window`, `ite_pad`).
  `ofBE`/`toBEn` and `bitsVal`/`natBits` are inverse pairs, and range, injectivity and congruence are read off the
  pair.  `ofBE` and `bitsVal` carry an accumulator: a lemma is stated for any accumulator where the induction needs it
  and for `0` where it is used.  Core Lean only.

  The lemmas stand in the namespaces of the modules that continue them, under which the rest of the development
  names them: `Asn1c.Proofs.Integer` (`Bytes.wf`, `ofBE`, `toBEn`), `Asn1c.Proofs.Real` (`ofBE` on zero octets,
  `toBE`), `Asn1c.Proofs.PerSupport` (everything about bits, and the two C spellings).
-/
namespace Asn1c.Proofs.Integer
open Asn1c

theorem snoc_induction {α : Type} {P : List α → Prop} (nil : P []) (snoc : ∀ l x, P l → P (l ++ [x])) :
    ∀ l, P l := by
  intro l
  rw [← List.reverse_reverse l]
  induction l.reverse with
  | nil => exact nil
  | cons x xs ih => rw [List.reverse_cons]; exact snoc _ _ ih

/-- a Boolean predicate on lists with the two equations of `List.all` (how the model spells `all` over the members of
    a nested inductive type, where the recursion has to be its own) holds iff its test holds of every member -/
theorem forall_mem_of_eqns {α : Type} {f : List α → Bool} {g : α → Bool} (h0 : f [] = true)
    (h1 : ∀ x xs, f (x :: xs) = (g x && f xs)) (xs : List α) : f xs = true ↔ ∀ x ∈ xs, g x = true := by
  induction xs with
  | nil => simp [h0]
  | cons x xs ih => simp [h1, ih]

theorem wf_tail {b : Nat} {bs : Bytes} (h : Bytes.wf (b :: bs)) : Bytes.wf bs :=
  fun x hx => h x (List.mem_cons_of_mem _ hx)

theorem wf_cons {b : Nat} {bs : Bytes} (hb : b < 256) (h : Bytes.wf bs) : Bytes.wf (b :: bs) :=
  List.forall_mem_cons.mpr ⟨hb, h⟩

theorem wf_append {a b : Bytes} (ha : a.wf) (hb : b.wf) : Bytes.wf (a ++ b) :=
  fun x hx => (List.mem_append.1 hx).elim (ha x) (hb x)

theorem wf_replicate (m v : Nat) (hv : v < 256) : Bytes.wf (List.replicate m v) :=
  fun _ hx => (List.mem_replicate.1 hx).2 ▸ hv

theorem ofBE_append (acc : Nat) (p s : Bytes) : ofBE acc (p ++ s) = ofBE (ofBE acc p) s := by
  induction p generalizing acc with
  | nil => rfl
  | cons b bs ih => exact ih _

theorem ofBE_acc (acc : Nat) (bs : Bytes) : ofBE acc bs = acc * 256 ^ bs.length + ofBE 0 bs := by
  induction bs generalizing acc with
  | nil => simp [ofBE]
  | cons b bs ih =>
    simp only [ofBE, List.length_cons]
    rw [ih, ih (0 * 256 + b), Nat.pow_succ, Nat.zero_mul, Nat.zero_add, Nat.add_mul, Nat.mul_assoc,
      Nat.mul_comm 256, Nat.add_assoc]

theorem ofBE_cons (b : Nat) (bs : Bytes) : ofBE 0 (b :: bs) = b * 256 ^ bs.length + ofBE 0 bs := by
  simp only [ofBE]; rw [ofBE_acc]; simp

theorem le_ofBE (acc : Nat) (bs : Bytes) : acc ≤ ofBE acc bs := by
  rw [ofBE_acc]
  exact Nat.le_add_right_of_le (Nat.le_mul_of_pos_right _ (Nat.pow_pos (by decide)))

theorem toBEn_length (k n : Nat) : (toBEn k n).length = k := by
  induction k with
  | zero => rfl
  | succ k ih => simp [toBEn, ih]

theorem toBEn_snoc (k n : Nat) : toBEn (k + 1) n = toBEn k (n / 256) ++ [n % 256] := by
  induction k with
  | zero => simp [toBEn]
  | succ k ih =>
    rw [toBEn, ih, toBEn, List.cons_append, Nat.div_div_eq_div_mul, Nat.pow_succ, Nat.mul_comm]

theorem toBEn_wf (k n : Nat) : Bytes.wf (toBEn k n) := by
  induction k with
  | zero => exact fun _ h => nomatch h
  | succ k ih => exact wf_cons (Nat.mod_lt _ (by decide)) ih

theorem ofBE_toBEn (acc k n : Nat) : ofBE acc (toBEn k n) = acc * 256 ^ k + n % 256 ^ k := by
  induction k generalizing acc with
  | zero => simp [toBEn, ofBE, Nat.mod_one]
  | succ k ih =>
    rw [toBEn, ofBE, ih, Nat.mod_pow_succ, Nat.pow_succ, Nat.add_mul, Nat.mul_assoc, Nat.mul_comm 256,
      Nat.mul_comm (256 ^ k) (n / 256 ^ k % 256), Nat.add_assoc, Nat.add_comm (n / 256 ^ k % 256 * 256 ^ k)]

theorem ofBE_toBEn_lt {k n : Nat} (h : n < 256 ^ k) : ofBE 0 (toBEn k n) = n := by
  rw [ofBE_toBEn, Nat.zero_mul, Nat.zero_add, Nat.mod_eq_of_lt h]

theorem toBEn_ofBE (bs : Bytes) (h : Bytes.wf bs) : toBEn bs.length (ofBE 0 bs) = bs := by
  induction bs using snoc_induction with
  | nil => rfl
  | snoc l x ih =>
    have hx : x < 256 := h x (by simp)
    rw [List.length_append, List.length_singleton, toBEn_snoc, ofBE_append, ofBE, ofBE,
      show (ofBE 0 l * 256 + x) / 256 = ofBE 0 l by omega, show (ofBE 0 l * 256 + x) % 256 = x by omega,
      ih (fun y hy => h y (List.mem_append_left _ hy))]

theorem ofBE_lt (bs : Bytes) (h : Bytes.wf bs) : ofBE 0 bs < 256 ^ bs.length := by
  have := ofBE_toBEn 0 bs.length (ofBE 0 bs)
  rw [toBEn_ofBE bs h, Nat.zero_mul, Nat.zero_add] at this
  exact this ▸ Nat.mod_lt _ (Nat.pow_pos (by decide))

theorem ofBE_inj (a b : Bytes) (ha : Bytes.wf a) (hb : Bytes.wf b) (hl : a.length = b.length)
    (h : ofBE 0 a = ofBE 0 b) : a = b := by
  rw [← toBEn_ofBE a ha, ← toBEn_ofBE b hb, hl, h]

end Asn1c.Proofs.Integer

namespace Asn1c.Proofs.Real
open Asn1c Asn1c.Proofs.Integer

theorem ofBE_append_single (acc : Nat) (l : Bytes) (x : Nat) : ofBE acc (l ++ [x]) = ofBE acc l * 256 + x :=
  ofBE_append acc l [x]

theorem ofBE_zeros (acc n : Nat) : ofBE acc (List.replicate n 0) = acc * 256 ^ n := by
  induction n generalizing acc with
  | zero => simp [ofBE]
  | succ n ih => rw [List.replicate_succ, ofBE, ih, Nat.add_zero, Nat.pow_succ, Nat.mul_assoc, Nat.mul_comm 256]

theorem ofBE_leading_zeros (z : Nat) (l : Bytes) : ofBE 0 (List.replicate z 0 ++ l) = ofBE 0 l := by
  rw [ofBE_append, ofBE_zeros, Nat.zero_mul]

theorem toBE_zero : toBE 0 = [] := by rw [toBE]; simp

theorem toBE_pos (n : Nat) (h : n ≠ 0) : toBE n = toBE (n / 256) ++ [n % 256] := by
  rw [toBE]; simp [h]

theorem toBE_small (n : Nat) (h0 : n ≠ 0) (h : n < 256) : toBE n = [n] := by
  rw [toBE_pos n h0, Nat.div_eq_of_lt h, toBE_zero, Nat.mod_eq_of_lt h]; rfl

theorem toBE_ne_nil (n : Nat) (h0 : n ≠ 0) : toBE n ≠ [] := by
  rw [toBE_pos n h0]; simp

theorem toBE_wf (n : Nat) : Bytes.wf (toBE n) := by
  fun_induction toBE n with
  | case1 => exact fun _ h => nomatch h
  | case2 n h ih => exact wf_append ih (wf_cons (Nat.mod_lt _ (by decide)) fun _ h => nomatch h)

theorem ofBE_toBE (n : Nat) : ofBE 0 (toBE n) = n := by
  fun_induction toBE n with
  | case1 => rfl
  | case2 n h ih => rw [ofBE_append_single, ih]; omega

theorem toBE_head_ne_zero (n : Nat) : ∀ x l, toBE n = x :: l → x ≠ 0 := by
  fun_induction toBE n with
  | case1 => intro x l hx; cases hx
  | case2 n h ih =>
    intro x l hx
    by_cases hq : n / 256 = 0
    · rw [hq, toBE_zero] at hx; cases hx; omega
    · obtain ⟨y, ys, e⟩ := List.exists_cons_of_ne_nil (toBE_ne_nil _ hq)
      rw [e] at hx; cases hx; exact ih _ _ e

theorem toBE_eq_toBEn (k n : Nat) (hlo : 256 ^ k ≤ n) (hhi : n < 256 ^ (k + 1)) : toBE n = toBEn (k + 1) n := by
  induction k generalizing n with
  | zero =>
    rw [toBE_pos n (by omega), (Nat.div_eq_of_lt hhi : n / 256 = 0), toBE_zero, toBEn_snoc]
    rfl
  | succ k ih =>
    have hP : 0 < 256 ^ k := Nat.pow_pos (by decide)
    rw [Nat.pow_succ] at hlo hhi
    rw [toBE_pos n (by omega), toBEn_snoc, ih (n / 256) (by omega) (by omega)]

theorem toBE_ofBE (x : Nat) (l : Bytes) (hw : Bytes.wf (x :: l)) (hx : x ≠ 0) : toBE (ofBE 0 (x :: l)) = x :: l := by
  have hlo : 256 ^ l.length ≤ ofBE 0 (x :: l) :=
    ofBE_cons x l ▸ Nat.le_add_right_of_le (Nat.le_mul_of_pos_left _ (Nat.pos_of_ne_zero hx))
  rw [toBE_eq_toBEn l.length _ hlo (ofBE_lt _ hw)]
  exact toBEn_ofBE _ hw

end Asn1c.Proofs.Real

namespace Asn1c.Proofs.PerSupport
open Asn1c

theorem bitsVal_append (acc : Nat) (a b : Bits) : bitsVal acc (a ++ b) = bitsVal (bitsVal acc a) b := by
  induction a generalizing acc with
  | nil => rfl
  | cons x xs ih => simp [bitsVal, ih]

theorem bitsVal_acc (acc : Nat) (bs : Bits) : bitsVal acc bs = acc * 2 ^ bs.length + bitsVal 0 bs := by
  induction bs generalizing acc with
  | nil => simp [bitsVal]
  | cons x xs ih =>
    simp only [bitsVal, List.length_cons]
    rw [ih, ih (0 * 2 + _)]
    simp only [Nat.zero_mul, Nat.zero_add, Nat.pow_succ]
    rw [Nat.add_mul, Nat.mul_assoc, Nat.mul_comm 2, Nat.add_assoc]

theorem bitsVal_cons (x : Bool) (xs : Bits) :
    bitsVal 0 (x :: xs) = (if x then 1 else 0) * 2 ^ xs.length + bitsVal 0 xs := by
  simp only [bitsVal]; rw [bitsVal_acc]; simp

theorem bitsVal_take_add (bs : Bits) (a b : Nat) (h : a + b ≤ bs.length) :
    bitsVal 0 (bs.take (a + b)) = bitsVal 0 (bs.take a) * 2 ^ b + bitsVal 0 ((bs.drop a).take b) := by
  rw [List.take_add, bitsVal_append, bitsVal_acc (bitsVal 0 _) ((bs.drop a).take b), List.length_take, List.length_drop,
    Nat.min_eq_left (by omega)]

theorem natBits_length (k n : Nat) : (natBits k n).length = k := by
  induction k generalizing n with
  | zero => rfl
  | succ k ih => simp [natBits, ih]

theorem natBits_split (a b n : Nat) : natBits (a + b) n = natBits a (n / 2 ^ b) ++ natBits b n := by
  induction b generalizing n with
  | zero => simp [natBits]
  | succ b ih =>
    rw [← Nat.add_assoc, natBits, ih, natBits, List.append_assoc]
    congr 2
    rw [Nat.div_div_eq_div_mul, Nat.pow_succ, Nat.mul_comm]

theorem natBits_cons (k n : Nat) : natBits (k + 1) n = (n / 2 ^ k % 2 == 1) :: natBits k n := by
  rw [Nat.add_comm, natBits_split]; rfl

theorem natBits_take (n m v : Nat) : (natBits (n + m) v).take n = natBits n (v / 2 ^ m) := by
  rw [natBits_split, List.take_left' (natBits_length _ _)]

theorem natBits_zero (k : Nat) : natBits k 0 = List.replicate k false := by
  induction k with
  | zero => rfl
  | succ k ih => rw [natBits, Nat.zero_div, ih]; simp [List.replicate_succ']

theorem bitsVal_natBits (k n : Nat) : bitsVal 0 (natBits k n) = n % 2 ^ k := by
  induction k generalizing n with
  | zero => exact (Nat.mod_one n).symm
  | succ k ih =>
    have hd : (if (n % 2 == 1) = true then 1 else 0) = n % 2 := by
      rcases Nat.mod_two_eq_zero_or_one n with h | h <;> rw [h] <;> rfl
    rw [natBits, bitsVal_append, ih, bitsVal, bitsVal, hd, Nat.pow_succ, Nat.mul_comm (2 ^ k), Nat.mod_mul]
    omega

theorem natBits_bitsVal (bs : Bits) : natBits bs.length (bitsVal 0 bs) = bs := by
  induction bs using Integer.snoc_induction with
  | nil => rfl
  | snoc l x ih =>
    have hv : bitsVal 0 (l ++ [x]) = bitsVal 0 l * 2 + (if x then 1 else 0) := bitsVal_append 0 l [x]
    have hd : bitsVal 0 (l ++ [x]) / 2 = bitsVal 0 l ∧ (bitsVal 0 (l ++ [x]) % 2 == 1) = x := by
      cases x <;> simp [hv] <;> omega
    rw [List.length_append, List.length_singleton, natBits, hd.1, hd.2, ih]

theorem bitsVal_lt (bs : Bits) : bitsVal 0 bs < 2 ^ bs.length := by
  have := bitsVal_natBits bs.length (bitsVal 0 bs)
  rw [natBits_bitsVal] at this
  exact this ▸ Nat.mod_lt _ (Nat.pow_pos (by decide))

/-- a field in the middle of a bit string, read off the number: shift the bits behind it away, mask to its width -/
theorem bitsVal_mid (X Y Z : Bits) : bitsVal 0 (X ++ (Y ++ Z)) / 2 ^ Z.length % 2 ^ Y.length = bitsVal 0 Y := by
  have hy := bitsVal_lt Y
  have hz := bitsVal_lt Z
  have hp : 0 < 2 ^ Z.length := Nat.pos_of_ne_zero (by simp)
  rw [bitsVal_append, bitsVal_append, bitsVal_acc _ Z, bitsVal_acc _ Y]
  rw [Nat.add_comm _ (bitsVal 0 Z), Nat.add_mul_div_right _ _ hp, Nat.div_eq_of_lt hz, Nat.zero_add,
    Nat.add_comm, Nat.add_mul_mod_self_right, Nat.mod_eq_of_lt hy]

/-- the value of a slice of a bit string -/
theorem bitsVal_slice (B : Bits) (a n : Nat) (h : a + n ≤ B.length) :
    bitsVal 0 ((B.drop a).take n) = bitsVal 0 B / 2 ^ (B.length - a - n) % 2 ^ n := by
  have := bitsVal_mid (B.take a) ((B.drop a).take n) ((B.drop a).drop n)
  rw [List.take_append_drop, List.take_append_drop, List.length_take, List.length_drop, List.length_drop,
    Nat.min_eq_left (by omega)] at this
  exact this.symm

theorem natBits_mod (k n : Nat) : natBits k (n % 2 ^ k) = natBits k n := by
  have := natBits_bitsVal (natBits k n)
  rwa [natBits_length, bitsVal_natBits] at this

theorem natBits_congr (k n m : Nat) (h : n % 2 ^ k = m % 2 ^ k) : natBits k n = natBits k m := by
  rw [← natBits_mod k n, h, natBits_mod]

theorem natBits_succ_lt {k n : Nat} (h : n < 2 ^ k) : natBits (k + 1) n = false :: natBits k n := by
  rw [natBits_cons, Nat.div_eq_of_lt h]; rfl

theorem natBits_succ_add {k n : Nat} (h : n < 2 ^ k) : natBits (k + 1) (2 ^ k + n) = true :: natBits k n := by
  have hp : 0 < 2 ^ k := Nat.pos_of_ne_zero (by simp)
  rw [natBits_cons, Nat.add_div_left _ hp, Nat.div_eq_of_lt h, natBits_congr k _ n (Nat.add_mod_left _ _)]; rfl

theorem natBits_shift (n p v : Nat) : natBits (n + p) (v * 2 ^ p) = natBits n v ++ List.replicate p false := by
  have hp : 0 < 2 ^ p := Nat.pos_of_ne_zero (by simp)
  rw [natBits_split, Nat.mul_div_cancel _ hp, ← natBits_zero p]
  congr 1
  apply natBits_congr
  simp

/-- at `k = 8`: the last octet of a BIT STRING with `u` unused bits -/
theorem natBits_take_pad {k v u : Nat} (hu : u ≤ k) (h : v % 2 ^ u = 0) :
    (natBits k v).take (k - u) ++ List.replicate u false = natBits k v := by
  have e : k - u + u = k := by omega
  have := natBits_take (k - u) u v
  rw [e] at this
  rw [this, ← natBits_shift, Nat.div_mul_cancel (Nat.dvd_of_mod_eq_zero h), e]

theorem natBits_bitsVal_take {n : Nat} {bs : Bits} (h : n ≤ bs.length) :
    natBits n (bitsVal 0 (bs.take n)) = bs.take n := by
  have := natBits_bitsVal (bs.take n)
  rwa [List.length_take, Nat.min_eq_left h] at this

/-- what a successful read of `n` bits says of the input -/
theorem take_drop_spec {n : Nat} {bs : Bits} (hl : n ≤ bs.length) :
    bitsVal 0 (bs.take n) < 2 ^ n ∧ bs = natBits n (bitsVal 0 (bs.take n)) ++ bs.drop n := by
  have := bitsVal_lt (bs.take n)
  rw [List.length_take, Nat.min_eq_left hl] at this
  exact ⟨this, by rw [natBits_bitsVal_take hl, List.take_append_drop]⟩

/-- what a reader of `k` bits asks of an input that starts with the `k` digits of `n`: its length test, `take k` as a
    number, `drop k` -/
theorem natBits_field (k n : Nat) (rest : Bits) :
    ¬ (natBits k n ++ rest).length < k ∧ bitsVal 0 ((natBits k n ++ rest).take k) = n % 2 ^ k ∧
      (natBits k n ++ rest).drop k = rest := by
  have hl := natBits_length k n
  exact ⟨by rw [List.length_append, hl]; omega, by rw [List.take_left' hl, bitsVal_natBits], List.drop_left' hl⟩

theorem byteBits_eq (b : Nat) : byteBits b = natBits 8 b := by
  simp [byteBits, natBits, Nat.div_div_eq_div_mul]

theorem bytesToBits_cons (b : Nat) (bs : Bytes) : bytesToBits (b :: bs) = natBits 8 b ++ bytesToBits bs := by
  simp [bytesToBits, byteBits_eq]

theorem bytesToBits_append (a b : Bytes) : bytesToBits (a ++ b) = bytesToBits a ++ bytesToBits b := by
  simp [bytesToBits]

theorem bytesToBits_length (bs : Bytes) : (bytesToBits bs).length = 8 * bs.length := by
  induction bs with
  | nil => rfl
  | cons b bs ih => rw [bytesToBits_cons, List.length_append, natBits_length, ih, List.length_cons]; omega

theorem bytesToBits_drop (buf : Bytes) (q : Nat) : bytesToBits (buf.drop q) = (bytesToBits buf).drop (8 * q) := by
  induction q generalizing buf with
  | zero => simp
  | succ q ih =>
    cases buf with
    | nil => simp [bytesToBits]
    | cons b bs =>
      rw [List.drop_succ_cons, ih, bytesToBits_cons]
      have : 8 * (q + 1) = (natBits 8 b).length + 8 * q := by rw [natBits_length]; omega
      rw [this, List.drop_length_add_append]

theorem bytesToBits_toBEn (k v : Nat) : bytesToBits (toBEn k v) = natBits (8 * k) v := by
  induction k with
  | zero => rfl
  | succ k ih =>
    rw [toBEn, bytesToBits_cons, ih, Nat.mul_succ, Nat.add_comm, natBits_split, Nat.pow_mul]
    exact congrArg (· ++ _) (natBits_mod 8 _)

theorem natBits_bytes (bytes : Bytes) (h : bytes.wf) : natBits (8 * bytes.length) (ofBE 0 bytes) = bytesToBits bytes := by
  rw [← bytesToBits_toBEn, Integer.toBEn_ofBE _ h]

theorem bitsVal_bytesToBits (acc : Nat) (bs : Bytes) (h : bs.wf) : bitsVal acc (bytesToBits bs) = ofBE acc bs := by
  rw [bitsVal_acc, Integer.ofBE_acc acc, bytesToBits_length, Nat.pow_mul, ← natBits_bytes bs h, bitsVal_natBits, Nat.pow_mul]
  exact congrArg _ (Nat.mod_eq_of_lt (Integer.ofBE_lt bs h))

theorem bytesToBits_inj (a b : Bytes) (ha : a.wf) (hb : b.wf) (h : bytesToBits a = bytesToBits b) : a = b := by
  have hl : a.length = b.length := by
    have := congrArg List.length h
    rw [bytesToBits_length, bytesToBits_length] at this
    omega
  exact Integer.ofBE_inj a b ha hb hl (by rw [← bitsVal_bytesToBits 0 a ha, h, bitsVal_bytesToBits 0 b hb])

theorem take_drop_take (B : Bits) (m a n : Nat) (h : a + n ≤ m) : ((B.take m).drop a).take n = (B.drop a).take n := by
  rw [List.drop_take, List.take_take]
  congr 1
  omega

/-- the first `k` octets determine every slice inside them: it is a slice of their `8 * k` bits (`bitsVal_slice`) -/
theorem slice_of_prefix (buf : Bytes) (k a n : Nat) (hw : buf.wf) (hk : k ≤ buf.length) (h : a + n ≤ 8 * k) :
    bitsVal 0 (((bytesToBits buf).drop a).take n) = ofBE 0 (buf.take k) / 2 ^ (8 * k - (a + n)) % 2 ^ n := by
  have hl : (bytesToBits (buf.take k)).length = 8 * k := by rw [bytesToBits_length, List.length_take, Nat.min_eq_left hk]
  conv => lhs; rw [← List.take_append_drop k buf, bytesToBits_append]
  rw [List.drop_append_of_le_length (by omega), List.take_append_of_le_length (by rw [List.length_drop]; omega),
    bitsVal_slice _ a n (by omega), hl, bitsVal_bytesToBits 0 _ fun x hx => hw x (List.mem_of_mem_take hx),
    Nat.sub_sub]

theorem natBits_prefix (src : Bytes) (k n : Nat) (hw : src.wf) (hk : k ≤ src.length) (hn : n ≤ 8 * k) :
    natBits n (ofBE 0 (src.take k) / 2 ^ (8 * k - n)) = (bytesToBits src).take n := by
  have := slice_of_prefix src k 0 n hw hk (by omega)
  rw [List.drop_zero, Nat.zero_add] at this
  rw [← natBits_mod, ← this, natBits_bitsVal_take (by rw [bytesToBits_length]; omega)]

theorem bitsToBytes_nil : bitsToBytes [] = [] := by rw [bitsToBytes]; simp

theorem bitsToBytes_ne (bs : Bits) (h : bs ≠ []) :
    bitsToBytes bs = bitsVal 0 ((bs.take 8) ++ List.replicate (8 - (bs.take 8).length) false) :: bitsToBytes (bs.drop 8) := by
  rw [bitsToBytes]; simp [h]

/-- the bits of one octet as `bitsToBytes` assembles them -/
theorem pad8_length (bs : Bits) : (bs.take 8 ++ List.replicate (8 - (bs.take 8).length) false).length = 8 := by
  rw [List.length_append, List.length_replicate, List.length_take]; omega

theorem bitsToBytes_wf (bs : Bits) : (bitsToBytes bs).wf := by
  fun_induction bitsToBytes bs with
  | case1 => exact fun _ h => nomatch h
  | case2 bs he ih => exact Integer.wf_cons (Nat.lt_of_lt_of_eq (bitsVal_lt _) (congrArg (2 ^ ·) (pad8_length bs))) ih

theorem bytesToBits_bitsToBytes (bs : Bits) :
    bytesToBits (bitsToBytes bs) = bs ++ List.replicate ((8 - bs.length % 8) % 8) false := by
  fun_induction bitsToBytes bs with
  | case1 => rfl
  | case2 bs he ih =>
    have hpos : 0 < bs.length := List.length_pos_iff.mpr he
    have hb := natBits_bitsVal (bs.take 8 ++ List.replicate (8 - (bs.take 8).length) false)
    rw [pad8_length] at hb
    rw [bytesToBits_cons, hb, ih]
    by_cases h8 : 8 ≤ bs.length
    · have ht : (bs.take 8).length = 8 := by simp; omega
      have hp : (8 - (bs.drop 8).length % 8) % 8 = (8 - bs.length % 8) % 8 := by simp only [List.length_drop]; omega
      rw [ht, hp, Nat.sub_self, List.replicate_zero, List.append_nil, ← List.append_assoc, List.take_append_drop]
    · have hp : 8 - bs.length = (8 - bs.length % 8) % 8 := by omega
      rw [List.take_of_length_le (by omega), List.drop_of_length_le (by omega), hp]
      simp

theorem bitsToBytes_length (bs : Bits) : (bitsToBytes bs).length = (bs.length + 7) / 8 := by
  have := congrArg List.length (bytesToBits_bitsToBytes bs)
  rw [bytesToBits_length, List.length_append, List.length_replicate] at this
  omega

theorem bitsToBytes_eq_nil (abits : Bits) (h : bitsToBytes abits = []) : abits = [] :=
  Decidable.by_contra fun hne => by rw [bitsToBytes_ne _ hne] at h; cases h

theorem ofBE_take_succ (acc : Nat) (bs : Bytes) (k : Nat) (h : k < bs.length) :
    ofBE acc (bs.take (k + 1)) = ofBE acc (bs.take k) * 256 + bs.getD k 0 := by
  rw [List.take_succ_eq_append_getElem h, Integer.ofBE_append, List.getD_eq_getElem?_getD, List.getElem?_eq_getElem h]; rfl

/-- the first one to four octets as a number, in the terms of the C code (`buf[0] << 16 | buf[1] << 8 | buf[2]`) -/
theorem ofBE_window (buf : Bytes) :
    (1 ≤ buf.length → ofBE 0 (buf.take 1) = buf.getD 0 0) ∧
    (2 ≤ buf.length → ofBE 0 (buf.take 2) = buf.getD 0 0 * 256 + buf.getD 1 0) ∧
    (3 ≤ buf.length → ofBE 0 (buf.take 3) = buf.getD 0 0 * 65536 + buf.getD 1 0 * 256 + buf.getD 2 0) ∧
    (4 ≤ buf.length →
      ofBE 0 (buf.take 4) = buf.getD 0 0 * 16777216 + buf.getD 1 0 * 65536 + buf.getD 2 0 * 256 + buf.getD 3 0) := by
  have s := ofBE_take_succ 0 buf
  have w1 : 1 ≤ buf.length → ofBE 0 (buf.take 1) = buf.getD 0 0 := fun h => by rw [s 0 h]; simp [ofBE]
  have w2 : 2 ≤ buf.length → ofBE 0 (buf.take 2) = buf.getD 0 0 * 256 + buf.getD 1 0 := fun h => by
    rw [s 1 h, w1 (by omega)]
  have w3 : 3 ≤ buf.length → ofBE 0 (buf.take 3) = buf.getD 0 0 * 65536 + buf.getD 1 0 * 256 + buf.getD 2 0 := fun h => by
    rw [s 2 h, w2 (by omega)]; omega
  exact ⟨w1, w2, w3, fun h => by rw [s 3 h, w3 (by omega)]; omega⟩

/-- the unused bits of the last of `⌈n / 8⌉` octets: the C code's `8 - (n & 7)` when `n & 7`, none otherwise -/
theorem ite_pad {α : Type} (n : Nat) (f : Nat → α) (x : α) (hx : f 0 = x) :
    (if n % 8 ≠ 0 then f (8 - n % 8) else x) = f (8 * ((n + 7) / 8) - n) := by
  split
  · congr 1; omega
  · rw [← hx]; congr 1; omega

end Asn1c.Proofs.PerSupport
