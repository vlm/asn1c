import Asn1cModel.Base
/-
  Impl (C20): `ber_fetch_tag`, `ber_fetch_length`, `ber_tlv_tag_serialize`,
  `der_tlv_length_serialize` (skeletons/ber_tlv_tag.c, ber_tlv_length.c) as they are called
  by `unber` and `enber`: with an explicit `(buf, size)` pair.  Every read `buf[i]` is a
  partial lookup; a failed lookup is the distinguished outcome `oob` (proved unreachable
  in Proofs/BerFetch.lean: `fetchTag_eq`, `fetchLength_eq`).  Self-contained on purpose (core Lean only).

  `ber_tlv_tag_t` is a 32-bit unsigned `(number << 2) | class`; `ber_tlv_len_t` is a 64-bit
  signed `ssize_t`, `-1` = indefinite.
-/
namespace Asn1c.Impl.UnberTlv
open Asn1c

/-- result of the fetch functions: `ok v n` (return value `n > 0`), `more` (0), `fail` (-1),
    `oob` (the model would read outside `buf[0..size)`/outside the initialised part). -/
inductive Fetch (α : Type) where
  | ok (v : α) (n : Nat)
  | more
  | fail
  | oob
deriving DecidableEq, Repr

/-- the `for(val = 0, skipped = 2; skipped <= size; skipped++)` loop of `ber_fetch_tag`;
    `rest` = the buffer from `ptr` on.  Invariant at the loop head: `val < 2^23`, hence
    `(val << 7) | x < 2^30` and `(val << 2) | tclass` do not overflow the 32-bit type. -/
def fetchTagLoop (tclass : Nat) : Bytes → Nat → Nat → Nat → Fetch Nat
  | [], _, skipped, size => if skipped ≤ size then .oob else .more
  | oct :: rest, val, skipped, size =>
    if skipped ≤ size then
      if oct ≥ 128 then
        let val' := val * 128 + oct % 128
        if val' / 2 ^ 23 ≠ 0 then .fail
        else fetchTagLoop tclass rest val' (skipped + 1) size
      else
        .ok ((val * 128 + oct) * 4 % 2 ^ 32 + tclass) skipped
    else .more

/-- `ber_fetch_tag(ptr, size, &tag)`; the tag is `(number << 2) | class`. -/
def fetchTag (buf : Bytes) (size : Nat) : Fetch Nat :=
  if size = 0 then .more else
  match buf with
  | [] => .oob
  | b :: rest =>
    let tclass := b / 64
    if b % 32 ≠ 31 then .ok (b % 32 * 4 + tclass) 1
    else fetchTagLoop tclass rest 0 2 size

/-- the `for(len = 0, buf++, skipped = 1; oct && (++skipped <= size); buf++, oct--)` loop of
    `ber_fetch_length`.  `skipped` is the value *before* the `++skipped` of this round. -/
def fetchLenLoop : Bytes → Nat → Nat → Nat → Nat → Fetch Int
  | _, 0, len, skipped, _ =>
    -- `oct == 0`: `len < 0` cannot happen (`len < 2^55` before every shift)
    if len > 2 ^ 62 - 1 then .fail else .ok (Int.ofNat len) skipped
  | [], _ + 1, _, skipped, size => if skipped + 1 ≤ size then .oob else .more
  | b :: rest, oct + 1, len, skipped, size =>
    if skipped + 1 ≤ size then
      if len / 2 ^ 55 = 0 then fetchLenLoop rest oct (len * 256 + b) (skipped + 1) size
      else .fail
    else .more

/-- `ber_fetch_length(_is_constructed, buf, size, &len)` -/
def fetchLength (constructed : Bool) (buf : Bytes) (size : Nat) : Fetch Int :=
  if size = 0 then .more else
  match buf with
  | [] => .oob
  | oct :: rest =>
    if oct < 128 then .ok (Int.ofNat oct) 1
    else if constructed && oct == 128 then .ok (-1) 1
    else if oct == 255 then .fail
    else fetchLenLoop rest (oct % 128) 0 1 size

/-- `BER_TAG_CLASS`, `BER_TAG_VALUE` -/
def tagClass (tag : Nat) : Nat := tag % 4
def tagValue (tag : Nat) : Nat := tag / 4

/-- `required_size` loop of `ber_tlv_tag_serialize` (`i = 7, 14, 21, 28 < 32`) -/
def tagRequired (tval : Nat) : Nat :=
  if tval / 2 ^ 7 = 0 then 1 else if tval / 2 ^ 14 = 0 then 2 else if tval / 2 ^ 21 = 0 then 3
  else if tval / 2 ^ 28 = 0 then 4 else 5

/-- the fill loop: `k` groups, `0x80 | ((tval >> i) & 0x7F)` for all but the last -/
def tagGroupOctets : Nat → Nat → Bytes
  | 0, _ => []
  | 1, tval => [tval % 128]
  | k + 2, tval => (128 + tval / 2 ^ (7 * (k + 1)) % 128) :: tagGroupOctets (k + 1) tval

/-- `ber_tlv_tag_serialize(tag, buf, size)`: (octets written into `buf`, return value). -/
def tagSerialize (tag : Nat) (size : Nat) : Bytes × Nat :=
  let tclass := tagClass tag
  let tval := tagValue tag
  if tval ≤ 30 then (if size > 0 then [tclass * 64 + tval] else [], 1)
  else
    let first := if size > 0 then [tclass * 64 + 31] else []
    let size' := size - 1
    let req := tagRequired tval
    if size' < req then (first, req + 1)
    else (first ++ tagGroupOctets req tval, req + 1)

/-- `required_size` loop of `der_tlv_length_serialize` (`i = 8, …, 56 < 64`), for `len ≥ 0` -/
def lenRequired (len : Nat) : Nat :=
  if len / 2 ^ 8 = 0 then 1 else if len / 2 ^ 16 = 0 then 2 else if len / 2 ^ 24 = 0 then 3
  else if len / 2 ^ 32 = 0 then 4 else if len / 2 ^ 40 = 0 then 5 else if len / 2 ^ 48 = 0 then 6
  else if len / 2 ^ 56 = 0 then 7 else 8

/-- `der_tlv_length_serialize(len, buf, size)` for `0 ≤ len < 2^63` (enber rejects negative
    values before the call): (octets written, return value). -/
def lenSerialize (len : Nat) (size : Nat) : Bytes × Nat :=
  if len ≤ 127 then (if size > 0 then [len] else [], 1)
  else
    let req := lenRequired len
    if size ≤ req then ([], req + 1)
    else ((128 + req) :: toBEn req len, req + 1)

end Asn1c.Impl.UnberTlv
