import Asn1cModel.Impl.UnberTlv
/-
  Impl (C20): asn1-tools/unber/libasn1_unber_tool.c in the `unber -p` configuration
  (`pretty_printing = 0`, `minimalistic = 0`, `single_type_decoding = 0`, `skip_bytes = 0`,
  indent 4): `unber_stream`, `process_deeper`, `print_TL`, `print_V`.

  * the input stream is the list of bytes not yet read plus `bytesRead`;
  * `tagbuf[32]` is the list of the `tblen` octets stored so far; every read of it is a
    partial lookup, every failed lookup (and a store at index ≥ 32) is the outcome `oob`;
  * every `assert(...)` of the C code is an explicit test with outcome `assertion`;
  * output is a list of `Out` events, one per `print_TL` / `print_V` / `">\n"` call, carrying
    exactly the arguments of the C call; `render` is the `printf` formatting of these calls.
  * the loop of `process_deeper` consumes one unit of `fuel` per iteration
    (`Proofs/UnberSafe.lean`, `pd_safe`: `fuel > length input` is always enough).
  * `level` is the C recursion depth: activation `level` runs on the `level + 1`-th stack frame of
    `process_deeper`; the entry test against `UNBER_MAX_NESTING_LEVEL` (`maxLevel`) bounds it
    (`Props/C20.lean`: `unber_levels_bounded`, `unber_nesting_limit`).

  Text is `Bytes` (ASCII codes); string constants are spelled as code lists, the comment
  next to each gives the text.  Core Lean only.
-/
namespace Asn1c.Impl.Unber
open Asn1c Asn1c.Impl.UnberTlv

/-! ### output events and their text -/

inductive Out where
  /-- `print_TL(os, 0, offset, level, constr, tlen, tag, len, _)` -/
  | opn (level : Nat) (constr : Bool) (off tlen tag : Nat) (len : Int)
  /-- `osprintf(os, ">\n")` closing the opening tag of a constructed TLV -/
  | gt
  /-- `print_V` without pretty-printing: `">"` then `&#xNN;` for every octet read -/
  | val (content : Bytes)
  /-- `print_TL(os, 1, offset, level, constr, tlen, tag, len, effective_size)` -/
  | cls (level : Nat) (constr : Bool) (off tlen tag : Nat) (len : Int) (esize : Nat)
deriving DecidableEq, Repr

/-- the nesting level an event was printed at: `print_TL`'s `level` argument, i.e. the level of the
    `process_deeper` activation that printed it (the end-of-contents element is printed by the child
    activation with `level - 1`); `">\n"` and `print_V` take no level -/
def Out.level : Out → Nat
  | .opn level _ _ _ _ _ => level
  | .cls level _ _ _ _ _ _ => level
  | .gt => 0
  | .val _ => 0

/-- decimal digits with fuel (structural recursion, so that closed terms evaluate in the kernel) -/
def decDigitsF : Nat → Nat → Bytes
  | 0, n => [48 + n]
  | f + 1, n => if n < 10 then [48 + n] else decDigitsF f (n / 10) ++ [48 + n % 10]

/-- `%ld` / `%lld` / `%u` of a non-negative number (fuel `n` is always enough:
    `Proofs/Enber.lean`, `decDigits_eq`) -/
def decDigits (n : Nat) : Bytes := decDigitsF n n

/-- `%ld` of a signed number -/
def decInt (z : Int) : Bytes :=
  if z < 0 then 45 :: decDigits (-z).toNat else decDigits z.toNat

def hexLower (n : Nat) : Nat := if n < 10 then 48 + n else 87 + n

/-- `&#x%02x;` -/
def hexEntity (b : Nat) : Bytes := [38, 35, 120, hexLower (b / 16 % 16), hexLower (b % 16), 59]

/-- `ber_tlv_tag_string(tag)`: `[UNIVERSAL n]`, `[APPLICATION n]`, `[n]`, `[PRIVATE n]` -/
def tagString (tag : Nat) : Bytes :=
  (match tag % 4 with
   | 0 => [91, 85, 78, 73, 86, 69, 82, 83, 65, 76, 32]             -- "[UNIVERSAL "
   | 1 => [91, 65, 80, 80, 76, 73, 67, 65, 84, 73, 79, 78, 32]     -- "[APPLICATION "
   | 2 => [91]                                                     -- "["
   | _ => [91, 80, 82, 73, 86, 65, 84, 69, 32])                    -- "[PRIVATE "
  ++ decDigits (tag / 4) ++ [93]

/-- `ASN_UNIVERSAL_TAG2STR(tvalue)` (libasn1parser/asn1p_expr2uclass.h, asn1p_expr_str.h) -/
def universalName : Nat → Option Bytes
  | 1 => some [66, 79, 79, 76, 69, 65, 78]   -- BOOLEAN
  | 2 => some [73, 78, 84, 69, 71, 69, 82]   -- INTEGER
  | 3 => some [66, 73, 84, 32, 83, 84, 82, 73, 78, 71]   -- BIT STRING
  | 4 => some [79, 67, 84, 69, 84, 32, 83, 84, 82, 73, 78, 71]   -- OCTET STRING
  | 5 => some [78, 85, 76, 76]   -- NULL
  | 6 => some [79, 66, 74, 69, 67, 84, 32, 73, 68, 69, 78, 84, 73, 70, 73, 69, 82]   -- OBJECT IDENTIFIER
  | 7 => some [79, 98, 106, 101, 99, 116, 68, 101, 115, 99, 114, 105, 112, 116, 111, 114]   -- ObjectDescriptor
  | 8 => some [69, 88, 84, 69, 82, 78, 65, 76]   -- EXTERNAL
  | 9 => some [82, 69, 65, 76]   -- REAL
  | 10 => some [69, 78, 85, 77, 69, 82, 65, 84, 69, 68]   -- ENUMERATED
  | 11 => some [69, 77, 66, 69, 68, 68, 69, 68, 32, 80, 68, 86]   -- EMBEDDED PDV
  | 12 => some [85, 84, 70, 56, 83, 116, 114, 105, 110, 103]   -- UTF8String
  | 13 => some [82, 69, 76, 65, 84, 73, 86, 69, 45, 79, 73, 68]   -- RELATIVE-OID
  | 16 => some [83, 69, 81, 85, 69, 78, 67, 69]   -- SEQUENCE
  | 17 => some [83, 69, 84]   -- SET
  | 18 => some [78, 117, 109, 101, 114, 105, 99, 83, 116, 114, 105, 110, 103]   -- NumericString
  | 19 => some [80, 114, 105, 110, 116, 97, 98, 108, 101, 83, 116, 114, 105, 110, 103]   -- PrintableString
  | 20 => some [84, 101, 108, 101, 116, 101, 120, 83, 116, 114, 105, 110, 103]   -- TeletexString
  | 21 => some [86, 105, 100, 101, 111, 116, 101, 120, 83, 116, 114, 105, 110, 103]   -- VideotexString
  | 22 => some [73, 65, 53, 83, 116, 114, 105, 110, 103]   -- IA5String
  | 23 => some [85, 84, 67, 84, 105, 109, 101]   -- UTCTime
  | 24 => some [71, 101, 110, 101, 114, 97, 108, 105, 122, 101, 100, 84, 105, 109, 101]   -- GeneralizedTime
  | 25 => some [71, 114, 97, 112, 104, 105, 99, 83, 116, 114, 105, 110, 103]   -- GraphicString
  | 26 => some [86, 105, 115, 105, 98, 108, 101, 83, 116, 114, 105, 110, 103]   -- VisibleString
  | 27 => some [71, 101, 110, 101, 114, 97, 108, 83, 116, 114, 105, 110, 103]   -- GeneralString
  | 28 => some [85, 110, 105, 118, 101, 114, 115, 97, 108, 83, 116, 114, 105, 110, 103]   -- UniversalString
  | 29 => some [67, 72, 65, 82, 65, 67, 84, 69, 82, 32, 83, 84, 82, 73, 78, 71]   -- CHARACTER STRING
  | 30 => some [66, 77, 80, 83, 116, 114, 105, 110, 103]   -- BMPString
  | _ => none

def indent : Nat → Bytes
  | 0 => []
  | n + 1 => [32, 32, 32, 32] ++ indent n

/-- the ` A="…"` attribute of `print_TL` -/
def attrA (tag : Nat) : Bytes :=
  if tag % 4 = 0 then
    match universalName (tag / 4) with
    | some s => [32, 65, 61, 34] ++ s ++ [34]          -- ` A="` s `"`
    | none => []
  else []

/-- `"I"` / `"C"` / `"P"` -/
def formLetter (constr : Bool) (len : Int) : Nat :=
  if constr then (if len = -1 then 73 else 67) else 80

/-- the text written by one event (`print_TL`, `print_V` without `-m`, with `-p`) -/
def render : Out → Bytes
  | .opn level constr off tlen tag len =>
      indent level ++ [60, formLetter constr len]                    -- "<" form
      ++ [32, 79, 61, 34] ++ decDigits off ++ [34]                    -- ` O="off"`
      ++ [32, 84, 61, 34] ++ tagString tag ++ [34]                    -- ` T="[..]"`
      ++ [32, 84, 76, 61, 34] ++ decDigits tlen ++ [34]               -- ` TL="tlen"`
      ++ (if len = -1 then [32, 86, 61, 34, 73, 110, 100, 101, 102, 105, 110, 105, 116, 101, 34]
          else [32, 86, 61, 34] ++ decInt len ++ [34])               -- ` V="Indefinite"` / ` V="len"`
      ++ attrA tag
  | .gt => [62, 10]                                                   -- ">\n"
  | .val content => 62 :: content.flatMap hexEntity                   -- ">" &#xNN;…
  | .cls level constr off tlen tag len esize =>
      if !constr then [60, 47, 80, 62, 10]                            -- "</P>\n"
      else
        indent level ++ [60, 47, formLetter constr len]               -- "</" form
        ++ [32, 79, 61, 34] ++ decDigits off ++ [34]
        ++ [32, 84, 61, 34] ++ tagString tag ++ [34]
        ++ (if len = -1 then [32, 84, 76, 61, 34] ++ decDigits tlen ++ [34] else [])
        ++ attrA tag
        ++ [32, 76, 61, 34] ++ decDigits esize ++ [34]                -- ` L="esize"`
        ++ [62, 10]

def renderAll (os : List Out) : Bytes := os.flatMap render

/-! ### process_deeper -/

/-- the diagnostics of `process_deeper` / `print_V` (all lead to `PD_FAILED`) -/
inductive Err where
  | tooLongLimit   -- "Too long TL sequence (%zd >= %zd)"
  | tooLongBuf     -- "Too long TL sequence (%zd bytes)"
  | eofTL          -- "Unexpected end of file (TL)"
  | badTag         -- "Fatal error decoding tag"
  | badLen         -- "Fatal error decoding value length"
  | tlMismatch     -- "Outer tag length doesn't match inner tag length"
  | lenExceeds     -- "Structure advertizes length (..) greater than of a parent container"
  | eofV           -- "Unexpected end of file (V)"
  | tooDeep        -- "Too deep nesting (more than %d levels)"
deriving DecidableEq, Repr

/-- `UNBER_MAX_NESTING_LEVEL`: `process_deeper` refuses to run at a `level` above it (one C stack
    frame per level; the F41 repair) -/
def maxLevel : Nat := 2048

inductive Pdc where
  | finished | eof
deriving DecidableEq, Repr

/-- outcome of (the rest of) one `process_deeper` activation -/
inductive R where
  /-- returned `pdc` (≠ PD_FAILED); `frame` = what was added to `*frame_size` -/
  | done (pdc : Pdc) (frame : Nat) (inp : Bytes) (off : Nat) (out : List Out)
  /-- returned PD_FAILED after the diagnostic `e` -/
  | failed (e : Err) (out : List Out)
  /-- the model would access `tagbuf` out of bounds / uninitialised -/
  | oob (out : List Out)
  /-- an `assert()` of the C code would fire -/
  | assertion (out : List Out)
  /-- the model ran out of fuel (never, see `Proofs/UnberSafe.lean`) -/
  | nofuel
deriving DecidableEq, Repr

/-- prepend output produced earlier -/
def R.pre (o : List Out) : R → R
  | .done p f i off out => .done p f i off (o ++ out)
  | .failed e out => .failed e (o ++ out)
  | .oob out => .oob (o ++ out)
  | .assertion out => .assertion (o ++ out)
  | .nofuel => .nofuel

/-- `*frame_size += n` done earlier in the same activation -/
def R.addFrame (n : Nat) : R → R
  | .done p f i off out => .done p (n + f) i off out
  | r => r

/-- the loop state of one `process_deeper` activation, as a function type:
    `level expect_eoc tagbuf limit effective_size pdc input bytesRead` -/
abbrev Loop := Nat → Bool → Bytes → Int → Nat → Pdc → Bytes → Nat → R

/-- Everything `process_deeper` does in one loop iteration after `(t_len + l_len) == tblen`
    has been established.  `rec` is `process_deeper` itself (child activation and
    `continue`). `tagbuf` holds the complete TL, `off` = `bytesRead`. -/
def afterTL (rec : Loop) (level : Nat) (eoc : Bool) (tagbuf : Bytes) (limit : Int) (esize : Nat)
    (pdc : Pdc) (inp : Bytes) (off : Nat) (tag : Nat) (len : Int) (constr : Bool) (isEoc : Bool) : R :=
  let tblen := tagbuf.length
  -- if(!expect_eoc || tagbuf[0] || tagbuf[1]) print_TL(os, 0, bytesRead - tblen, …)
  let o1 := if isEoc then [] else [Out.opn level constr (off - tblen) tblen tag len]
  -- if(limit != -1) { limit -= t_len + l_len; assert(limit >= 0); if(tlv_len > limit) fail }
  let limit1 : Int := if limit = -1 then -1 else limit - tblen
  if limit ≠ -1 ∧ limit1 < 0 then .assertion o1
  else if limit ≠ -1 ∧ len > limit1 then .failed .lenExceeds o1
  else
  let esize1 := esize + tblen
  if isEoc then
    -- print_TL(os, 1, bytesRead - 2, level - 1, 1, 2, 0, -1, effective_size); return PD_FINISHED
    .done .finished tblen inp off (o1 ++ [Out.cls (level - 1) true (off - 2) 2 0 (-1) esize1])
  else if constr then
    -- assert(limit >= tlv_len) when both are set
    if len ≠ -1 ∧ limit1 ≠ -1 ∧ limit1 < len then .assertion (o1 ++ [Out.gt])
    else
    -- the entry test of the child activation: `if(level > UNBER_MAX_NESTING_LEVEL) return PD_FAILED`
    -- (`rec` is entered at the loop head; the top-level activation has level 0 and passes the test)
    if level + 1 > maxLevel then .failed .tooDeep (o1 ++ [Out.gt])
    else
    match rec (level + 1) (len == -1) [] (if len = -1 then limit1 else len) tblen .finished inp off with
    | .done cpdc dec inp2 off2 o2 =>
      let o12 := o1 ++ [Out.gt] ++ o2
      -- if(limit != -1) { assert(limit >= dec); limit -= dec; }
      if limit1 ≠ -1 ∧ limit1 < dec then .assertion o12
      else
      let limit2 : Int := if limit1 = -1 then -1 else limit1 - dec
      let esize2 := esize1 + dec
      if len = -1 then
        -- tblen = 0; if(pdc == PD_FINISHED && limit < 0 && !expect_eoc) return pdc; continue;
        if cpdc = .finished ∧ limit2 < 0 ∧ eoc = false then .done cpdc (tblen + dec) inp2 off2 o12
        else ((rec level eoc [] limit2 esize2 cpdc inp2 off2).addFrame (tblen + dec)).pre o12
      else
        let o123 := o12 ++ [Out.cls level true off2 tblen tag len (tblen + dec)]
        if level = 0 ∧ limit2 = -1 ∧ eoc = false then .done cpdc (tblen + dec) inp2 off2 o123
        else ((rec level eoc [] limit2 esize2 cpdc inp2 off2).addFrame (tblen + dec)).pre o123
    | r => r.pre (o1 ++ [Out.gt])
  else
    if len < 0 then .assertion o1          -- assert(tlv_len >= 0)
    else
    -- print_V: `tlv_len` calls of ibs_getc
    let n := len.toNat
    let content := inp.take n
    if content.length < n then .failed .eofV (o1 ++ [Out.val content])
    else
    let inp2 := inp.drop n
    let off2 := off + n
    -- if(limit != -1) { assert(limit >= tlv_len); limit -= tlv_len; }
    if limit1 ≠ -1 ∧ limit1 < len then .assertion (o1 ++ [Out.val content])
    else
    let limit2 : Int := if limit1 = -1 then -1 else limit1 - len
    let o123 := o1 ++ [Out.val content, Out.cls level false off2 tblen tag len (tblen + n)]
    if level = 0 ∧ limit2 = -1 ∧ eoc = false then .done pdc (tblen + n) inp2 off2 o123
    else ((rec level eoc [] limit2 (esize1 + n) pdc inp2 off2).addFrame (tblen + n)).pre o123

/-- `process_deeper(fname, ibs, os, level, limit, &frame_size, effective_size, expect_eoc)`,
    entered at the head of its `for(;;)` loop with the given `tagbuf[0..tblen)`. -/
def pd : Nat → Loop
  | 0, _, _, _, _, _, _, _, _ => .nofuel
  | fuel + 1, level, eoc, tagbuf, limit, esize, pdc, inp, off =>
    let tblen := tagbuf.length
    if limit = 0 then .done .finished 0 inp off []
    else if limit ≥ 0 ∧ (tblen : Int) ≥ limit then .failed .tooLongLimit []
    else if tblen ≥ 32 then .failed .tooLongBuf []
    else
    match inp with
    | [] => if limit > 0 ∨ eoc = true then .failed .eofTL [] else .done .eof 0 [] off []
    | ch :: inp1 =>
      let off1 := off + 1
      -- tagbuf[tblen++] = ch
      if tblen ≥ 32 then .oob [] else
      let tagbuf1 := tagbuf ++ [ch]
      let tblen1 := tblen + 1
      match fetchTag tagbuf1 tblen1 with
      | .fail => .failed .badTag []
      | .oob => .oob []
      | .more => pd fuel level eoc tagbuf1 limit esize pdc inp1 off1
      | .ok tag tLen =>
        -- constr = BER_TLV_CONSTRUCTED(tagbuf)
        match tagbuf1[0]? with
        | none => .oob []
        | some b0 =>
          let constr := b0 / 32 % 2 == 1
          match fetchLength constr (tagbuf1.drop tLen) (tblen1 - tLen) with
          | .fail => .failed .badLen []
          | .oob => .oob []
          | .more => pd fuel level eoc tagbuf1 limit esize pdc inp1 off1
          | .ok len lLen =>
            if tLen + lLen ≠ tblen1 then .failed .tlMismatch []
            else
            -- `expect_eoc && !tagbuf[0] && !tagbuf[1]` (short-circuit evaluation)
            if eoc = true ∧ b0 = 0 then
              match tagbuf1[1]? with
              | none => .oob []
              | some b1 => afterTL (pd fuel) level eoc tagbuf1 limit esize pdc inp1 off1 tag len constr (b1 == 0)
            else afterTL (pd fuel) level eoc tagbuf1 limit esize pdc inp1 off1 tag len constr false

/-- final status of `unber -p file` -/
inductive Status where
  | ok                -- exit 0
  | failed (e : Err)  -- exit EX_DATAERR after a diagnostic
  | oob | assertion | nofuel
deriving DecidableEq, Repr

/-- `unber_stream`: `do pdc = process_deeper(.., 0, -1, &frame_size, 0, 0); while(pdc == PD_FINISHED)` -/
def stream : Nat → Bytes → Nat → Status × List Out
  | 0, _, _ => (.nofuel, [])
  | fuel + 1, inp, off =>
    match pd (inp.length + 1) 0 false [] (-1) 0 .finished inp off with
    | .done .finished _ inp2 off2 out =>
      let (s, out2) := stream fuel inp2 off2
      (s, out ++ out2)
    | .done .eof _ _ _ out => (.ok, out)
    | .failed e out => (.failed e, out)
    | .oob out => (.oob, out)
    | .assertion out => (.assertion, out)
    | .nofuel => (.nofuel, [])

/-- `unber -p` on a file with contents `inp`: exit status and the events printed -/
def unberOuts (inp : Bytes) : Status × List Out := stream (inp.length + 1) inp 0

/-- `unber -p` on a file with contents `inp`: exit status and the text on stdout -/
def unber (inp : Bytes) : Status × Bytes :=
  let (s, out) := unberOuts inp
  (s, renderAll out)

end Asn1c.Impl.Unber
