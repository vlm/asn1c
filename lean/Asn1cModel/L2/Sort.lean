/-
  The insertion sort of the L2 layer, on its own so that proofs about sorting need nothing else of the model.
  Core Lean only.
-/
namespace Asn1c.L2

/-- insertion sort used for the canonical orders of SET (by tag) and SET OF (by encoding) -/
def insertBy {α : Type} (le : α → α → Bool) (x : α) : List α → List α
  | [] => [x]
  | y :: ys => if le x y then x :: y :: ys else y :: insertBy le x ys
def sortBy {α : Type} (le : α → α → Bool) : List α → List α
  | [] => []
  | x :: xs => insertBy le x (sortBy le xs)

end Asn1c.L2
