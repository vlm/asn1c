import Asn1cModel.L2.Tlv
import Asn1cModel.L2.Sort
import Asn1cModel.Impl.Real
import Asn1cModel.Spec.Twos
/-
  L2 DER/BER codec over resolved types:
    encDER t v  = Tlv.enc (toTlv t v)         (X.690 §8 + §10/§11 canonical choices)
    decBER t bs = interp t (parseTlv bs)      (accepts every length form, any SET order)
-/
namespace Asn1c.L2
open Asn1c Asn1c.Impl.BerTlv

/-! ### contents octets of the primitive kinds -/

/-- minimal two's complement octets of an arbitrary integer (X.690 §8.3) -/
def natOctets (n : Nat) : Bytes :=
  match toBE n with
  | [] => [0]
  | b :: bs => if b ≥ 128 then 0 :: b :: bs else b :: bs

def intOctets (z : Int) : Bytes :=
  if z ≥ 0 then natOctets z.toNat else (natOctets (-z - 1).toNat).map (255 - ·)

def Tlv.tag : Tlv → Tag
  | .prim t _ _ => t
  | .cons t _ _ => t

/-- mask the unused bits of the last octet (C: `last & (0xff << unused)`) -/
def maskLast (bs : Bytes) (unused : Nat) : Bytes :=
  match bs.reverse with
  | [] => []
  | l :: r => (r.reverse) ++ [l / 2 ^ unused * 2 ^ unused % 256]

def primContent : Prim → Val → Option Bytes
  | .boolean, .bool b => some [if b then 255 else 0]
  | .null, .null => some []
  | .integer, .int z => some (intOctets z)
  | .enumerated, .int z => some (intOctets z)
  | .real, .real bits => some (Asn1c.Impl.Real.double2REAL bits)
  | .octets, .octets bs => some bs
  | .bits, .bits bs unused => if unused ≤ 7 ∧ (bs = [] → unused = 0) then some (unused :: maskLast bs unused) else none
  | _, _ => none

/-- explicit wrappers `ts` (outermost first) around `x` -/
def wrapAround : List Tag → Tlv → Tlv
  | [], x => x
  | t :: ts, x => .cons t (some 0) [wrapAround ts x]

/-- a node with tag chain `tags` (outermost first; the last tag carries the content) -/
def wrapTags (tags : List Tag) (mk : Tag → Tlv) : Option Tlv :=
  match tags.reverse with
  | [] => none
  | inner :: outerRev => some (wrapAround outerRev.reverse (mk inner))

def tagLe (a b : Tag) : Bool := a.cls < b.cls || (a.cls == b.cls && a.num ≤ b.num)

/-- lexicographic order on octet strings, a proper prefix being smaller (C: `_el_buf_cmp`) -/
def bytesLe : Bytes → Bytes → Bool
  | [], _ => true
  | _ :: _, [] => false
  | a :: as, b :: bs => a < b || (a == b && bytesLe as bs)

mutual
/-- value → DER TLV tree -/
def toTlv : Ty → Val → Option Tlv
  | .prim tags p, v =>
    match primContent p v with
    | some c => wrapTags tags (fun t => .prim t 0 c)
    | none => none
  | .seq tags ms attrs _, .seq vs =>
    match toTlvs ms attrs vs with
    | some cs => wrapTags tags (fun t => .cons t (some 0) cs)
    | none => none
  | .set tags ms attrs _, .seq vs =>
    match toTlvs ms attrs vs with
    | some cs => wrapTags tags (fun t => .cons t (some 0) (sortBy (fun a b => tagLe a.tag b.tag) cs))
    | none => none
  | .choice tags alts _, .choice i v =>
    match toTlvAlt alts i v with
    | some x => some (wrapAround tags x)
    | none => none
  | .seqOf tags e, .list vs =>
    match toTlvList e vs with
    | some cs => wrapTags tags (fun t => .cons t (some 0) cs)
    | none => none
  | .setOf tags e, .list vs =>
    match toTlvList e vs with
    | some cs => wrapTags tags (fun t => .cons t (some 0) (sortBy (fun a b => bytesLe a.enc b.enc) cs))
    | none => none
  | _, _ => none
/-- components of SEQUENCE/SET: absent OPTIONAL and DEFAULT-valued components produce nothing -/
def toTlvs : List Ty → List Attr → List Val → Option (List Tlv)
  | [], [], [] => some []
  | m :: ms, a :: as, v :: vs =>
    match v with
    | .absent => if a.optional then toTlvs ms as vs else none
    | v =>
      if isDefault a v then toTlvs ms as vs
      else
        match toTlv m v, toTlvs ms as vs with
        | some x, some xs => some (x :: xs)
        | _, _ => none
  | _, _, _ => none
def toTlvAlt : List Ty → Nat → Val → Option Tlv
  | [], _, _ => none
  | a :: _, 0, v => toTlv a v
  | _ :: as, i + 1, v => toTlvAlt as i v
def toTlvList (e : Ty) : List Val → Option (List Tlv)
  | [] => some []
  | v :: vs =>
    match toTlv e v, toTlvList e vs with
    | some x, some xs => some (x :: xs)
    | _, _ => none
end

/-- DER encoding -/
def encDER (t : Ty) (v : Val) : Option Bytes := (toTlv t v).map Tlv.enc

/-! ### TLV tree → value -/

mutual
/-- the set of tags a value of the type can start with (X.680 §31.2.7 "outermost tags") -/
def outerTags : Ty → List Tag
  | .prim tags _ => tags.take 1
  | .seq tags _ _ _ => tags.take 1
  | .set tags _ _ _ => tags.take 1
  | .choice tags alts _ => if tags.isEmpty then outerTagsAlts alts else tags.take 1
  | .seqOf tags _ => tags.take 1
  | .setOf tags _ => tags.take 1
def outerTagsAlts : List Ty → List Tag
  | [] => []
  | a :: as => outerTags a ++ outerTagsAlts as
end

/-- strip the explicit wrappers `ts` (each a constructed node with exactly one child) -/
def unwrapAround : List Tag → Tlv → Option Tlv
  | [], x => some x
  | t :: ts, .cons t' _ [c] => if t' = t then unwrapAround ts c else none
  | _ :: _, _ => none

/-- locate the innermost node of a tag chain -/
def unwrapTags (tags : List Tag) (x : Tlv) : Option Tlv :=
  match tags.reverse with
  | [] => none
  | inner :: outerRev =>
    match unwrapAround outerRev.reverse x with
    | some y => if y.tag = inner then some y else none
    | none => none

-- concatenated contents of a primitive or (arbitrarily nested) constructed string (X.690 §8.7.3)
mutual
def stringContent : Tlv → Bytes
  | .prim _ _ c => c
  | .cons _ _ cs => stringContentList cs
def stringContentList : List Tlv → Bytes
  | [] => []
  | x :: xs => stringContent x ++ stringContentList xs
end

-- primitive segments (unused-bit count, data) of a possibly nested constructed BIT STRING (X.690 §8.6.4)
mutual
def bitLeaves : Tlv → Option (List (Nat × Bytes))
  | .prim _ _ (u :: bs) => some [(u, bs)]
  | .prim _ _ [] => none
  | .cons _ _ cs => bitLeavesList cs
def bitLeavesList : List Tlv → Option (List (Nat × Bytes))
  | [] => some []
  | x :: xs =>
    match bitLeaves x, bitLeavesList xs with
    | some a, some b => some (a ++ b)
    | _, _ => none
end

/-- only the last segment may have unused bits -/
def combineBits : List (Nat × Bytes) → Option (Bytes × Nat)
  | [] => some ([], 0)
  | [(u, bs)] => if u ≤ 7 ∧ (bs = [] → u = 0) then some (bs, u) else none
  | (0, bs) :: rest => (combineBits rest).map fun (r, u) => (bs ++ r, u)
  | _ => none

def bitSegments (cs : List Tlv) : Option (Bytes × Nat) := (bitLeavesList cs).bind combineBits

def decPrim (p : Prim) (x : Tlv) : Option Val :=
  match p, x with
  | .boolean, .prim _ _ [b] => some (.bool (b != 0))
  | .null, .prim _ _ [] => some .null
  | .integer, .prim _ _ (b :: bs) => some (.int (Asn1c.Spec.twosVal (b :: bs)))
  | .enumerated, .prim _ _ (b :: bs) => some (.int (Asn1c.Spec.twosVal (b :: bs)))
  | .real, .prim _ _ c =>
    match Asn1c.Impl.Real.REAL2double c with
    | .ok bits => some (.real bits)
    | _ => none
  | .octets, x => some (.octets (stringContent x))
  | .bits, .prim _ _ (u :: bs) => if u ≤ 7 ∧ (bs = [] → u = 0) then some (.bits (maskLast bs u) u) else none
  | .bits, .cons _ _ cs => (bitSegments cs).map fun (bs, u) => .bits (maskLast bs u) u
  | _, _ => none

mutual
def interp : Ty → Tlv → Option Val
  | .prim tags p, x =>
    match unwrapTags tags x with
    | some y => decPrim p y
    | none => none
  | .seq tags ms attrs ext, x =>
    match unwrapTags tags x with
    | some (.cons _ _ cs) => (interpSeq ms attrs ext cs).map .seq
    | _ => none
  | .set tags ms attrs ext, x =>
    match unwrapTags tags x with
    | some (.cons _ _ cs) => (interpSet ms attrs cs).map .seq
    | _ => none
  | .choice tags alts _, x =>
    match unwrapAround tags x with
    | some y => interpAlt alts 0 y
    | none => none
  | .seqOf tags e, x =>
    match unwrapTags tags x with
    | some (.cons _ _ cs) => (interpList e cs).map .list
    | _ => none
  | .setOf tags e, x =>
    match unwrapTags tags x with
    | some (.cons _ _ cs) => (interpList e cs).map .list
    | _ => none
/-- SEQUENCE components in order; a child that does not start the next component is matched
    against later components if the skipped ones are OPTIONAL/DEFAULT -/
def interpSeq : List Ty → List Attr → Bool → List Tlv → Option (List Val)
  | [], [], ext, cs => if cs.isEmpty || ext then some [] else none
  | m :: ms, a :: as, ext, [] => if a.optional then (interpSeq ms as ext []).map (.absent :: ·) else none
  | m :: ms, a :: as, ext, c :: cs =>
    if (outerTags m).contains c.tag then
      match interp m c, interpSeq ms as ext cs with
      | some v, some vs => some (v :: vs)
      | _, _ => none
    else if a.optional then (interpSeq ms as ext (c :: cs)).map (.absent :: ·)
    else none
  | _, _, _, _ => none
/-- SET components: each component takes the child carrying one of its outermost tags -/
def interpSet : List Ty → List Attr → List Tlv → Option (List Val)
  | [], [], _ => some []
  | m :: ms, a :: as, cs =>
    match cs.find? (fun c => (outerTags m).contains c.tag) with
    | some c =>
      match interp m c, interpSet ms as cs with
      | some v, some vs => some (v :: vs)
      | _, _ => none
    | none => if a.optional then (interpSet ms as cs).map (.absent :: ·) else none
  | _, _, _ => none
def interpAlt : List Ty → Nat → Tlv → Option Val
  | [], _, _ => none
  | a :: as, i, x =>
    if (outerTags a).contains x.tag then (interp a x).map (.choice i) else interpAlt as (i + 1) x
def interpList (e : Ty) : List Tlv → Option (List Val)
  | [] => some []
  | c :: cs =>
    match interp e c, interpList e cs with
    | some v, some vs => some (v :: vs)
    | _, _ => none
end

/-- BER decoding: result value and unconsumed rest -/
def decBER (fuel : Nat) (t : Ty) (bs : Bytes) : PRes Val :=
  match parseTlv fuel bs with
  | .ok x rest =>
    match interp t x with
    | some v => .ok v rest
    | none => .fail
  | .more => .more
  | .fail => .fail

end Asn1c.L2
