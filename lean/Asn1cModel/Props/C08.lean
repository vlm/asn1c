import Asn1cModel.Proofs.ConstraintCheck
/-
  C08 — "Constraint validation accepts exactly the values the specification allows":
  asn_check_constraints returns 0 for a structure iff every component at every nesting depth
  satisfies the value / SIZE / permitted-alphabet constraints of the ASN.1 source (and the built-in
  alphabets of the restricted strings); on failure -1 with a bounded, terminated message naming a
  type; it terminates for every structure.

  Spec  : Spec/ConstraintCheck.lean      (`satisfies`, X.680 §41, §51.4, §51.5, §51.7)
  Impl  : Impl/ConstraintCheck.lean      (generated checker code + skeleton walkers, defects included)
  Guard : Impl/ConstraintCheckDom.lean   (`dom`, the decidable region where the tree is right; it
                                          restricts leaf types only, every SEQUENCE / SET / CHOICE /
                                          SEQUENCE OF shape over admitted leaves is inside)
  Data  : Generated/AlphabetTables.lean (re-extracted from the working tree on every check run)
  Lemmas: Proofs/ConstraintCheck.lean

  The tree violates the property outside `dom`; each excluded region has a counter-example
  theorem below (F84, and the remainders F180 / F181 of the repaired F81 / F83; F182, bounds of 2^64
  or more in magnitude, is a region where the model does not follow the C compiler).  F81 (an INTEGER_t
  with a non-negative range was read through asn_INTEGER2long), F83 (a single-range FROM on
  UTF8String produced no test), F85 (a union with the outer edges MIN and MAX was dropped as a
  whole) and F86 (a constrained BMPString rejected the cells FFFE / FFFF) are repaired; the former
  witnesses are inside `dom` and decided correctly (`wide_unsigned_checked`, `utf8_from_checked`,
  `union_min_max_checked`, `bmp_all_cells_checked`).  F82 (the SIZE constraint of a named SEQUENCE OF / SET OF was never
  tested) is repaired (`named_list_size_checked`).  F26 (`INTEGER (0..4294967295)`: range test compiled away on LP64) is
  repaired (`ulong_full_range_checked`).  F48 (a generated checker with nothing applicable called itself) is
  repaired: such a function calls the checker of the underlying type, every verdict of the model is 0 or -1
  (`check_terminates`, `vacuous_constraint_returns`).  F25 (SEQUENCE_constraint / SET_constraint returned before the
  later members were checked) is repaired: `walkSeq` / `walkSet` mirror the repaired loops, the
  former witnesses are now inside `dom` and rejected (`walker_later_member_rejected`,
  `set_walker_later_member_rejected`).
-/
namespace Asn1c.Props.C08
open Asn1c Asn1c.Spec.ConstraintCheck Asn1c.Impl.ConstraintCheck Asn1c.Generated.AlphabetTables
open Asn1c.Proofs.ConstraintCheck

/-! The alphabet data extracted from the working tree is the X.680 alphabet (tables and scattered alphabets by
    evaluation over all 256 octets, single ranges by an argument; re-checked whenever the source changes) -/

/-- skeletons/PrintableString.c: `_PrintableString_alphabet[c] != 0` iff `c` is one of
    A–Z a–z 0–9 space ' ( ) + , - . / : = ? -/
theorem printable_table_is_X680 :
    ∀ c, c < 256 → (printableTable.getD c 0 ≠ 0 ↔ printableChars c = true) := by
  intro c hc
  rw [← printable_lookup c hc]; simp

theorem printable_table_length : printableTable.length = 256 := by
  simpa using congrArg List.length printable_table

/-- `_PrintableString_code2value` enumerates exactly the table's characters in increasing code order:
    entry `i` is the character whose table value is `i + 1` -/
theorem printable_code2value_is_inverse :
    ∀ i : Fin printableCode2Value.length,
      printableTable.getD (printableCode2Value.getD i.val 0) 0 = i.val + 1 := by decide +kernel

/-- … and every character of the alphabet has a code (74 of them) -/
theorem printable_code2value_complete :
    (List.range 256).countP (fun c => printableChars c) = printableCode2Value.length := by decide +kernel

/-- skeletons/NumericString.c: the `case` labels of NumericString_constraint are digits and space -/
theorem numeric_cases_is_X680 : ∀ c, c < 256 → (numericCases.contains c = true ↔ numericChars c = true) := by
  intro c hc
  rw [numeric_lookup c hc]

/-- skeletons/VisibleString.c: `*buf < lo || *buf > hi` rejects exactly the non-VisibleString octets -/
theorem visible_test_is_X680 :
    ∀ c, c < 256 → ((c < visibleLo ∨ c > visibleHi) ↔ visibleChars c = false) := by
  intro c _
  rw [← visible_test c]; simp; omega

/-- skeletons/IA5String.c: `*buf > hi` rejects exactly the octets above 0x7F -/
theorem ia5_test_is_X680 : ∀ c, c < 256 → (c > ia5Hi ↔ ia5Chars c = false) := by
  intro c _
  rw [← ia5_test c]; simp

/-- libasn1fix/asn1fix_constraint_compat.c: the default alphabets the compiler turns into the
    `permitted_alphabet_table_N` / comparison code of constrained strings are the X.680 alphabets -/
theorem compiler_printable_is_X680 :
    ∀ c : Nat, c < 256 → (inCons (toCons compilerPrintable) (c : Int) = printableChars c) :=
  default_printable

theorem compiler_numeric_is_X680 :
    ∀ c : Nat, c < 256 → (inCons (toCons compilerNumeric) (c : Int) = numericChars c) :=
  default_numeric

theorem compiler_visible_is_X680 :
    ∀ c : Nat, c < 256 → (inCons (toCons compilerVisible) (c : Int) = visibleChars c) :=
  fun c _ => default_visible c

theorem compiler_ia5_is_X680 :
    ∀ c : Nat, c < 256 → (inCons (toCons compilerIa5) (c : Int) = ia5Chars c) :=
  fun c _ => default_ia5 c

/-- skeletons/UTF8String.c `UTF8String_ht`: expected sequence length by lead octet
    (the RFC 2279 layout: 1–6 octets; 0x80–0xBF, 0xFE, 0xFF are illegal starts) -/
def leadLength (b : Nat) : Option Nat :=
  if b < 128 then some 1 else if b < 192 then none else if b < 224 then some 2
  else if b < 240 then some 3 else if b < 248 then some 4 else if b < 252 then some 5
  else if b < 254 then some 6 else none

theorem utf8_lead_table_is_RFC2279 : ∀ b : Fin 256, utf8Want b.val = leadLength b.val := by decide +kernel

/-- **range_code_iff.**  For a value `x` representable in the C variable (between the natural
    start / stop the emitter was told about), the emitted comparison text — empty text = no test —
    is true iff `x` lies in the union of ranges.  Hypothesis `mixedFree`: in a union of two or more
    ranges every element prints something (true of the disjoint unions asn1fix_crange produces);
    see `range_code_mixed_cex`. -/
theorem range_code_iff (rs : Cons) (ns ne : Option Int) (x : Int)
    (hns : ∀ s, ns = some s → s ≤ x) (hne : ∀ e, ne = some e → x ≤ e)
    (hne0 : rs ≠ []) (hmix : mixedFree rs ns ne = true) :
    (let code := emitRange rs ns ne; code.isEmpty = true ∨ code.eval x = true) ↔ inCons rs x = true := by
  have := emitRange_spec rs ns ne x hns hne hne0 hmix
  simp only [codeAccepts] at this
  simp only [← this, Bool.or_eq_true]

example : mixedFree [⟨some 0, some 5⟩, ⟨some 10, some 20⟩, ⟨some 100, some 100⟩] none none = true := by decide

/-- the shortcuts: a bound that coincides with the natural start / stop is not printed -/
example : emitRange [⟨some 0, some 7⟩] (some 0) none = [.le 7] := by decide
example : emitRange [⟨some 5, none⟩] (some 0) none = [.ge 5] := by decide
example : emitRange [⟨some 0, none⟩] (some 0) none = [] := by decide
example : emitRange [⟨some 5, some 5⟩] none none = [.eq 5] := by decide
example : emitRange [⟨some 97, some 122⟩] (some 0) (some 255) = [.between 97 122] := by decide

/-- why `mixedFree` is needed: an element that prints nothing is *dropped* from the `||` chain, so
    a (non-canonical) union containing an all-covering element would reject members of it -/
theorem range_code_mixed_cex :
    let rs : Cons := [⟨some 0, none⟩, ⟨some 3, some 3⟩]
    inCons rs 7 = true ∧ (emitRange rs (some 0) none).eval 7 = false ∧ mixedFree rs (some 0) none = false := by
  decide

/-- **check_iff_satisfies_partial.**  On the guard domain, `asn_check_constraints` returns 0
    exactly for the values that satisfy every value / SIZE / FROM constraint of the ASN.1 source
    and the built-in alphabets, at every nesting depth.  `dom` admits every SEQUENCE / SET shape
    (any number of components, with or without constraints of their own, in any order): the
    remaining guards concern leaf types only (F84: UTF-8 forms that are not RFC 3629; F180: an
    INTEGER_t value outside the 64-bit C variable; F181: FROM on UTF8String beyond U+007F; F182:
    bounds of 2^64 or more in magnitude). -/
theorem check_iff_satisfies_partial (name : String) (t : Ty) (v : Val) (h : dom name t v = true) :
    check name t v = .ok ↔ satisfies t v = true :=
  descr_iff t name v h

/-- **Termination.**  `Impl.check` is a total function (structural recursion on the type): that Lean
    accepts its definition is the termination claim, and its verdict is 0 or -1 for *every* type and
    value, which is all this statement adds.  No generated checker refers to itself: a type-level
    function with nothing applicable calls the checker of the underlying type by name.  The K leg ties
    every C call on the generated cases to this function; the former F48 witnesses are
    `vacuous_constraint_returns` below. -/
theorem check_terminates (name : String) (t : Ty) (v : Val) :
    check name t v = .ok ∨ ∃ n w, check name t v = .fail n w := by
  cases hc : check name t v with
  | ok => exact Or.inl rfl
  | fail n w => exact Or.inr ⟨n, w, rfl⟩

/-! Non-vacuity: a nested type with SIZE, FROM, value ranges, OPTIONAL, CHOICE, SEQUENCE OF and a
    reference lies in the domain; valid and violating values are decided correctly. -/

def exInner : Ty := .seq (.cons "x" false (.int (some [⟨some 0, some 3⟩]))
                    (.cons "y" false (.str .ia5 (some [⟨some 1, some 2⟩]) (some [⟨some 97, some 122⟩])) .nil))

def exTy : Ty :=
  .seq (.cons "a" false (.int (some [⟨some (-5), some 5⟩, ⟨some 10, none⟩]))
       (.cons "b" true (.str .printable (some [⟨some 2, some 2⟩]) none)
       (.cons "l" false (.listOf false (some [⟨some 1, some 2⟩]) (.named "Inner" exInner))
       (.cons "c" false (.choice (.cons "u" false (.str .utf8 (some [⟨some 1, some 3⟩]) none)
                                 (.cons "n" false .null .nil))) .nil))))

def exGood : Val := .struct [("a", .int 12), ("l", .list [.struct [("x", .int 3), ("y", .octets [97, 98])]]),
                             ("c", .choice "u" (.octets [0xC3, 0xA9, 0x41]))]

/-- one violation, deep inside: the second character of `l[0].y` is 'A', outside FROM("a".."z") -/
def exBad : Val := .struct [("a", .int 12), ("l", .list [.struct [("x", .int 3), ("y", .octets [97, 65])]]),
                            ("c", .choice "u" (.octets [0xC3, 0xA9, 0x41]))]

example : dom "T" exTy exGood = true := by decide +kernel
example : check "T" exTy exGood = .ok := by decide +kernel
example : satisfies exTy exGood = true := by decide +kernel
example : dom "T" exTy exBad = true := by decide +kernel
example : check "T" exTy exBad = .fail "IA5String" .constraintFailed := by decide +kernel
example : satisfies exTy exBad = false := by decide +kernel

/-- **F25 repaired (SEQUENCE), the former witness.**  `SEQUENCE { a BOOLEAN, b INTEGER (0..7) }`:
    `a` has no member-level checker; the walker goes on after its verdict 0 and `b = 9` is rejected.
    The case lies inside the proved domain. -/
theorem walker_later_member_rejected :
    let t : Ty := .seq (.cons "a" false .bool (.cons "b" false (.int (some [⟨some 0, some 7⟩])) .nil))
    let v : Val := .struct [("a", .bool true), ("b", .int 9)]
    check "A" t v = .fail "INTEGER" .constraintFailed ∧ satisfies t v = false ∧ dom "A" t v = true := by
  decide +kernel

/-- **F25 repaired (SET), the former witness.**  `SET { a INTEGER (0..7), b INTEGER (0..7) }`:
    SET_constraint goes on after the first present member, `b = 9` is rejected. -/
theorem set_walker_later_member_rejected :
    let t : Ty := .set (.cons "a" false (.int (some [⟨some 0, some 7⟩])) (.cons "b" false (.int (some [⟨some 0, some 7⟩])) .nil))
    let v : Val := .struct [("a", .int 1), ("b", .int 9)]
    check "J" t v = .fail "INTEGER" .constraintFailed ∧ satisfies t v = false ∧ dom "J" t v = true := by
  decide +kernel

/-- components without constraints of their own (BOOLEAN, a reference, an unconstrained string, a nested
    SET with three components) in front of the violated one, at two levels: inside `dom`, rejected -/
example :
    let inner : Ty := .set (.cons "p" false .bool (.cons "q" true .null (.cons "r" false (.int (some [⟨some 1, some 2⟩])) .nil)))
    let t : Ty := .seq (.cons "a" false .bool (.cons "n" false (.named "I1" (.int (some [⟨some 0, some 7⟩])))
                  (.cons "s" false (.str .printable none none) (.cons "i" false inner (.cons "z" false .bool .nil)))))
    let v : Val := .struct [("a", .bool false), ("n", .int 7), ("s", .octets [65]),
                            ("i", .struct [("p", .bool true), ("r", .int 3)]), ("z", .bool true)]
    dom "T" t v = true ∧ satisfies t v = false ∧ check "T" t v = .fail "INTEGER" .constraintFailed := by
  decide +kernel

/-- **F48 repaired, the former witnesses.**  `A ::= INTEGER (0..MAX)`, `C ::= INTEGER (MIN..MAX)`,
    `O ::= OCTET STRING (SIZE(0..MAX))`, and an inline component `u INTEGER (0..MAX)` (which gets a
    descriptor of its own): nothing applicable is emitted, the generated function calls the checker
    of the underlying type (it used to call itself: unbounded recursion) and returns 0; the values
    satisfy the constraints and the cases lie inside the proved domain. -/
theorem vacuous_constraint_returns :
    check "A" (.int (some [⟨some 0, none⟩])) (.int 5) = .ok ∧
    check "C" (.int (some [⟨none, none⟩])) (.int 5) = .ok ∧
    check "O" (.str .octet (some [⟨some 0, none⟩]) none) (.octets [1]) = .ok ∧
    check "S" (.seq (.cons "u" false (.int (some [⟨some 0, none⟩])) .nil)) (.struct [("u", .int 1)]) = .ok ∧
    dom "A" (.int (some [⟨some 0, none⟩])) (.int 5) = true ∧
    dom "C" (.int (some [⟨none, none⟩])) (.int 5) = true ∧
    dom "O" (.str .octet (some [⟨some 0, none⟩]) none) (.octets [1]) = true ∧
    dom "S" (.seq (.cons "u" false (.int (some [⟨some 0, none⟩])) .nil)) (.struct [("u", .int 1)]) = true := by
  decide +kernel

/-- the fall back is the skeleton checker of the underlying type, not "accept": a named
    `BIT STRING (SIZE(0..MAX))` still rejects an ill-formed unused-bit count, reporting the type's name;
    an alias of a list type with a vacuous SIZE still walks the elements -/
example :
    check "BS" (.str .bit (some [⟨some 0, none⟩]) none) (.bits [] 3) = .fail "BS" .padding ∧
    check "LA" (.named "L" (.listOf true (some [⟨some 0, none⟩]) (.int (some [⟨some 0, some 7⟩])))) (.list [.int 9])
      = .fail "INTEGER" .constraintFailed := by decide +kernel

/-- **F26 repaired, the former witness.**  `INTEGER (0..4294967295)` in a 64-bit `unsigned long`: the
    range test is emitted (`value <= 4294967295`; it used to be compiled away on the assumption of a
    32-bit `unsigned long`), 2^32 is rejected and both bounds are accepted; inside `dom`. -/
theorem ulong_full_range_checked :
    let t : Ty := .int (some [⟨some 0, some 4294967295⟩])
    check "B" t (.int 4294967296) = .fail "B" .constraintFailed ∧ satisfies t (.int 4294967296) = false ∧
    dom "B" t (.int 4294967296) = true ∧
    check "B" t (.int 4294967295) = .ok ∧ check "B" t (.int 0) = .ok ∧
    -- as an inline component (descriptor of its own, member-level checker)
    check "S" (.seq (.cons "b" false t .nil)) (.struct [("b", .int 4294967296)]) = .fail "b" .constraintFailed := by
  decide +kernel

/-- **F82 repaired, the former witness.**  `O ::= SEQUENCE (SIZE(1..2)) OF INTEGER (0..7)`: the named
    type's descriptor carries a generated `O_constraint` that tests SIZE and then walks the elements
    (it used to carry the plain walker): the empty list and a list of three are rejected, naming `O`;
    sizes 1 and 2 are accepted and their elements still checked; a plain reference `m O` inside a
    SEQUENCE gets the same verdicts; the alias `O2 ::= O` behaves as before.  All inside `dom`. -/
theorem named_list_size_checked :
    let o : Ty := .listOf false (some [⟨some 1, some 2⟩]) (.int (some [⟨some 0, some 7⟩]))
    check "O" o (.list []) = .fail "O" .constraintFailed ∧ satisfies o (.list []) = false ∧
    dom "O" o (.list []) = true ∧
    check "O" o (.list [.int 1, .int 2, .int 3]) = .fail "O" .constraintFailed ∧
    check "O" o (.list [.int 1, .int 2]) = .ok ∧
    check "O" o (.list [.int 1, .int 9]) = .fail "INTEGER" .constraintFailed ∧
    check "W" (.seq (.cons "n" false .bool (.cons "m" false (.named "O" o) .nil)))
        (.struct [("n", .bool true), ("m", .list [])]) = .fail "O" .constraintFailed ∧
    check "O2" (.named "O" o) (.list []) = .fail "O2" .constraintFailed := by decide +kernel

/-- **F81 repaired, the former witness.**  `INTEGER (0..18446744073709551615)` lives in INTEGER_t; its
    lower edge is ≥ 0, so the generated code declares `unsigned long value` and reads it through
    asn_INTEGER2ulong (it used asn_INTEGER2long: "value too large" from 2^63 on): 2^63 and 2^64-1 are
    accepted, -1 and 2^64 rejected; the same for `(5000000000..MAX)`.  All inside `dom` except 2^64,
    which no `unsigned long` holds. -/
theorem wide_unsigned_checked :
    let t : Ty := .int (some [⟨some 0, some 18446744073709551615⟩])
    let t2 : Ty := .int (some [⟨some 5000000000, none⟩])
    check "Y" t (.int 9223372036854775808) = .ok ∧ satisfies t (.int 9223372036854775808) = true ∧
    dom "Y" t (.int 9223372036854775808) = true ∧
    check "Y" t (.int 18446744073709551615) = .ok ∧ dom "Y" t (.int 18446744073709551615) = true ∧
    check "Y" t (.int 0) = .ok ∧
    check "Y" t (.int 18446744073709551616) = .fail "Y" .valueTooLarge ∧ satisfies t (.int 18446744073709551616) = false ∧
    check "Y2" t2 (.int 9223372036854775808) = .ok ∧ dom "Y2" t2 (.int 9223372036854775808) = true ∧
    check "Y2" t2 (.int 4999999999) = .fail "Y2" .constraintFailed ∧ dom "Y2" t2 (.int 4999999999) = true := by
  decide +kernel

/-- **F180 (what remains of F81).**  The generated code still converts the INTEGER_t into a 64-bit C
    variable before comparing: with a negative lower edge the variable is a `long`, so
    `INTEGER (-1..18446744073709551615)` rejects the valid 2^63, and
    `INTEGER (-18446744073709551615..0)` the valid -2^63-1.  Outside `dom`. -/
theorem wide_integer_cex :
    let t : Ty := .int (some [⟨some (-1), some 18446744073709551615⟩])
    let t2 : Ty := .int (some [⟨some (-18446744073709551615), some 0⟩])
    check "Y3" t (.int 9223372036854775808) = .fail "Y3" .valueTooLarge ∧
    satisfies t (.int 9223372036854775808) = true ∧ dom "Y3" t (.int 9223372036854775808) = false ∧
    check "Y4" t2 (.int (-9223372036854775809)) = .fail "Y4" .valueTooLarge ∧
    satisfies t2 (.int (-9223372036854775809)) = true ∧ dom "Y4" t2 (.int (-9223372036854775809)) = false := by
  decide +kernel

/-- bounds of 2^64 or more in magnitude are outside `dom` (F182: the C compiler truncates the emitted
    constant, which the model does not mirror) -/
example : dom "Y5" (.int (some [⟨some 0, some 1180591620717411303424⟩])) (.int 1) = false := by decide +kernel

/-- **F83 repaired, the former witness.**  `UTF8String (FROM("a".."z"))`: a FROM within 0..127 is tested
    through the 128-entry table also when it is a single range (it produced no test): "A" is rejected,
    "az" accepted, a two-octet character rejected; with a SIZE constraint as well.  Inside `dom`. -/
theorem utf8_from_checked :
    let t : Ty := .str .utf8 none (some [⟨some 97, some 122⟩])
    let t2 : Ty := .str .utf8 (some [⟨some 1, some 3⟩]) (some [⟨some 97, some 122⟩])
    check "R" t (.octets [65]) = .fail "R" .constraintFailed ∧ satisfies t (.octets [65]) = false ∧
    dom "R" t (.octets [65]) = true ∧
    check "R" t (.octets [97, 122]) = .ok ∧ dom "R" t (.octets [97, 122]) = true ∧
    check "R" t (.octets [97, 0xC3, 0xA9]) = .fail "R" .constraintFailed ∧ dom "R" t (.octets [97, 0xC3, 0xA9]) = true ∧
    check "R2" t2 (.octets [97, 65]) = .fail "R2" .constraintFailed ∧ dom "R2" t2 (.octets [97, 65]) = true ∧
    check "R2" t2 (.octets [97, 98, 99, 100]) = .fail "R2" .constraintFailed ∧
    check "R2" t2 (.octets [97, 98, 99]) = .ok := by decide +kernel

/-- **F181 (what remains of F83).**  A FROM on UTF8String that reaches beyond U+007F is still not
    compiled into a test (the generated loop works octet by octet): `UTF8String (FROM("a".."ÿ"))`
    accepts "A".  Outside `dom`. -/
theorem utf8_from_cex :
    let t : Ty := .str .utf8 none (some [⟨some 97, some 255⟩])
    check "R" t (.octets [65]) = .ok ∧ satisfies t (.octets [65]) = false ∧ dom "R" t (.octets [65]) = false := by
  decide +kernel

/-- **F84.**  UTF8String_length accepts an encoded surrogate (ED A0 80) and a 5-octet form, which are
    not UTF-8 (RFC 3629 / ISO 10646); tests-skeletons/check-UTF8String.c pins the 5-octet form. -/
theorem utf8_legacy_forms_cex :
    check "U" (.str .utf8 none none) (.octets [0xED, 0xA0, 0x80]) = .ok ∧
    satisfies (.str .utf8 none none) (.octets [0xED, 0xA0, 0x80]) = false ∧
    check "U" (.str .utf8 none none) (.octets [0xF8, 0x88, 0x80, 0x80, 0x80]) = .ok ∧
    satisfies (.str .utf8 none none) (.octets [0xF8, 0x88, 0x80, 0x80, 0x80]) = false := by decide +kernel

/-- **F85 repaired, the former witnesses.**  A union whose outer edges are MIN and MAX is no longer
    dropped as a whole: the component `a INTEGER (MIN..0 | 5..MAX)` rejects 3 and accepts 0 and 5, the
    named type too, `b OCTET STRING (SIZE(0..2 | 5..MAX))` rejects three octets, a named
    `SEQUENCE (SIZE(0..1 | 3..MAX)) OF` rejects two elements.  Inside `dom`. -/
theorem union_min_max_checked :
    let ti : Ty := .int (some [⟨none, some 0⟩, ⟨some 5, none⟩])
    let t : Ty := .seq (.cons "a" false ti .nil)
    let tb : Ty := .seq (.cons "b" false (.str .octet (some [⟨some 0, some 2⟩, ⟨some 5, none⟩]) none) .nil)
    let tl : Ty := .listOf false (some [⟨some 0, some 1⟩, ⟨some 3, none⟩]) .bool
    check "S" t (.struct [("a", .int 3)]) = .fail "INTEGER" .constraintFailed ∧ satisfies t (.struct [("a", .int 3)]) = false ∧
    dom "S" t (.struct [("a", .int 3)]) = true ∧
    check "S" t (.struct [("a", .int 0)]) = .ok ∧ check "S" t (.struct [("a", .int 5)]) = .ok ∧
    check "N" ti (.int 3) = .fail "N" .constraintFailed ∧ dom "N" ti (.int 3) = true ∧ check "N" ti (.int (-7)) = .ok ∧
    check "S" tb (.struct [("b", .octets [1, 2, 3])]) = .fail "OCTET STRING" .constraintFailed ∧
    dom "S" tb (.struct [("b", .octets [1, 2, 3])]) = true ∧
    check "S" tb (.struct [("b", .octets [1, 2])]) = .ok ∧ check "S" tb (.struct [("b", .octets [1, 2, 3, 4, 5])]) = .ok ∧
    check "L" tl (.list [.bool true, .bool false]) = .fail "L" .constraintFailed ∧
    dom "L" tl (.list [.bool true, .bool false]) = true ∧ check "L" tl (.list [.bool true]) = .ok := by
  decide +kernel

/-- **F86 repaired, the former witness.**  The compiler's default alphabet of BMPString is 0..65535:
    a constrained BMPString accepts the cells FFFE and FFFF like the unconstrained checker does;
    SIZE and FROM are still tested.  Inside `dom`. -/
theorem bmp_all_cells_checked :
    let t : Ty := .str .bmp (some [⟨some 1, some 1⟩]) none
    check "B" t (.octets [0xFF, 0xFF]) = .ok ∧ satisfies t (.octets [0xFF, 0xFF]) = true ∧
    dom "B" t (.octets [0xFF, 0xFF]) = true ∧
    check "B" t (.octets [0xFF, 0xFE]) = .ok ∧
    check "B0" (.str .bmp none none) (.octets [0xFF, 0xFF]) = .ok ∧
    check "B" t (.octets [0xFF, 0xFF, 0, 0x61]) = .fail "B" .constraintFailed ∧
    check "B3" (.str .bmp none (some [⟨some 97, some 122⟩])) (.octets [0xFF, 0xFF]) = .fail "B3" .constraintFailed := by
  decide +kernel

/-- verdicts of the components in member order (absent OPTIONAL ones contribute nothing, an absent
    mandatory one is a failure of the SEQUENCE / SET itself) -/
def memberVerdicts (nm : String) : Members → List (String × Val) → List Verdict
  | .nil, _ => []
  | .cons id opt t rest, fs =>
      (match lookupField id fs with
       | none => if opt then [] else [.fail nm .absent]
       | some v => [memberChk id t v]) ++ memberVerdicts nm rest fs

/-- **walker_finds_first.**  For every SEQUENCE type and every value, SEQUENCE_constraint returns
    the first non-zero verdict in member order — the message therefore names the first failing
    component's type — and 0 if there is none: no component is skipped. -/
theorem walker_finds_first : ∀ (nm : String) (ms : Members) (fs : List (String × Val)),
    walkSeq nm ms fs = ((memberVerdicts nm ms fs).find? (· ≠ .ok)).getD .ok
  | nm, .nil, fs => by simp [walkSeq, memberVerdicts]
  | nm, .cons id opt t rest, fs => by
    have ih := walker_finds_first nm rest fs
    simp only [walkSeq, memberVerdicts]
    cases hl : lookupField id fs with
    | none => cases opt <;> simp [ih]
    | some v =>
      simp only [memberChk]
      cases hv : memberSel id t v (occChk id t v) <;> simp [ih]

/-- **set_walker_finds_first.**  The same for SET_constraint. -/
theorem set_walker_finds_first : ∀ (nm : String) (ms : Members) (fs : List (String × Val)),
    walkSet nm ms fs = ((memberVerdicts nm ms fs).find? (· ≠ .ok)).getD .ok
  | nm, ms, fs => by rw [walkSet_eq_walkSeq]; exact walker_finds_first nm ms fs

/-- **walker_checks_every_member.**  SEQUENCE_constraint / SET_constraint return 0 exactly when no
    mandatory component is absent and the checker of *every* present component returns 0. -/
theorem walker_checks_every_member (nm : String) (ms : Members) (fs : List (String × Val)) :
    (walkSeq nm ms fs = .ok ↔ ∀ r ∈ memberVerdicts nm ms fs, r = .ok) ∧
    (walkSet nm ms fs = .ok ↔ ∀ r ∈ memberVerdicts nm ms fs, r = .ok) := by
  have key : ∀ l : List Verdict, ((l.find? (· ≠ .ok)).getD .ok = .ok ↔ ∀ r ∈ l, r = .ok) := by
    intro l
    induction l with
    | nil => simp
    | cons a l ih =>
      cases a with
      | ok => simpa [List.find?] using ih
      | fail n w => simp [List.find?]
  rw [walker_finds_first, set_walker_finds_first]
  exact ⟨key _, key _⟩

/-- two failing components: the one that comes first in the type is reported -/
example :
    let t : Ty := .seq (.cons "a" false (.int (some [⟨some 0, some 7⟩]))
                       (.cons "b" false (.str .ia5 (some [⟨some 1, some 1⟩]) none)
                       (.cons "c" false (.int (some [⟨some 0, some 7⟩])) .nil)))
    check "T" t (.struct [("c", .int 9), ("b", .octets []), ("a", .int 1)]) = .fail "IA5String" .constraintFailed := by
  decide +kernel

/-! The error buffer (`_asn_i_ctfailcb`, `asn_check_constraints`) -/

/-- **errbuf_bounded.**  With `errlen = 0` the callback stores nothing; with `errlen > 0` it stores
    the first `n = min (errlen - 1) |msg|` octets of the message followed by NUL and leaves `n` in
    `*errlen`. -/
theorem errbuf_bounded (errlen : Nat) (msg : List Nat) :
    (errlen = 0 → ctfail errlen msg = ([], 0)) ∧
    (0 < errlen → ctfail errlen msg =
        (msg.take (min (errlen - 1) msg.length) ++ [0], min (errlen - 1) msg.length)) := by
  unfold ctfail
  constructor
  · intro h; simp [h]
  · intro h
    have h0 : errlen ≠ 0 := by omega
    simp only [h0, if_false]
    by_cases hl : msg.length ≥ errlen
    · have : min (errlen - 1) msg.length = errlen - 1 := by omega
      simp [hl, this]
    · have : min (errlen - 1) msg.length = msg.length := by omega
      simp [hl, this]

/-- … hence the write stays inside `errbuf[0 .. errlen-1]`, ends with NUL, and the reported length
    is below the buffer size -/
theorem errbuf_within (errlen : Nat) (msg : List Nat) (h : 0 < errlen) :
    (ctfail errlen msg).1.length = (ctfail errlen msg).2 + 1 ∧
    (ctfail errlen msg).1.length ≤ errlen ∧ (ctfail errlen msg).2 ≤ errlen - 1 ∧
    (ctfail errlen msg).1.getLast? = some 0 := by
  rw [(errbuf_bounded errlen msg).2 h]
  simp [List.length_take]
  omega

/-- no NUL inside the written text when the message has none -/
theorem errbuf_no_inner_nul (errlen : Nat) (msg : List Nat) (h : 0 < errlen) (hm : ∀ b ∈ msg, b ≠ 0) :
    ∀ b ∈ (ctfail errlen msg).1.take (ctfail errlen msg).2, b ≠ 0 := by
  rw [(errbuf_bounded errlen msg).2 h]
  intro b hb
  simp only at hb
  rw [List.take_append_of_le_length (by simp [List.length_take])] at hb
  exact hm b (List.mem_of_mem_take (List.mem_of_mem_take hb))

/-- `asn_check_constraints`: 0 leaves `*errlen` alone and writes nothing; a failure returns -1 -/
theorem report_contract (errlen : Nat) :
    reportErr none errlen = (0, [], errlen) ∧ ∀ msg, (reportErr (some msg) errlen).1 = -1 := by
  constructor
  · rfl
  · intro msg; simp [reportErr]

end Asn1c.Props.C08
