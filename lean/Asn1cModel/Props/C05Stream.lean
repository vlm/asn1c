import Asn1cModel.Proofs.BerStreamTop
import Asn1cModel.Proofs.BerStreamRefine
import Asn1cModel.Props.C05
/-
  C04 / C05 for the model of the C library's RESTARTABLE BER decoder (Impl/BerStream.lean: ber_check_tags,
  the primitive decoders, OCTET_STRING_decode_ber, SEQUENCE_decode_ber, SET_OF_decode_ber, CHOICE_decode_ber
  with their saved contexts).  Props/C05.lean has the same statements for the abstract protocol and a TLV parser.

  * C04: every decoder, in every saved state, on every input reports consumed ≤ size
    (`stream_consumed_le`); termination is totality of `dec`; the return code is one of the three `Rc`.
  * C05: for descriptor trees in `inDomain` (`tag2el` points into the member table: what the compiler emits) and
    tag chains of ANY length the decoder obeys the restart laws up to the consumed count reported together with
    RC_FAIL (`stream_lawfulRc`), hence every chunk schedule ends with the same return code and – unless that is
    RC_FAIL – the same structure and total consumed count as one-shot decoding (`stream_chunked_eq_oneshot`).
    The primitive decoders obey the exact laws of Impl/Restart.lean (`prim_lawful`).
  * `ber_check_tags` keeps `expect_00_terminators` and `limit_len` in locals; it reports RC_WMORE with nothing
    consumed and the saved step untouched, so a chain is consumed whole or not at all and a restart re-reads it from
    its first tag.  `F160_chunked_eq_oneshot` and `F160_proper_prefix_more` state this for the inputs of finding F160
    (a chunk boundary between the two tags of `[1] EXPLICIT SEQUENCE`).
  * The consumed count reported with RC_FAIL depends on the chunking (`fail_consumed_depends_on_chunking`), which
    is why the exact `Lawful` does not hold for the constructed decoders (`seq_not_lawful`).
-/
namespace Asn1c.Props.C05Stream
open Asn1c Asn1c.Impl.BerTlv Asn1c.Impl.Restart Asn1c.Impl.BerStream Asn1c.Proofs.BerStream

/-- **consumed ≤ size** for every descriptor tree, tag mode, saved state and input -/
theorem stream_consumed_le (td : TD) (tm : Int) (n : Node) (bs : Bytes) : (dec td tm n bs).2.2 ≤ bs.length :=
  dec_le td tm n bs

/-- the top-level decoder `ber_decode` never reports more than it was given, whatever was decoded before -/
theorem berDec_consumed_le (td : TD) (n : Node) (bs : Bytes) : ((berDec td).step n bs).2.2 ≤ bs.length :=
  dec_le td 0 n bs

/-- the return code is RC_OK, RC_WMORE or RC_FAIL (the decoder is a total function into `Rc`) -/
theorem stream_rc_total (td : TD) (n : Node) (bs : Bytes) :
    ((berDec td).step n bs).2.1 = .ok ∨ ((berDec td).step n bs).2.1 = .more ∨ ((berDec td).step n bs).2.1 = .fail := by
  cases ((berDec td).step n bs).2.1 <;> simp

/-- the chunk protocol never over-consumes: total consumed ≤ total presented -/
theorem feed_consumed_le {σ : Type} (d : Dec σ) (hd : ∀ s p, (d.step s p).2.2 ≤ p.length) :
    ∀ (cs : List Bytes) (s : σ) (pend : Bytes) (tot : Nat),
      (feed d s pend tot cs).2.2 ≤ tot + pend.length + cs.flatten.length := by
  intro cs s pend tot
  fun_induction feed d s pend tot cs with
  | case1 => exact Nat.le_add_right _ _
  | case2 s pend tot c cs buf s' k hst ih =>
    have hb : k ≤ buf.length := by simpa only [hst] using hd s buf
    simp only [buf, List.length_drop, List.length_append, List.flatten_cons] at ih hb ⊢
    omega
  | case3 s pend tot c cs buf s' rc k _ hst =>
    have hb : k ≤ buf.length := by simpa only [hst] using hd s buf
    simp only [buf, List.length_append, List.flatten_cons] at hb ⊢
    omega

/-- **chunked = one-shot** for every decoder obeying `LawfulRc`: same return code; same state and same
    total consumed count unless the verdict is RC_FAIL -/
theorem chunked_eq_oneshot_rc {σ : Type} (d : Dec σ) (h : LawfulRc d) :
    ∀ (cs : List Bytes), cs ≠ [] → ∀ (s : σ) (pend : Bytes) (tot : Nat),
      ResEq (feed d s pend tot cs) (shiftR tot (d.step s (pend ++ cs.flatten))) := by
  intro cs hne s pend tot
  refine Asn1c.Proofs.Restart.feed_rel d ResEq ResEq.refl ResEq.trans (fun n _ _ e => ResEq.shift n e)
    (fun s p s1 k hs ext => (h.resume s p s1 k hs ext).symm) (fun s p s1 rc k hrc hs ext => ?_) cs hne s pend tot
  cases rc with
  | more => exact absurd rfl hrc
  | ok => rw [h.ok_stable s p s1 k hs ext]; exact ResEq.refl _
  | fail => exact ResEq.of_fail rfl (h.fail_stable s p s1 k hs ext)

/-- the primitive decoders (BOOLEAN, NULL, NativeInteger, NativeEnumerated, INTEGER, OBJECT IDENTIFIER, … with any
    tag chain and tag mode) obey the exact laws of `Impl.Restart.Lawful` -/
theorem prim_lawful (tags : List Tag) (k : PKind) (tm : Int) : Lawful (⟨decPrim tags k tm⟩ : Dec Node) :=
  decPrim_lawful tags k tm

/-- hence chunked = one-shot exactly (state, return code and total consumed) for them -/
theorem prim_chunked_eq_oneshot (tags : List Tag) (k : PKind) (tm : Int) (c : Bytes) (cs : List Bytes) (s : Node) :
    feed (⟨decPrim tags k tm⟩ : Dec Node) s [] 0 (c :: cs) =
      (let r := decPrim tags k tm s (c :: cs).flatten; (r.1, r.2.1, r.2.2)) := by
  have := Asn1c.Props.C05.chunked_eq_oneshot _ (prim_lawful tags k tm) (c :: cs) s [] 0
  simpa using this

/-- the restart laws for every decoder of an `inDomain` descriptor tree, from every saved state -/
theorem stream_lawfulRc (td : TD) (tm : Int) (h : inDomain td = true) : LawfulRc (⟨dec td tm⟩ : Dec Node) :=
  dec_lawfulRc td tm h

/-- **C05 for `ber_decode`**: on an `inDomain` descriptor tree every chunk schedule, fed by the manual's
    protocol, ends with the same return code as presenting everything at once, and – unless that is RC_FAIL –
    with the same decoded structure and the same total consumed count -/
theorem stream_chunked_eq_oneshot (td : TD) (h : inDomain td = true) (c : Bytes) (cs : List Bytes) (s : Node) :
    ResEq (feed (berDec td) s [] 0 (c :: cs)) ((berDec td).step s (c :: cs).flatten) := by
  have := chunked_eq_oneshot_rc (berDec td) (stream_lawfulRc td 0 h) (c :: cs) (by simp) s [] 0
  simpa [shiftR] using this

/-- a chunked run that ends with RC_OK decoded what the one-shot run decodes and consumed as much -/
theorem stream_chunked_ok (td : TD) (h : inDomain td = true) (c : Bytes) (cs : List Bytes) (s : Node)
    (hok : ((berDec td).step s (c :: cs).flatten).2.1 = .ok) :
    feed (berDec td) s [] 0 (c :: cs) = (berDec td).step s (c :: cs).flatten := by
  have h1 := stream_chunked_eq_oneshot td h c cs s
  exact h1.2 (by rw [h1.1, hok]; simp)

/-- non-vacuity: a SEQUENCE { a BOOLEAN, b OCTET STRING OPTIONAL } descriptor is in the domain -/
def exSeq : TD :=
  .seq [⟨0, 16⟩] [.prim [⟨0, 1⟩] [⟨0, 1⟩] .boolean, .prim [⟨0, 4⟩] [⟨0, 4⟩] (.ostr false)]
    [⟨⟨0, 1⟩, 0, 0, false⟩, ⟨⟨0, 4⟩, 0, 1, false⟩] (-1) [⟨⟨0, 1⟩, 0, 0, 0⟩, ⟨⟨0, 4⟩, 1, 0, 0⟩]

example : inDomain exSeq = true := by decide

/-- **the streaming decoder refines L2 `decBER` on one-tag primitive types**: whenever the reference BER decoder
    accepts a BOOLEAN / NULL / INTEGER / ENUMERATED value (an integer fitting `long`), the C decoder started on a
    fresh structure answers RC_OK, consumes exactly the same octets and stores the same value -/
theorem prim_refines_decBER (t : Tag) (p : Asn1c.L2.Prim) (k : PKind) (hk : kindOf p = some k) (fuel : Nat)
    (bs : Bytes) (hwf : Bytes.wf bs) (v : Asn1c.L2.Val) (rest : Bytes)
    (h : Asn1c.L2.decBER fuel (.prim [t] p) bs = .ok v rest)
    (hfit : ∀ z, v = .int z → Asn1c.Spec.fitsS64 z) :
    ∃ pv, dec (.prim [t] [t] k) 0 .none bs = (.prim (some pv), .ok, bs.length - rest.length) ∧ pvVal pv = v :=
  Asn1c.Proofs.BerStream.prim_refines_decBER t p k hk fuel bs hwf v rest h hfit

/-- `T ::= [1] EXPLICIT SEQUENCE { a BOOLEAN }` as compiled by asn1c (tags `[1]`, `[UNIVERSAL 16]`) -/
def tdF160 : TD :=
  .seq [⟨2, 1⟩, ⟨0, 16⟩] [.prim [⟨0, 1⟩] [⟨0, 1⟩] .boolean] [⟨⟨0, 1⟩, 0, 0, false⟩] (-1) [⟨⟨0, 1⟩, 0, 0, 0⟩]

/-- `a1 80 30 80 01 01 00 00 00 00 00`: the value { a FALSE } with both lengths indefinite -/
def encF160 : Bytes := [0xa1, 0x80, 0x30, 0x80, 0x01, 0x01, 0x00, 0, 0, 0, 0]

/-- the two-tag chain is inside the domain of the theorems -/
theorem F160_in_domain : inDomain tdF160 = true := by decide

/-- presenting the valid encoding at once consumes all 11 octets, and so does feeding `a1 80` first and the rest
    afterwards (before the repair the restarted `ber_check_tags` had forgotten the outer indefinite length: RC_OK
    after 9 octets) -/
theorem F160_chunked_eq_oneshot :
    ((berDec tdF160).step .none encF160).2 = (.ok, 11) ∧
    (feed (berDec tdF160) .none [] 0 [encF160.take 2, encF160.drop 2]).2 = (.ok, 11) := by
  decide

/-- … and a PROPER PREFIX of the valid encoding (its first 9 octets) wants more in one piece and in the chunks
    `a1 80 | …` (it was answered RC_OK) -/
theorem F160_proper_prefix_more :
    ((berDec tdF160).step .none (encF160.take 9)).2.1 = .more ∧
    (feed (berDec tdF160) .none [] 0 [encF160.take 2, (encF160.take 9).drop 2]).2.1 = .more := by
  decide

/-- `a1 07 30 03 01 01 00 00 00`: the outer length 7 contradicts the inner TLV (3 + 2 octets); rejected in one piece
    and in the chunks `a1 07 | …` (the restarted call had forgotten `limit_len` and accepted) -/
theorem F160_inconsistent_lengths_rejected :
    ((berDec tdF160).step .none [0xa1, 0x07, 0x30, 0x03, 0x01, 0x01, 0x00, 0, 0]).2.1 = .fail ∧
    (feed (berDec tdF160) .none [] 0 [[0xa1, 0x07], [0x30, 0x03, 0x01, 0x01, 0x00, 0, 0]]).2.1 = .fail := by
  decide

/-- `G ::= IA5String`, `I ::= [5] IMPLICIT OCTET STRING`, `E ::= [1] EXPLICIT IA5String` as compiled -/
def tdIA5 : TD := .prim [⟨0, 22⟩] [⟨0, 22⟩] (.ostr false)
def tdImpOS : TD := .prim [⟨2, 5⟩] [⟨2, 5⟩, ⟨0, 4⟩] (.ostr false)
def tdExpIA5 : TD := .prim [⟨2, 1⟩, ⟨0, 22⟩] [⟨2, 1⟩, ⟨0, 22⟩] (.ostr false)

/-- finding F58 repaired: the constructed forms X.690 8.7.3.2 / 8.23.6 prescribe (segments tagged UNIVERSAL 4) are
    accepted, also below an explicit tag; the forms accepted before (segments repeating the string's tag) still
    are; a segment with another tag is rejected -/
theorem constructed_string_segments :
    ((berDec tdIA5).step .none [0x36, 6, 4, 1, 0x61, 4, 1, 0x62]).2 = (.ok, 8) ∧
    ((berDec tdIA5).step .none [0x36, 6, 0x16, 1, 0x61, 0x16, 1, 0x62]).2 = (.ok, 8) ∧
    ((berDec tdImpOS).step .none [0xa5, 6, 4, 1, 0x61, 4, 1, 0x62]).2 = (.ok, 8) ∧
    ((berDec tdImpOS).step .none [0xa5, 6, 0x85, 1, 0x61, 0x85, 1, 0x62]).2 = (.ok, 8) ∧
    ((berDec tdExpIA5).step .none [0xa1, 8, 0x36, 6, 4, 1, 0x61, 4, 1, 0x62]).2 = (.ok, 10) ∧
    ((berDec tdIA5).step .none [0x36, 6, 5, 1, 0x61, 4, 1, 0x62]).2.1 = .fail := by
  decide

/-- `S ::= SEQUENCE { a OCTET STRING }` -/
def tdSeqOS : TD :=
  .seq [⟨0, 16⟩] [.prim [⟨0, 4⟩] [⟨0, 4⟩] (.ostr false)] [⟨⟨0, 4⟩, 0, 0, false⟩] (-1) [⟨⟨0, 4⟩, 0, 0, 0⟩]

/-- `30 03 04 05 61`: the inner length 5 does not fit the outer length 3 (invalid) -/
def badSeqOS : Bytes := [0x30, 0x03, 0x04, 0x05, 0x61]

theorem tdSeqOS_in_domain : inDomain tdSeqOS = true := by decide

/-- on an invalid encoding the consumed count reported with RC_FAIL depends on the chunking: 2 when presented
    at once, 4 when the first 4 octets are presented first (the member's RC_WMORE had been ADVANCEd over) -/
theorem fail_consumed_depends_on_chunking :
    ((berDec tdSeqOS).step .none badSeqOS).2 = (.fail, 2) ∧
    (feed (berDec tdSeqOS) .none [] 0 [badSeqOS.take 4, badSeqOS.drop 4]).2 = (.fail, 4) := by
  decide

/-- therefore the exact laws of `Impl.Restart.Lawful` fail for the constructed decoders (inside the domain of
    `stream_chunked_eq_oneshot`): `LawfulRc` is the strongest form that holds -/
theorem seq_not_lawful : ¬ Lawful (berDec tdSeqOS) := by
  intro h
  have h1 : (berDec tdSeqOS).step .none (badSeqOS.take 4) =
      (((berDec tdSeqOS).step .none (badSeqOS.take 4)).1, .more, 4) := by rfl
  have := (h.resume .none (badSeqOS.take 4) _ 4 h1 (badSeqOS.drop 4)).2
  revert this
  decide

end Asn1c.Props.C05Stream
