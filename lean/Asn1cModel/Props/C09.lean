import Asn1cModel.Proofs.CRangeChain
import Asn1cModel.Proofs.CTables
/-
  C09 — PER/OER-visible constraints are the set-theoretic effective constraint.

  Impl  = Impl.CRange (model of libasn1fix/asn1fix_crange.c), Impl.ConsParse (constraint rules of
          asn1p_y.y + asn1constraint_pullup), Impl.CTables (the PER/OER table emitters of asn1c_C.c
          and the -print-constraints printer), tied to the C code by the `asn1c` correspondence
          of vlib/props/c09.py.
  Spec  = Spec.Constraint (X.680 set semantics, X.691 10.3 / X.696 8.2 visibility, layouts).
  Helper lemmas: Proofs/CRange.lean, Proofs/CRangeCompute.lean, Proofs/CRangeChain.lean, Proofs/CTables.lean.

  Domain of the theorems (`DomV`, `Written`, `LitsOK`, non-emptiness):
  * chains of serially applied constraints and type references whose members are built from single
    values, ranges with MIN/MAX, `|`, `^`, `EXCEPT`, parentheses; every member may carry an
    extension marker, with or without extension additions (only the marker of the last one counts:
    the pull-up strips the others, own constraints of a referencing type included);
  * ranges as the grammar writes them (`Written`: lower end a value or MIN, upper end a value or MAX);
  * the constraint as a whole denotes a non-empty set (X.680 forbids the empty one; operands may be
    empty: asn1c's `empty_constraint` flag is then set on the operand and dropped by the union);
  * every literal lies strictly inside the range of the compiler's own 128-bit `asn1c_integer_t`
    (the two limit tests of `_range_split` then never fire), and for the PER table the range is
    narrower than 2^126 (beyond that the emitter's `cover *= 2` loop gives up with FATAL);
  * the model's split loop did not run out of fuel (`computeTop … = .ok r`; never observed).
  Extension additions are invisible to the PER tables (CPR_PER_root_only), to the printed PER-visible
  line (strict PER visibility) and to OER; the flag-less "practical" range that the generated
  validity checker uses keeps them (`AddsInvisible p ∨ NoAdds c`).
-/
namespace Asn1c.Props.C09
open Asn1c.Impl.CRange Asn1c.Impl.CTables Asn1c.Impl.ConsParse Asn1c.Spec.Constraint

/-- **`_range_union`** (sort + merge of overlapping and adjacent leaves) keeps the denoted set and
    yields the canonical form. -/
theorem den_union {l : List Iv} (hg : Good l) (hne : l ≠ []) :
    (∀ y, den (unionIvs l) y = den l y) ∧ Canon (unionIvs l) ∧ Good (unionIvs l) := by
  obtain ⟨h1, h2, h3, _⟩ := unionIvs_spec hg hne
  exact ⟨h1, h3, h2⟩

/-- **`_range_intersection`** (split into pieces, drop the pieces outside `with`) denotes the
    intersection, whatever the strictness / OER flags. -/
theorem den_inter {range wth r : Range} {strict isOer : Bool}
    (hg : Good range.leaves) (hw : Good wth.leaves) (he : range.empty = false) (hwe : wth.empty = false)
    (h : intersection range wth strict isOer = .ok r) :
    (∀ y, den r.els y = (den range.leaves y && den wth.leaves y)) ∧ r.empty = r.els.isEmpty := by
  obtain ⟨h1, _, h3⟩ := intersection_spec hg hw he hwe h
  exact ⟨h1, h3⟩

/-- **The canonical form is a normal form**: two sorted, disjoint, non-adjacent lists of
    well-formed leaves with the same denotation are the same list. -/
theorem canonical_is_normal_form (l₁ l₂ : List Iv) (g₁ : Good l₁) (g₂ : Good l₂) (c₁ : Canon l₁) (c₂ : Canon l₂)
    (h : ∀ y, den l₁ y = den l₂ y) : l₁ = l₂ :=
  canon_unique l₁ l₂ g₁ g₂ c₁ c₂ h

/-- **crange_effective** (INTEGER value constraints).  What
    `asn1constraint_compute_constraint_range` returns for the combined constraints of a type is the
    canonical interval list of the set the standards make visible:
    * PER (tables: CPR_PER_root_only; printed line: strict PER visibility) and, without additions,
      the flag-less "practical" mode: the PER-visible root `Spec.visible`
      (X.691 10.3: EXCEPT ignored, extensible ⇒ root only) and the extensible flag is
      `Spec.extensible` (that of the last serially applied constraint);
    * OER mode: `Spec.oerVisible` (X.696 8.2.4: an extensible constraint is not visible), no flags. -/
theorem crange_effective {p : Params} (hreq : p.req = .value) (hc : p.compat = true) (hn : p.nkm = false)
    {c : Cons} (hd : DomV c) (hw : Written c) (hl : LitsOK c) (hne : ∃ y, visible ISet.univ c y = true)
    (hadd : AddsInvisible p ∨ NoAdds c) {r : Range}
    (h : computeTop p (some (combined c)) = .ok r) :
    if p.strictOER = true then Repr r (oerVisible ISet.univ c) ∧ r.Clean
    else Repr r (visible ISet.univ c) ∧ r.ext = extensible c ∧ r.notPER = false :=
  result_by_mode (value_top hreq hc hn hd hw hl hne hadd h)

/-- **crange_size_effective**: the same for one SIZE constraint `SIZE(root)` / `SIZE(root, ...)` /
    `SIZE(root, ..., additions)` on OCTET STRING-like types (parent set: the naturals). -/
theorem crange_size_effective {p : Params} (hreq : p.req = .size) (hc : p.compat = true) (hn : p.nkm = false)
    {a : Cons} (hs : IsSpec a) (hw : Written a) (hl : LitsOK a) (hne : ∃ y, visible ISet.nat a y = true)
    (hadd : AddsInvisible p ∨ NoAdds a) {r : Range}
    (h : computeTop p (some (combined (.size a))) = .ok r) :
    if p.strictOER = true then Repr r (oerVisible ISet.nat (.size a)) ∧ r.Clean
    else Repr r (visible ISet.nat (.size a)) ∧ r.ext = extensible (.size a) ∧ r.notPER = false :=
  result_by_mode (size_top hreq hc hn hs hw hl hne hadd h)

/-- **crange_hull**: `left`/`right` of the computed range are the lower/upper bound of
    the effective constraint (MIN/MAX exactly when the set is unbounded on that side) -/
theorem crange_hull {p : Params} (hreq : p.req = .value) (hc : p.compat = true) (hn : p.nkm = false)
    {c : Cons} (hd : DomV c) (hw : Written c) (hl : LitsOK c) (hne : ∃ y, visible ISet.univ c y = true)
    (hadd : AddsInvisible p ∨ NoAdds c) {r : Range}
    (h : computeTop p (some (combined c)) = .ok r) :
    let S := if p.strictOER = true then oerVisible ISet.univ c else visible ISet.univ c
    LowerBound S r.left.bound ∧ UpperBound S r.right.bound ∧ r.left ≠ .max ∧ r.right ≠ .min := by
  have hr := (value_top hreq hc hn hd hw hl hne hadd h).1
  exact ⟨hr.lowerBound.1, hr.upperBound.1, hr.lowerBound.2, hr.upperBound.2⟩

/-- **per_table_eq_layout**: the `asn_per_constraint_t` emitted for a canonical range of the set
    `S` is the X.691 layout of the effective constraint (lb, ub) of `S`:
    no lower bound → unconstrained; lower bound only → semi-constrained at lb; both → constrained
    with `range_bits` = the least n with ub − lb + 1 ≤ 2^n (for ranges narrower than 2^126: the
    emitter computes in the 128-bit `asn1c_integer_t`).  The extensible flag (X.691 12.1: the
    extension bit) is the range's in every form. -/
theorem per_table_eq_layout {r : Range} {S : ISet} (hr : Repr r S) (hnp : r.notPER = false)
    {lb ub : Option Int} (hlb : LowerBound S lb) (hub : UpperBound S ub) :
    match perForm lb ub with
    | .unconstrained => perConstraint (some r) = ⟨.unconstrained, r.ext, -1, -1, 0, 0⟩
    | .semi l => perConstraint (some r) = ⟨.semi, r.ext, -1, -1, l, 0⟩
    | .constrained l u => u - l < 2 ^ 126 →
      ∃ n : Nat, IsRangeBits (u - l + 1) n ∧
        perConstraint (some r) = ⟨.constrained, r.ext, n, effBits (1 + u - l) u, l, u⟩ := by
  obtain ⟨rfl, rfl⟩ := hr.bounds hlb hub
  unfold perConstraint
  simp only [hr.incompat, hnp, Bool.or_self, Bool.false_eq_true, if_false, hr.empty]
  -- only with both edges values is there anything to compute
  cases r.left <;> cases r.right <;> simp only [perForm, Edge.bound]
  next l u =>
    intro hwide
    obtain ⟨n, hn1, hn2⟩ := rangeBits_spec (r := 1 + u - l) (by omega)
    exact ⟨n, (show 1 + u - l = u - l + 1 by omega) ▸ hn2, by rw [hn1]⟩

/-- for SIZE constraints (lb ≥ 0) `effective_bits` follows X.691 10.9.4.1: the constrained whole
    number form (same bit count) when ub < 64K, the general length determinant (−1) otherwise -/
theorem per_size_effective_bits {l u : Int} (hl : 0 ≤ l) (hlu : l ≤ u) (hu : u < 9223372036854775807) :
    effBits (1 + u - l) u = if sizeIsConstrainedNumber u then rangeBits (1 + u - l) else -1 := by
  have _ := hlu
  have h64 : u ≤ (2:Int) ^ 64 := by omega
  rw [effBits_spec hl h64]
  simp [sizeIsConstrainedNumber]

/-- **oer_table_eq_layout**: the `asn_oer_constraints_t` fields emitted for a canonical range
    without OER-invisible parts are the X.696 10.2 width/sign of the effective constraint (bounds
    beyond 64 bits included: variable length), and the fixed size of X.696 13/14/17
    (−1 = length determinant). -/
theorem oer_table_eq_layout {r : Range} {S : ISet} (hr : Repr r S) (hno : r.notOER = false)
    {lb ub : Option Int} (hlb : LowerBound S lb) (hub : UpperBound S ub) :
    oerValue (some r) = ⟨(oerWidth lb ub).1, if (oerWidth lb ub).2 then 1 else 0⟩ ∧
    ((∀ y, S y = true → 0 ≤ y) → oerSize (some r) = (oerFixedSize lb ub).getD (-1)) := by
  obtain ⟨rfl, rfl⟩ := hr.bounds hlb hub
  unfold oerValue oerSize
  simp only [hr.incompat, hno, Bool.or_self, Bool.false_eq_true, if_false]
  cases hl : r.left with
  | min | max => simp [oerWidth, oerFixedSize, Edge.bound]
  | val l =>
    cases hu : r.right with
    | min => exact absurd hu hr.upperBound.2
    | max =>
      refine ⟨?_, fun _ => by simp [oerFixedSize, Edge.bound]⟩
      by_cases h0 : 0 ≤ l <;> simp [oerWidth, Edge.bound, h0]
    | val u =>
      rw [hl] at hlb; rw [hu] at hub
      refine ⟨?_, fun hnat => ?_⟩
      · simp only [oerWidth, Edge.bound, ge_iff_le]
        -- the width tests of `emit_single_member_OER_constraint_value` are written with the limits of the C types,
        -- `u ≤ 2^n - 1`; as strict comparisons they are those of X.696 10.2
        by_cases h0 : 0 ≤ l
        · simp only [h0, if_true, ← Int.lt_add_one_iff, Int.reduceAdd, Int.reducePow]
        · simp only [h0, if_false, Bool.and_eq_true, decide_eq_true_eq, ← Int.lt_add_one_iff, Int.reduceAdd,
            Int.reducePow, Int.reduceNeg, Bool.false_eq_true]
      · have h0 : 0 ≤ l := hnat l hlb.1
        simp only [oerFixedSize, Edge.bound]
        by_cases heq : l = u
        · subst heq; simp [h0]
        · simp [heq]

/-- the parameters of `asn1constraint_compute_PER_range` as `emit_member_PER_constraints` calls it for an INTEGER
    value request: CPR_PER_root_only -/
def perP : Params := { req := .value, rootOnly := true }
/-- the parameters of `asn1constraint_compute_OER_range` for an INTEGER value request: CPR_strict_OER_visibility -/
def oerP : Params := { req := .value, strictOER := true }

/-- **same_set_same_layout** (INTEGER): two constraints of the domain that asn1c accepts,
    with the same PER-visible root set and the same extensibility, get the same
    `asn_per_constraint_t`; with the same OER-visible set, the same `asn_oer_constraints_t` value
    part — hence (with the codecs reading only these tables) identical encodings of every value.
    For EXCEPT-free constraints the visible root is the root (`visible_eq_root`). -/
theorem same_set_same_layout {c₁ c₂ : Cons} (d₁ : DomV c₁) (d₂ : DomV c₂)
    (w₁ : Written c₁) (w₂ : Written c₂) (l₁ : LitsOK c₁) (l₂ : LitsOK c₂)
    (n₁ : ∃ y, visible ISet.univ c₁ y = true)
    {p₁ p₂ o₁ o₂ : Range}
    (hp₁ : computeTop perP (some (combined c₁)) = .ok p₁) (hp₂ : computeTop perP (some (combined c₂)) = .ok p₂)
    (ho₁ : computeTop oerP (some (combined c₁)) = .ok o₁) (ho₂ : computeTop oerP (some (combined c₂)) = .ok o₂)
    (hvis : ∀ y, visible ISet.univ c₁ y = visible ISet.univ c₂ y) (hext : extensible c₁ = extensible c₂)
    (hoer : ∀ y, oerVisible ISet.univ c₁ y = oerVisible ISet.univ c₂ y) :
    emitTables true false false (some (combined c₁)) = emitTables true false false (some (combined c₂)) := by
  have n₂ : ∃ y, visible ISet.univ c₂ y = true := by
    obtain ⟨y, hy⟩ := n₁; exact ⟨y, by rw [← hvis y]; exact hy⟩
  have aP : AddsInvisible perP := Or.inr (Or.inl rfl)
  have aO : AddsInvisible oerP := Or.inl rfl
  -- `perP` and `oerP` are closed, so the mode test of `crange_effective` computes
  obtain ⟨ra₁, ea₁, na₁⟩ := crange_effective (p := perP) rfl rfl rfl d₁ w₁ l₁ n₁ (Or.inl aP) hp₁
  obtain ⟨ra₂, ea₂, na₂⟩ := crange_effective (p := perP) rfl rfl rfl d₂ w₂ l₂ n₂ (Or.inl aP) hp₂
  obtain ⟨rb₁, cb₁⟩ := crange_effective (p := oerP) rfl rfl rfl d₁ w₁ l₁ n₁ (Or.inl aO) ho₁
  obtain ⟨rb₂, cb₂⟩ := crange_effective (p := oerP) rfl rfl rfl d₂ w₂ l₂ n₂ (Or.inl aO) ho₂
  obtain ⟨_, u1, u2⟩ := ra₁.unique ra₂ hvis
  obtain ⟨_, v1, v2⟩ := rb₁.unique rb₂ hoer
  have hP : perConstraint (some p₁) = perConstraint (some p₂) := by
    simp only [perConstraint, ra₁.incompat, ra₂.incompat, na₁, na₂, u1, u2, ra₁.empty, ra₂.empty, ea₁, ea₂, hext]
  have hO : oerValue (some o₁) = oerValue (some o₂) := by
    simp only [oerValue, rb₁.incompat, rb₂.incompat, cb₁.2.1, cb₂.2.1, v1, v2]
  unfold perP at hp₁ hp₂
  unfold oerP at ho₁ ho₂
  simp only [emitTables, hp₁, hp₂, ho₁, ho₂, resRange, hP, hO]
  rfl

/-- no `EXCEPT` anywhere the PER-visible root looks: X.691 10.3 ignores an exclusion, so only without one is the
    visible root the set the constraint denotes -/
def NoExcept : Cons → Prop
  | .except _ _ => False
  | .union a b => NoExcept a ∧ NoExcept b
  | .inter a b => NoExcept a ∧ NoExcept b
  | .paren a => NoExcept a
  | .size a => NoExcept a
  | .ext r => NoExcept r
  | .exta r _ => NoExcept r
  | .serial a b => NoExcept a ∧ NoExcept b
  | .refine a b => NoExcept a ∧ NoExcept b
  | _ => True

/-- without EXCEPT the PER-visible root is the X.680 root set -/
theorem visible_eq_root : ∀ (c : Cons) (P : ISet), NoExcept c → visible P c = root P c := by
  intro c
  induction c with
  | single v | range lo hi => intro P _; rfl
  | union a b iha ihb | inter a b iha ihb => intro P h; simp only [visible, root, iha P h.1, ihb P h.2]
  | except a b _ _ => intro P h; exact h.elim
  | paren a ih | size a ih | ext a ih | exta a b ih _ => intro P h; exact ih P h
  | serial a b iha ihb | refine a b iha ihb => intro P h; simp only [visible, root, iha P h.1, ihb _ h.2]

/-- **F11** (repaired) `INTEGER (1..5, ..., 7..9)`: the extension addition 7..9 no longer ends up in
    the PER root: (1..5,...) / 3 bits, the effective root; the flag-less "practical" range of the
    validity checker still holds the additions (7..9 are values of the type). -/
theorem ext_addition_root_only :
    let c := Cons.exta (.range (.val 1) (.val 5)) (.range (.val 7) (.val 9))
    (emitTables true false false (some (combined c))).perValue = ⟨.constrained, true, 3, 3, 1, 5⟩ ∧
    UpperBound (visible ISet.univ c) (some 5) ∧ IsRangeBits 5 3 ∧
    computeTop { req := .value } (some (combined c)) =
      .ok { left := .val 1, right := .val 9, els := [⟨.val 1, .val 5⟩, ⟨.val 7, .val 9⟩], ext := true, notOER := true } := by
  refine ⟨by decide +kernel, ⟨by decide +kernel, fun x hx => ?_⟩, ⟨by decide +kernel, fun j hj => ?_⟩, by decide +kernel⟩
  · simp [visible, End.below, End.above, ISet.univ] at hx; omega
  · have : j = 0 ∨ j = 1 ∨ j = 2 := by omega
    rcases this with rfl | rfl | rfl <;> decide

/-- **F91** (repaired) `T1 ::= INTEGER (1..5)`, `T2 ::= T1 (1..5, ...)(2..3)`: `_remove_extensions`
    is applied to the own constraints of a referencing type as well, only the last one keeps its
    marker (X.680 50.x): T2 is (2..3), not extensible. -/
theorem own_nonlast_marker_dropped :
    let c := Cons.refine (.range (.val 1) (.val 5)) (.serial (.ext (.range (.val 1) (.val 5))) (.range (.val 2) (.val 3)))
    (emitTables true false false (some (combined c))).perValue = ⟨.constrained, false, 1, 1, 2, 3⟩ ∧
    extensible c = false := by
  exact ⟨by decide +kernel, rfl⟩

/-- **F92** (repaired) `INTEGER (1..5 ^ 7..9 | 12)`: the empty first operand no longer leaves
    `empty_constraint` set on the whole union; the type denotes {12} and is emitted as such. -/
theorem empty_operand_in_union :
    let c := Cons.union (.inter (.range (.val 1) (.val 5)) (.range (.val 7) (.val 9))) (.single 12)
    (emitTables true false false (some (combined c))).perValue = ⟨.constrained, false, 0, 0, 12, 12⟩ ∧
    LowerBound (visible ISet.univ c) (some 12) ∧ UpperBound (visible ISet.univ c) (some 12) := by
  refine ⟨by decide +kernel, ⟨by decide +kernel, fun x hx => ?_⟩, ⟨by decide +kernel, fun x hx => ?_⟩⟩ <;>
  · simp [visible, End.below, End.above, ISet.univ] at hx; omega

/-- **F93** (repaired) `INTEGER (0..18446744073709551616)`: the OER width test no longer casts the
    upper bound to `unsigned long long`; beyond 2^64−1 there is no fixed width (X.696 10.2). -/
theorem oer_width_above_2_64 :
    let c := Cons.range (.val 0) (.val 18446744073709551616)
    (emitTables true false false (some (combined c))).oerValue = ⟨0, 1⟩ ∧
    oerWidth (some 0) (some 18446744073709551616) = (0, true) := by
  exact ⟨by decide +kernel, by decide +kernel⟩

/-- **F94** (repaired) `INTEGER (MIN..5, ...)`: without a lower bound asn1c emits
    APC_UNCONSTRAINED | APC_EXTENSIBLE: the extension bit of X.691 12.1 is produced. -/
theorem unbounded_extensible_keeps_bit :
    let c := Cons.ext (.range .min (.val 5))
    (emitTables true false false (some (combined c))).perValue = ⟨.unconstrained, true, -1, -1, 0, 0⟩ ∧
    extensible c = true := by
  exact ⟨by decide +kernel, rfl⟩

/-- **F95** (repaired) `INTEGER ((2..9223372036854775807 | 9223372036854775809))`: `_range_split`
    stops at the limits of the 128-bit `asn1c_integer_t`, not at INTMAX_MAX: the piece of the parent
    (MIN..MAX) above 2^63−1 is kept and with it the value 2^63+1 of the constraint. -/
theorem split_beyond_intmax :
    let c := Cons.paren (.union (.range (.val 2) (.val 9223372036854775807)) (.single 9223372036854775809))
    computeTop perP (some (combined c)) =
      .ok { left := .val 2, right := .val 9223372036854775809,
            els := [⟨.val 2, .val 9223372036854775807⟩, ⟨.val 9223372036854775809, .val 9223372036854775809⟩] } ∧
    visible ISet.univ c 9223372036854775809 = true := by
  exact ⟨by decide +kernel, by decide +kernel⟩

/-- the hypotheses of the theorems are satisfiable: `T1 ::= INTEGER (1..10 | 20)`,
    `T2 ::= T1 ((2..5) ^ (3..8), ...)` -/
example :
    let c := Cons.refine (.union (.range (.val 1) (.val 10)) (.single 20))
               (.ext (.inter (.paren (.range (.val 2) (.val 5))) (.paren (.range (.val 3) (.val 8)))))
    DomV c ∧ Written c ∧ LitsOK c ∧ visible ISet.univ c 3 = true ∧ NoAdds c ∧
    computeTop perP (some (combined c)) = .ok { left := .val 3, right := .val 5, ext := true, notOER := true } ∧
    computeTop oerP (some (combined c)) = .ok { left := .val 1, right := .val 20, els := [⟨.val 1, .val 10⟩, ⟨.val 20, .val 20⟩] } := by
  refine ⟨?_, ?_, ?_, by decide +kernel, ?_, by decide +kernel, by decide +kernel⟩
  · simp [DomV, IsChainAny, IsLevelAny, IsSpec, IsElem]
  · simp [Written]
  · simp [LitsOK, EndOK, ASN_INTEGER_MIN, ASN_INTEGER_MAX]
  · intro s hs r a; simp [specs] at hs; rcases hs with rfl | rfl <;> simp

/-- … also with markers that the pull-up strips, on own constraints of a referencing type too, with
    an empty operand and with extension additions:
    `T1 ::= INTEGER (1..10, ...)(2..8, ...)`, `T2 ::= T1 (MIN..5, ..., 20)(3..4 ^ 5 | 2..4, ..., 5)` is
    (2..4,...) for PER, (2..5) for OER -/
example :
    let c := Cons.refine (.serial (.ext (.range (.val 1) (.val 10))) (.ext (.range (.val 2) (.val 8))))
               (.serial (.exta (.range .min (.val 5)) (.single 20))
                 (.exta (.union (.inter (.range (.val 3) (.val 4)) (.single 5)) (.range (.val 2) (.val 4))) (.single 5)))
    DomV c ∧ Written c ∧ LitsOK c ∧ extensible c = true ∧ visible ISet.univ c 2 = true ∧
    computeTop perP (some (combined c)) = .ok { left := .val 2, right := .val 4, ext := true, notOER := true } ∧
    computeTop oerP (some (combined c)) = .ok { left := .val 2, right := .val 5 } := by
  refine ⟨?_, ?_, ?_, rfl, by decide +kernel, by decide +kernel, by decide +kernel⟩
  · simp [DomV, IsChainAny, IsLevelAny, IsSpec, IsElem]
  · simp [Written]
  · simp [LitsOK, EndOK, ASN_INTEGER_MIN, ASN_INTEGER_MAX]

end Asn1c.Props.C09
