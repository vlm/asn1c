import Asn1cModel.Proofs.Application
/-
  C07 — Encoder API contract: exact size accounting, bounded writes, clean failure.
  Impl.Application = model of skeletons/asn_application.c, tied to the C code by the generated-module
  correspondence of vlib/props/c07.py (`encraw` run observed on C ↦ predicted wrapper outputs).
  Vocabulary: Spec/EncoderApi.lean; the callbacks one at a time: Proofs/Application.lean.

  An encoder is an arbitrary interaction tree `Enc` (it emits chunks, sees only whether the callback
  returned < 0, and returns `ok claimed` / `fail`), so every theorem quantifies over all chunk lists of
  all lengths; `Enc.ofRun chunks out` is the well-behaved encoder with a given fault-free run.
-/
namespace Asn1c.Props.C07
open Asn1c Asn1c.Impl.Application Asn1c.Spec.EncoderApi Asn1c.Proofs.Application

/-! ## encoder shapes that meet the obligation (the `ASN__CALLBACK` / "return er on -1" idioms) -/

/-- `if(cb(chunk) < 0) ASN__ENCODE_FAILED;` then continue -/
def step (c : Bytes) (k : Enc) : Enc := .emit c k (.ret (.fail .hasEnc))

/-- `er = sub(...); if(er.encoded == -1) return er; … continue with the count` -/
def andThen : Enc → (Nat → Enc) → Enc
  | .ret (.ok n), g => g n
  | .ret (.fail b), _ => .ret (.fail b)
  | .emit c k f, g => .emit c (andThen k g) (andThen f g)

theorem step_propagates (c : Bytes) (k : Enc) (h : Propagates k) : Propagates (step c k) := ⟨rfl, h⟩

theorem andThen_failsEventually (e : Enc) (g : Nat → Enc) (h : FailsEventually e) : FailsEventually (andThen e g) := by
  induction e with
  | ret o => cases h; exact rfl
  | emit c k f ihk ihf => exact ⟨ihk h.1, ihf h.2⟩

/-- sequencing members (SEQUENCE, SEQUENCE OF, tags-then-contents) preserves the obligation -/
theorem andThen_propagates (e : Enc) (g : Nat → Enc) (he : Propagates e) (hg : ∀ n, Propagates (g n)) :
    Propagates (andThen e g) := by
  induction e with
  | ret o => cases o with
    | ok n => exact hg n
    | fail b => trivial
  | emit c k f ihk _ => exact ⟨andThen_failsEventually f g he.1, ihk he.2⟩

theorem run_andThen {σ : Type} (cb : Callback σ) (e : Enc) (g : Nat → Enc) (s : σ) :
    (andThen e g).run cb s =
      match e.run cb s with
      | (s', .ok n) => (g n).run cb s'
      | (s', .fail b) => (s', .fail b) := by
  fun_induction Enc.run cb e s with
  | case1 o => cases o <;> rfl
  | case2 _ _ _ _ _ hr ih => rw [andThen, Enc.run, if_pos hr, ih]
  | case3 _ _ _ _ _ hr ih => rw [andThen, Enc.run, if_neg hr, ih]

theorem trace_andThen (e : Enc) (g : Nat → Enc) :
    (andThen e g).trace = e.trace ++ match e.result with
      | .ok n => (g n).trace
      | .fail _ => [] := by
  induction e with
  | ret o => cases o <;> rfl
  | emit c k f ihk _ => simp only [andThen, Enc.trace, Enc.result, ihk, List.cons_append]

theorem result_andThen (e : Enc) (g : Nat → Enc) :
    (andThen e g).result = match e.result with
      | .ok n => (g n).result
      | .fail b => .fail b := by
  induction e with
  | ret o => cases o <;> rfl
  | emit c k f ihk _ => exact ihk

/-- an unchecked callback (`asn_put_aligned_flush(&preamble);` in SEQUENCE_encode_oer) breaks the obligation
    as soon as the rest of the encoder can still succeed -/
theorem unchecked_emit_not_propagates (c : Bytes) (k : Enc) (n : Nat) (h : k.result = .ok n) (hk : k.trace = []) :
    ¬ Propagates (.emit c k k) := by
  intro ⟨hf, _⟩
  cases k with
  | ret o => cases hf; cases h
  | emit c' k' f' => cases hk

theorem trace_ofRun (chunks : List Bytes) (out : Outcome) : (Enc.ofRun chunks out).trace = chunks := by
  induction chunks with
  | nil => rfl
  | cons c cs ih => simp [Enc.ofRun, Enc.trace, ih]

theorem result_ofRun (chunks : List Bytes) (out : Outcome) : (Enc.ofRun chunks out).result = out := by
  induction chunks with
  | nil => rfl
  | cons c cs ih => simp [Enc.ofRun, Enc.result, ih]

/-- the obligation is satisfiable for every chunk list: `Enc.ofRun` propagates -/
theorem ofRun_propagates (chunks : List Bytes) (out : Outcome) : Propagates (Enc.ofRun chunks out) := by
  induction chunks with
  | nil => trivial
  | cons c cs ih => exact ⟨rfl, ih⟩

/-! ## asn_encode_internal: what reaches the callback, what is reported -/

/-- what `asn_encode_internal` does after `uper_encode` has returned `bits`: an encoding of 0 bits is completed by
    one zero octet, handed to the callback like any other chunk (X.691 #11.1); bits become octets -/
def uperTail (bits : Nat) : Enc :=
  if bits = 0 then step [0] (.ret (.ok 1)) else .ret (.ok ((bits + 7) / 8))

/-- the selected encoder as `asn_encode_internal` runs it -/
def internalEnc : Syntax → Enc → Enc
  | .basicUper, e | .canonicalUper, e => andThen e uperTail
  | _, e => e

theorem internalEnc_cases {P : Enc → Prop} (syn : Syntax) (e : Enc) (h : P e) (hu : P (andThen e uperTail)) :
    P (internalEnc syn e) := by
  unfold internalEnc
  split <;> assumption

theorem internalEnc_propagates (syn : Syntax) (e : Enc) (h : Propagates e) : Propagates (internalEnc syn e) :=
  internalEnc_cases syn e h <| andThen_propagates e _ h fun bits => by
    unfold uperTail; split
    · exact step_propagates _ _ trivial
    · trivial

theorem internal_standard {σ : Type} (syn : Syntax) (hs : Standard syn) (ops : TypeOps) (cb : Callback σ) (s : σ) :
    asnEncodeInternal syn (some ops) cb s = stdBranch cb s ((selected syn ops).map (internalEnc syn)) := by
  have huper : asnEncodeInternal .basicUper (some ops) cb s = stdBranch cb s (ops.uper.map (andThen · uperTail)) := by
    unfold asnEncodeInternal
    dsimp only
    cases ops.uper with
    | none => rfl
    | some e =>
      simp only [Option.map, stdBranch, run_andThen]
      rcases e.run cb s with ⟨s', o⟩
      cases o with
      | fail b => rfl
      | ok bits =>
        by_cases hb : bits = 0
        · subst hb
          simp only [uperTail, step, Enc.run, if_true]
          split <;> rfl
        · simp only [uperTail, hb, if_false, Enc.run]
  cases syn
  -- both UPER syntaxes take the same branch of the `switch`, so `huper` is either's statement up to unfolding
  case basicUper | canonicalUper => exact huper
  case plaintext | random | cer | invalid => exact hs.elim
  -- the byte-oriented syntaxes: `internalEnc syn` is the identity
  all_goals exact congrArg (stdBranch cb s) Option.map_id'.symm

/-- `asn_encode_internal` treats all callbacks that never fail alike: each sees `delivered`, and the call returns
    `reported` (which are what the recording callback sees and gets) -/
theorem internal_neverFails {σ : Type} (cb : Callback σ) (h : NeverFails cb) (syn : Syntax) (ops : Option TypeOps) (s : σ) :
    asnEncodeInternal syn ops cb s = (foldCb cb s (delivered syn ops), reported syn ops) := by
  unfold delivered reported
  cases ops with
  | none => rfl
  | some ops =>
    by_cases hs : Standard syn
    · simp only [internal_standard syn hs]
      cases (selected syn ops).map (internalEnc syn) with
      | none => rfl
      | some e => simp only [stdBranch_neverFails _ h, stdBranch_neverFails _ recordCb_neverFails, foldCb_record,
          List.nil_append]
    · cases syn
      case plaintext =>
        -- the chunks go through `callback_count_bytes_cb`, then a newline is added
        unfold asnEncodeInternal
        dsimp only
        cases ops.print with
        | none => rfl
        | some e =>
          simp only [run_neverFails _ (countBytes_neverFails cb h),
            run_neverFails _ (countBytes_neverFails _ recordCb_neverFails), foldCb_countBytes _ h,
            foldCb_countBytes _ recordCb_neverFails, foldCb_record]
          cases e.result with
          | fail b => rfl
          | ok n => simp [countBytesCb, h _ [10], recordCb, foldCb_append]
      case random | cer | invalid => rfl
      -- the other syntaxes are `Standard`
      all_goals exact absurd trivial hs

theorem delivered_reported_standard (syn : Syntax) (hs : Standard syn) (ops : TypeOps) (e : Enc)
    (h : selected syn ops = some e) :
    delivered syn (some ops) = (internalEnc syn e).trace ∧
    reported syn (some ops) = (match (internalEnc syn e).result with
      | .ok n => ⟨(n : Int), none⟩
      | .fail b => ⟨-1, some (errnoOfBlame b)⟩) := by
  unfold delivered reported
  rw [internal_standard syn hs, h, Option.map_some, stdBranch_neverFails _ recordCb_neverFails, foldCb_record]
  exact ⟨rfl, rfl⟩

/-- BER/DER, OER, XER: the callback receives exactly the encoder's chunks; the encoder's count is passed through;
    an encoder failure becomes -1 with EBADF (failed_type has the encoder) or ENOENT. -/
theorem delivered_reported_bytewise (syn : Syntax) (ops : TypeOps) (e : Enc)
    (hs : syn = .ber ∨ syn = .der ∨ syn = .basicOer ∨ syn = .canonicalOer ∨ syn = .basicXer ∨ syn = .canonicalXer)
    (h : selected syn ops = some e) :
    delivered syn (some ops) = e.trace ∧
    reported syn (some ops) = (match e.result with
      | .ok n => ⟨(n : Int), none⟩
      | .fail b => ⟨-1, some (errnoOfBlame b)⟩) := by
  obtain ⟨hstd, hint⟩ : Standard syn ∧ internalEnc syn e = e := by
    rcases hs with rfl | rfl | rfl | rfl | rfl | rfl <;> exact ⟨trivial, rfl⟩
  have := delivered_reported_standard syn hstd ops e h
  rwa [hint] at this

/-- UPER: bits are converted to octets; an encoding of 0 bits is completed by one zero octet (X.691 §11.1). -/
theorem delivered_reported_uper (syn : Syntax) (ops : TypeOps) (e : Enc)
    (hs : syn = .basicUper ∨ syn = .canonicalUper) (h : ops.uper = some e) :
    delivered syn (some ops) = e.trace ++ (if e.result = .ok 0 then [[0]] else []) ∧
    reported syn (some ops) = (match e.result with
      | .ok bits => ⟨if bits = 0 then 1 else (((bits + 7) / 8 : Nat) : Int), none⟩
      | .fail b => ⟨-1, some (errnoOfBlame b)⟩) := by
  obtain ⟨hstd, hsel, hint⟩ : Standard syn ∧ selected syn ops = some e ∧ internalEnc syn e = andThen e uperTail := by
    rcases hs with rfl | rfl <;> exact ⟨trivial, h, rfl⟩
  obtain ⟨hd, hr⟩ := delivered_reported_standard syn hstd ops e hsel
  rw [hd, hr, hint, trace_andThen, result_andThen]
  cases e.result with
  | fail b => simp
  | ok bits => by_cases hb : bits = 0 <;> simp [uperTail, hb, step, Enc.trace, Enc.result]

/-- the XER flag mapping of `asn_encode_internal`: BASIC-XER ↦ XER_F_BASIC, CANONICAL-XER ↦ XER_F_CANONICAL -/
theorem xerFlags_spec : xerFlags .basicXer = XER_F_BASIC ∧ xerFlags .canonicalXer = XER_F_CANONICAL := by decide

/-- errno of the calls that cannot encode at all -/
theorem errno_without_encoder :
    reported .der none = ⟨-1, some .EINVAL⟩ ∧                                    -- !td || !sptr
    (∀ ops, reported .cer (some ops) = ⟨-1, some .ENOENT⟩) ∧
    (∀ ops, reported .random (some ops) = ⟨-1, some .ENOENT⟩) ∧
    (∀ ops, reported .invalid (some ops) = ⟨-1, some .ENOENT⟩) ∧
    (∀ syn ops, Standard syn → selected syn ops = none → reported syn (some ops) = ⟨-1, some .ENOENT⟩) := by
  refine ⟨rfl, fun _ => rfl, fun _ => rfl, fun _ => rfl, fun syn ops hs h => ?_⟩
  unfold reported
  rw [internal_standard syn hs, h]
  rfl

/-! ## 1. asn_encode_to_buffer: the reported size does not depend on the buffer size -/

/-- closed form of `asn_encode_to_buffer` for every memory image and size: the key is what `overrun_encoder_cb`
    makes of the delivered chunks -/
theorem toBuffer_closed (syn : Syntax) (ops : Option TypeOps) (mem : Bytes) (n : Nat) :
    asnEncodeToBuffer syn ops (some mem) n =
      if BadAccounting syn ops then .abort
      else .done (foldCb overrunCb ⟨mem, n, 0, 0⟩ (delivered syn ops), reported syn ops) := by
  simp only [asnEncodeToBuffer, reduceCtorEq, and_false, if_false, Option.getD_some,
    internal_neverFails overrunCb overrunCb_neverFails, overrun_computed, Nat.zero_add]
  rfl

/-- what `asn_encode_to_buffer` returns — a function of the syntax and the encoder only, not of the buffer:
    the encoder's (converted) count, or an `assert` abort when the encoder's accounting is wrong -/
def toBufferRet (syn : Syntax) (ops : Option TypeOps) : Api Rval :=
  if BadAccounting syn ops then .abort else .done (reported syn ops)

/-- **size independence**: for every buffer (any size `buf.length`, anything behind it) the call returns the same value -/
theorem to_buffer_size_independent (syn : Syntax) (ops : Option TypeOps) (buf tail : Bytes) :
    (asnEncodeToBuffer syn ops (some (buf ++ tail)) buf.length).map Prod.snd = toBufferRet syn ops := by
  rw [toBuffer_closed]
  unfold toBufferRet
  split <;> rfl

/-- … and that value, when non-negative, is the number of octets handed to the callback: Σ|chunk|, for every n -/
theorem to_buffer_encoded_eq_total (syn : Syntax) (ops : Option TypeOps) (buf tail : Bytes) (key : OverrunKey) (r : Rval)
    (h : asnEncodeToBuffer syn ops (some (buf ++ tail)) buf.length = .done (key, r)) (hr : 0 ≤ r.encoded) :
    r.encoded = (total (delivered syn ops) : Int) ∧ r = reported syn ops := by
  rw [toBuffer_closed] at h
  split at h
  · cases h
  · rename_i hn
    cases h
    exact ⟨(accurate_iff_not_bad syn ops).mpr hn hr, rfl⟩

/-- with an encoder whose accounting is exact the accounting `assert` never fires -/
theorem to_buffer_accurate (syn : Syntax) (ops : Option TypeOps) (hA : Accurate syn ops) :
    toBufferRet syn ops = .done (reported syn ops) := by
  unfold toBufferRet
  rw [if_neg ((accurate_iff_not_bad syn ops).mp hA)]

/-- chunk-list form: a DER/OER/XER encoder delivering `chunks` and claiming their total ⇒ `.encoded = Σ|chunk|` for every n -/
theorem to_buffer_size_independent_chunks (chunks : List Bytes) (buf tail : Bytes) :
    (asnEncodeToBuffer .der (some (TypeOps.all (Enc.ofRun chunks (.ok (total chunks))))) (some (buf ++ tail)) buf.length).map Prod.snd
      = .done ⟨(total chunks : Int), none⟩ := by
  obtain ⟨hd, hr⟩ := delivered_reported_bytewise .der (TypeOps.all (Enc.ofRun chunks (.ok (total chunks)))) _
    (.inr (.inl rfl)) rfl
  rw [trace_ofRun] at hd
  rw [result_ofRun] at hr
  rw [to_buffer_size_independent, to_buffer_accurate _ _ fun _ => by rw [hd, hr], hr]

/-! ## 2. asn_encode_to_buffer: no octet outside the buffer is written; what is written is a prefix -/

theorem fit_length_le (n : Nat) (out : List Bytes) : (fitChunks n 0 out).flatten.length ≤ n := by
  simpa using fitChunks_length_le n 0 out (Nat.zero_le _)

/-- **bounded writes**: after the call the memory is `fit ++ (rest of the buffer, untouched) ++ (memory behind the buffer,
    untouched)` where `fit` is a prefix of the concatenated output of length ≤ min n total (the chunks that fit);
    every `memcpy` ended at or before `fit.length`; if the output fits, the buffer holds all of it. -/
theorem to_buffer_no_overrun (syn : Syntax) (ops : Option TypeOps) (buf tail : Bytes) (key : OverrunKey) (r : Rval)
    (h : asnEncodeToBuffer syn ops (some (buf ++ tail)) buf.length = .done (key, r)) :
    key.mem = (fitChunks buf.length 0 (delivered syn ops)).flatten
                ++ buf.drop (fitChunks buf.length 0 (delivered syn ops)).flatten.length ++ tail ∧
    (fitChunks buf.length 0 (delivered syn ops)).flatten <+: (delivered syn ops).flatten ∧
    (fitChunks buf.length 0 (delivered syn ops)).flatten.length ≤ min buf.length (total (delivered syn ops)) ∧
    key.hiWater = (fitChunks buf.length 0 (delivered syn ops)).flatten.length ∧
    key.computedSize = total (delivered syn ops) ∧
    (total (delivered syn ops) ≤ buf.length →
      (fitChunks buf.length 0 (delivered syn ops)).flatten = (delivered syn ops).flatten) := by
  rw [toBuffer_closed] at h
  split at h
  · cases h
  · cases h
    have hf := overrun_fold buf.length 0 (delivered syn ops) [] (buf ++ tail) rfl (Nat.zero_le _)
    simp only [List.nil_append, Nat.zero_add, List.drop_append_of_le_length (fit_length_le _ _),
      ← List.append_assoc] at hf
    rw [hf]
    have hpre : (fitChunks buf.length 0 (delivered syn ops)).flatten <+: (delivered syn ops).flatten := by
      obtain ⟨t, ht⟩ := fitChunks_prefix buf.length 0 (delivered syn ops)
      exact ⟨t.flatten, by rw [← List.flatten_append, ht]⟩
    refine ⟨rfl, hpre, Nat.le_min.mpr ⟨fit_length_le _ _, ?_⟩, rfl, rfl,
      fun hfits => by rw [fitChunks_all _ _ _ (by rwa [Nat.zero_add])]⟩
    rw [total_eq_flatten_length (delivered syn ops)]
    exact hpre.length_le

/-- in particular the memory behind the buffer is bit-for-bit what it was, and the image did not grow -/
theorem to_buffer_tail_untouched (syn : Syntax) (ops : Option TypeOps) (buf tail : Bytes) (key : OverrunKey) (r : Rval)
    (h : asnEncodeToBuffer syn ops (some (buf ++ tail)) buf.length = .done (key, r)) :
    key.mem.drop buf.length = tail ∧ key.mem.length = (buf ++ tail).length := by
  obtain ⟨hm, _, hl, _⟩ := to_buffer_no_overrun syn ops buf tail key r h
  have hlen : ∀ fit : Bytes, fit.length ≤ buf.length → (fit ++ buf.drop fit.length).length = buf.length :=
    fun fit hfit => by rw [List.length_append, List.length_drop, Nat.add_sub_cancel' hfit]
  have hfit := hlen _ (Nat.le_trans hl (Nat.min_le_left _ _))
  rw [hm]
  exact ⟨List.drop_left' hfit, by rw [List.length_append, hfit, List.length_append]⟩

/-- NULL buffer with a non-zero size is refused with EINVAL before anything runs -/
theorem to_buffer_null_buffer (syn : Syntax) (ops : Option TypeOps) (n : Nat) (hn : 0 < n) :
    (asnEncodeToBuffer syn ops none n).map Prod.snd = .done ⟨-1, some .EINVAL⟩ := by
  simp [asnEncodeToBuffer, hn, Api.map]

/-! ## 3. asn_encode_to_new_buffer: a buffer holding exactly the output, or NULL -/

section
variable (syn : Syntax) (ops : Option TypeOps) (mallocOk : Bool) (allocOk : Nat → Bool) (junk : Nat)

/-- the key after `asn_encode_to_new_buffer`'s encoder run -/
def dynFinal : DynKey :=
  foldCb (dynamicCb allocOk junk) ⟨if mallocOk then some (List.replicate 16 junk) else none, 16, 0, 0, false⟩ (delivered syn ops)

theorem dynFinal_inv :
    DynInv (delivered syn ops).flatten (dynFinal syn ops mallocOk allocOk junk) :=
  foldCb_inv _ (fun d key => DynInv d.flatten key)
    (fun d key c h => by simpa using dynamicCb_inv allocOk junk _ key c h) [] _ (delivered syn ops)
    ⟨rfl, rfl, fun b hb => by cases mallocOk <;> cases hb <;> simp⟩

/-- NULL exactly when the initial MALLOC or one of the REALLOCs made during the run failed -/
theorem dynFinal_null_iff :
    (dynFinal syn ops mallocOk allocOk junk).buffer = none ↔
      AllocFailed mallocOk allocOk (dynFinal syn ops mallocOk allocOk junk).allocs :=
  foldCb_inv _ (fun _ key => key.buffer = none ↔ AllocFailed mallocOk allocOk key.allocs)
    (fun _ key c => dynamicCb_null_iff mallocOk allocOk junk key c) [] _ (delivered syn ops)
    (by cases mallocOk <;> simp [AllocFailed])

/-- closed form of `asn_encode_to_new_buffer`: the doubling loop terminates and `computed_size < buffer_size` holds of a
    live buffer, so of the three ways to `abort` only the accounting `assert` is left -/
theorem toNewBuffer_closed :
    asnEncodeToNewBuffer syn ops mallocOk allocOk junk =
      if BadAccounting syn ops then .abort
      else if (reported syn ops).encoded < 0 then
        .done ⟨none, reported syn ops, { dynFinal syn ops mallocOk allocOk junk with buffer := none }⟩
      else .done ⟨(dynFinal syn ops mallocOk allocOk junk).buffer.map (writeAt · (total (delivered syn ops)) [0]),
                  reported syn ops, dynFinal syn ops mallocOk allocOk junk⟩ := by
  obtain ⟨hs, hc, hl⟩ := dynFinal_inv syn ops mallocOk allocOk junk
  rw [← total_eq_flatten_length] at hc
  unfold asnEncodeToNewBuffer
  simp only [internal_neverFails _ (dynamicCb_neverFails allocOk junk)]
  rw [show foldCb _ _ _ = dynFinal syn ops mallocOk allocOk junk from rfl]
  simp only [hs, hc, Bool.false_eq_true, if_false]
  by_cases hbad : BadAccounting syn ops
  · rw [if_pos hbad]; exact if_pos hbad
  · rw [if_neg hbad, if_neg (show ¬ (_ ∧ _) from hbad)]
    by_cases hneg : (reported syn ops).encoded < 0
    · simp only [hneg, if_true]
    · simp only [hneg, if_false]
      cases hb : (dynFinal syn ops mallocOk allocOk junk).buffer with
      | none => rfl
      | some b =>
        have hlt := (hl b hb).2.1
        rw [hc] at hlt
        simp only [hc, hlt, not_true_eq_false, if_false, Option.map_some]

end

/-- **exact buffer or NULL** (whatever the allocator does): the only `assert` that can fire is the accounting one
    (never `computed_size < buffer_size`, and the doubling loop always terminates).  Otherwise the call returns
    *either NULL or a NUL-terminated buffer holding exactly the output*, and it is **NULL exactly when the encoder failed
    (`.encoded < 0`) or an allocation failed** (the initial MALLOC or one of the REALLOCs made during the run).
    A returned buffer comes with `.encoded = Σ|chunk|`; it is a live block of `buffer_size` octets, longer than the
    output, starting with exactly the concatenated output, followed by a NUL. -/
theorem to_new_buffer_exact (syn : Syntax) (ops : Option TypeOps) (mallocOk : Bool) (allocOk : Nat → Bool) (junk : Nat) :
    (asnEncodeToNewBuffer syn ops mallocOk allocOk junk = .abort ∧ BadAccounting syn ops) ∨
    ∃ nb, asnEncodeToNewBuffer syn ops mallocOk allocOk junk = .done nb ∧
      nb.result = reported syn ops ∧ nb.key.computedSize = total (delivered syn ops) ∧
      (nb.buffer = none ↔ ((reported syn ops).encoded < 0 ∨ AllocFailed mallocOk allocOk nb.key.allocs)) ∧
      (∀ b, nb.buffer = some b →
        nb.result.encoded = (total (delivered syn ops) : Int) ∧
        b.length = nb.key.bufferSize ∧
        total (delivered syn ops) < b.length ∧
        b.take (total (delivered syn ops)) = (delivered syn ops).flatten ∧
        b[total (delivered syn ops)]? = some 0) := by
  obtain ⟨_, hc, hl⟩ := dynFinal_inv syn ops mallocOk allocOk junk
  have hN := dynFinal_null_iff syn ops mallocOk allocOk junk
  rw [← total_eq_flatten_length] at hc
  rw [toNewBuffer_closed]
  by_cases hbad : BadAccounting syn ops
  · exact .inl ⟨if_pos hbad, hbad⟩
  · right
    rw [if_neg hbad]
    by_cases hneg : (reported syn ops).encoded < 0
    · rw [if_pos hneg]
      exact ⟨_, rfl, rfl, hc, ⟨fun _ => .inl hneg, fun _ => rfl⟩, fun _ hb => nomatch hb⟩
    · rw [if_neg hneg]
      refine ⟨_, rfl, rfl, hc, ?_, fun b hb => ?_⟩
      · rw [Option.map_eq_none_iff, hN]
        exact (or_iff_right hneg).symm
      · obtain ⟨b0, hb0, rfl⟩ := Option.map_eq_some_iff.mp hb
        obtain ⟨hlen, hlt, htake⟩ := hl b0 hb0
        rw [hc, ← hlen] at hlt
        rw [hc] at htake
        obtain ⟨w1, w2, w3⟩ := writeAt_nul b0 _ hlt
        exact ⟨(accurate_iff_not_bad syn ops).mpr hbad (Int.not_lt.mp hneg), w1.trans hlen, w1 ▸ hlt,
          w2.trans htake, w3⟩

/-- the doubling loop `do new_size *= 2; while(new_size <= computed_size + size);` of `dynamic_encoder_cb` terminates for
    every live buffer (`buffer_size > 0`) with a size that holds the data **and** the terminating NUL -/
theorem doubling_loop_terminates (bufferSize target : Nat) (h : 0 < bufferSize) :
    ∃ newSize, growLoop bufferSize target = some newSize ∧ target < newSize ∧ bufferSize < newSize :=
  growLoop_spec bufferSize target h

/-- when no allocation fails the buffer is non-NULL **exactly when the encoding succeeded** (`.encoded ≥ 0`) -/
theorem to_new_buffer_nonnull (syn : Syntax) (ops : Option TypeOps) (allocOk : Nat → Bool) (junk : Nat)
    (hall : ∀ i, allocOk i = true) (nb : NewBuffer)
    (h : asnEncodeToNewBuffer syn ops true allocOk junk = .done nb) : nb.buffer.isSome ↔ 0 ≤ nb.result.encoded := by
  rcases to_new_buffer_exact syn ops true allocOk junk with ⟨ha, _⟩ | ⟨_, hres, hr, _, hiff, _⟩
  · cases h.symm.trans ha
  · cases h.symm.trans hres
    rw [hr, ← Int.not_lt, ← hiff.trans (or_iff_left (not_allocFailed allocOk hall _))]
    cases nb.buffer <;> simp

/-- **the documented contract** ("On success, returns a newly allocated (.buffer) containing the whole message, the
    message size is returned in (.result.encoded); on failure (.buffer) is NULL"): allocations succeed and the encoder's
    accounting is exact ⇒ the call returns; if the encoding succeeded the buffer's first `.encoded = total` octets are
    the concatenated output, followed by a NUL; if it failed the buffer is NULL -/
theorem to_new_buffer_success (syn : Syntax) (ops : Option TypeOps) (allocOk : Nat → Bool) (junk : Nat)
    (hall : ∀ i, allocOk i = true) (hA : Accurate syn ops) :
    ∃ nb, asnEncodeToNewBuffer syn ops true allocOk junk = .done nb ∧ nb.result = reported syn ops ∧
      (0 ≤ nb.result.encoded →
        ∃ b, nb.buffer = some b ∧ nb.result.encoded = (total (delivered syn ops) : Int) ∧
             b.take (total (delivered syn ops)) = (delivered syn ops).flatten ∧
             b[total (delivered syn ops)]? = some 0) ∧
      (nb.result.encoded < 0 → nb.buffer = none) := by
  rcases to_new_buffer_exact syn ops true allocOk junk with ⟨_, hbad⟩ | ⟨nb, hres, hr, _, hiff, hb⟩
  · exact absurd hbad ((accurate_iff_not_bad syn ops).mp hA)
  · refine ⟨nb, hres, hr, fun h0 => ?_, fun hlt => hiff.mpr (.inl (hr ▸ hlt))⟩
    have hsome := (to_new_buffer_nonnull syn ops allocOk junk hall nb hres).mpr h0
    cases hbuf : nb.buffer with
    | none => rw [hbuf] at hsome; cases hsome
    | some b =>
      obtain ⟨he, _, _, htake, hnul⟩ := hb b hbuf
      exact ⟨b, rfl, he, htake, hnul⟩

/-- **F39 repaired — no buffer on failure**, for every encoder, syntax and allocator behaviour: whenever the call
    returns `.encoded < 0` the buffer is NULL (nothing for the caller to leak) -/
theorem to_new_buffer_failure_null (syn : Syntax) (ops : Option TypeOps) (mallocOk : Bool) (allocOk : Nat → Bool) (junk : Nat)
    (nb : NewBuffer) (h : asnEncodeToNewBuffer syn ops mallocOk allocOk junk = .done nb) (hf : nb.result.encoded < 0) :
    nb.buffer = none := by
  rcases to_new_buffer_exact syn ops mallocOk allocOk junk with ⟨ha, _⟩ | ⟨_, hres, hr, _, hiff, _⟩
  · cases h.symm.trans ha
  · cases h.symm.trans hres
    exact hiff.mpr (.inl (hr ▸ hf))

/-- the former F39 witness shapes (an encoder that refuses at once; an encoder that refuses after having emitted a
    prefix): `.encoded = -1`, errno EBADF and **no buffer** (formerly: the 16-octet block allocated up front) -/
theorem to_new_buffer_failure_witness :
    (∃ nb, asnEncodeToNewBuffer .der (some (TypeOps.all (.ret (.fail .hasEnc)))) true (fun _ => true) 0 = .done nb ∧
      nb.result = ⟨-1, some .EBADF⟩ ∧ nb.buffer = none) ∧
    (∃ nb, asnEncodeToNewBuffer .canonicalUper
        (some (TypeOps.all (Enc.ofRun [[0x80, 0x01]] (.fail .hasEnc)))) true (fun _ => true) 0 = .done nb ∧
      nb.result = ⟨-1, some .EBADF⟩ ∧ nb.buffer = none ∧ nb.key.computedSize = 2) := by
  refine ⟨⟨_, rfl, ?_, ?_⟩, ⟨_, rfl, ?_, ?_, ?_⟩⟩ <;> decide

/-- a failed initial allocation gives NULL together with the full size (the documented ENOMEM case) -/
theorem to_new_buffer_malloc_failure (syn : Syntax) (ops : Option TypeOps) (allocOk : Nat → Bool) (junk : Nat)
    (hA : Accurate syn ops) :
    ∃ nb, asnEncodeToNewBuffer syn ops false allocOk junk = .done nb ∧ nb.buffer = none ∧ nb.result = reported syn ops := by
  rcases to_new_buffer_exact syn ops false allocOk junk with ⟨_, hbad⟩ | ⟨nb, hres, hr, _, hiff, _⟩
  · exact absurd hbad ((accurate_iff_not_bad syn ops).mp hA)
  · exact ⟨nb, hres, hiff.mpr (.inr (.inl rfl)), hr⟩

/-! ## 4. a failing output callback ⇒ -1 with errno EIO -/

/-- **failing callback**: if the encoder selected for the syntax meets the obligation `Propagates` ("if the callback
    returns < 0 the encoder returns -1"), then for *every* invocation index k of the fault-free run — including the extra
    zero octet UPER adds — `asn_encode` returns -1 with errno EIO, and the chunks accepted before k are exactly the first k
    chunks of the fault-free output. -/
theorem failing_cb_gives_EIO (syn : Syntax) (hs : Standard syn) (ops : TypeOps) (e : Enc)
    (hsel : selected syn ops = some e) (hP : Propagates e)
    (k : Nat) (hk : k < (delivered syn (some ops)).length) :
    ∃ st, asnEncode syn (some ops) (some (failAtCb (some k))) {} = .done (st, ⟨-1, some .EIO⟩) ∧
      st.accepted.take k = (delivered syn (some ops)).take k := by
  obtain ⟨hd, _⟩ := delivered_reported_standard syn hs ops e hsel
  obtain ⟨st, hrun, htake⟩ := run_failAt k _ (internalEnc_propagates syn e hP) {} rfl (Nat.zero_le _)
    (by simpa [← hd] using hk)
  refine ⟨st, ?_, by rw [hd]; exact htake⟩
  simp only [asnEncode, internal_standard syn hs, hsel, Option.map_some, stdBranch]
  rw [show failureCatchCb (failAtCb (some k)) = cbk (some k) from rfl, hrun]
  rfl

/-- chunk-list form of `failing_cb_gives_EIO` -/
theorem failing_cb_gives_EIO_chunks (chunks : List Bytes) (out : Outcome) (k : Nat) (hk : k < chunks.length) :
    ∃ st, asnEncode .der (some (TypeOps.all (Enc.ofRun chunks out))) (some (failAtCb (some k))) {} = .done (st, ⟨-1, some .EIO⟩) ∧
      st.accepted.take k = chunks.take k := by
  have hd := (delivered_reported_bytewise .der (TypeOps.all (Enc.ofRun chunks out)) _ (.inr (.inl rfl)) rfl).1
  rw [trace_ofRun] at hd
  have := failing_cb_gives_EIO .der trivial _ _ rfl (ofRun_propagates chunks out) k (by rwa [hd])
  rwa [hd] at this

/-- **F9 / F70 shape (counter-example)**: an encoder that ignores the callback's verdict (e.g. the unchecked
    `asn_put_aligned_flush` of SEQUENCE_encode_oer, the `break` of SET_OF_encode_uper) and reports success makes
    `asn_encode` abort on `assert(er.encoded == -1)` instead of returning -1/EIO. -/
theorem swallowing_encoder_aborts_cex :
    asnEncode .canonicalOer (some (TypeOps.all (.emit [0xc0] (.ret (.ok 1)) (.ret (.ok 1))))) (some (failAtCb (some 0))) {} = .abort := by
  decide

/-- **F71 shape (counter-example)**: an encoder that returns -1 but clears `failed_type` (NULL_encode_der) makes
    `asn_encode_internal` pick ENOENT, and `asn_encode` aborts on `assert(errno == EBADF)`. -/
theorem blame_cleared_aborts_cex :
    asnEncode .der (some (TypeOps.all (.emit [5, 0] (.ret (.ok 2)) (.ret (.fail .noEnc))))) (some (failAtCb (some 0))) {} = .abort := by
  decide

/-- NULL callback: EINVAL -/
theorem encode_null_callback (syn : Syntax) (ops : Option TypeOps) :
    asnEncode (σ := Unit) syn ops none () = .done ((), ⟨-1, some .EINVAL⟩) := rfl

/-! ## 5. reported size = octets delivered -/

/-- **asn_encode** with a callback that accepts everything: the callback receives `delivered`, the call returns `reported`,
    and with exact encoder accounting a non-negative result is the number of octets the callback received. -/
theorem reported_eq_delivered (syn : Syntax) (ops : Option TypeOps) :
    asnEncode syn ops (some (failAtCb none)) {} =
      .done (⟨(delivered syn ops).length, delivered syn ops, (delivered syn ops).map List.length⟩, reported syn ops) ∧
    (Accurate syn ops → 0 ≤ (reported syn ops).encoded → (reported syn ops).encoded = (total (delivered syn ops) : Int)) := by
  refine ⟨?_, fun hA h0 => hA h0⟩
  simp only [asnEncode, internal_neverFails (cbk none) recorder_neverFails, foldCb_recorder]
  simp

/-- the buffer variants enforce the equality themselves: whenever they return a non-negative size it equals the
    octets counted (`computed_size`) — otherwise they `assert` -/
theorem reported_eq_delivered_buffers (syn : Syntax) (ops : Option TypeOps) :
    (∀ buf tail key r, asnEncodeToBuffer syn ops (some (buf ++ tail)) buf.length = .done (key, r) → 0 ≤ r.encoded →
        r.encoded = (key.computedSize : Int) ∧ key.computedSize = total (delivered syn ops)) ∧
    (∀ mallocOk allocOk junk nb, asnEncodeToNewBuffer syn ops mallocOk allocOk junk = .done nb → 0 ≤ nb.result.encoded →
        nb.result.encoded = (nb.key.computedSize : Int) ∧ nb.key.computedSize = total (delivered syn ops)) := by
  constructor
  · intro buf tail key r h h0
    obtain ⟨h1, _⟩ := to_buffer_encoded_eq_total syn ops buf tail key r h h0
    obtain ⟨_, _, _, _, hc, _⟩ := to_buffer_no_overrun syn ops buf tail key r h
    exact ⟨by rw [h1, hc], hc⟩
  · intro mallocOk allocOk junk nb h h0
    rcases to_new_buffer_exact syn ops mallocOk allocOk junk with ⟨ha, _⟩ | ⟨_, hres, hr, hc, _⟩
    · cases h.symm.trans ha
    · cases h.symm.trans hres
      have hnb : ¬ BadAccounting syn ops := fun hbad => by
        rw [toNewBuffer_closed, if_pos hbad] at h; cases h
      rw [hr] at h0 ⊢
      exact ⟨hc ▸ (accurate_iff_not_bad syn ops).mpr hnb h0, hc⟩

/-- exact accounting in terms of the encoder: byte-oriented syntaxes need `claimed = Σ|chunk|`,
    UPER needs `(bits + 7) / 8 = Σ|chunk|` and "0 bits ⇒ nothing flushed" -/
theorem accurate_of_encoder (syn : Syntax) (ops : TypeOps) (e : Enc) (hsel : selected syn ops = some e) :
    ((syn = .ber ∨ syn = .der ∨ syn = .basicOer ∨ syn = .canonicalOer ∨ syn = .basicXer ∨ syn = .canonicalXer) →
      (∀ n, e.result = .ok n → n = total e.trace) → Accurate syn (some ops)) ∧
    ((syn = .basicUper ∨ syn = .canonicalUper) →
      (∀ bits, e.result = .ok bits → (bits = 0 ∧ total e.trace = 0) ∨ (0 < bits ∧ (bits + 7) / 8 = total e.trace)) →
      Accurate syn (some ops)) := by
  constructor
  · intro hs hacc
    obtain ⟨hd, hr⟩ := delivered_reported_bytewise syn ops e hs hsel
    unfold Accurate
    rw [hd, hr]
    cases hres : e.result with
    | ok n => exact fun _ => congrArg Int.ofNat (hacc n hres)
    | fail b => exact fun (h : (0 : Int) ≤ -1) => absurd h (by decide)
  · intro hs hacc
    have hsel' : ops.uper = some e := by rcases hs with rfl | rfl <;> exact hsel
    obtain ⟨hd, hr⟩ := delivered_reported_uper syn ops e hs hsel'
    unfold Accurate
    rw [hd, hr]
    cases hres : e.result with
    | ok bits =>
      intro _
      rcases hacc bits hres with ⟨hb, ht⟩ | ⟨hb, ht⟩
      · subst hb; simp [total_append, ht, total_cons, total_nil]
      · simp [Nat.ne_of_gt hb, ht]
    | fail b => exact fun (h : (0 : Int) ≤ -1) => absurd h (by decide)

/-! ## 6. a value the encoder refuses ⇒ -1 with errno, from every wrapper, never an abort -/

/-- **clean failure**: when the selected encoder returns -1 (violated constraint, missing mandatory member, unselected
    CHOICE …) all three wrappers return -1 with errno set (EBADF, or ENOENT when the blamed type has no encoder);
    no `assert` fires; the buffer variant does so for every buffer size; the new-buffer variant returns no buffer. -/
theorem unencodable_clean (syn : Syntax) (hs : Standard syn) (ops : TypeOps) (e : Enc) (b : Blame)
    (hsel : selected syn ops = some e) (hfail : e.result = .fail b) :
    reported syn (some ops) = ⟨-1, some (errnoOfBlame b)⟩ ∧
    (∃ st, asnEncode syn (some ops) (some (failAtCb none)) {} = .done (st, ⟨-1, some (errnoOfBlame b)⟩)) ∧
    (∀ buf tail, (asnEncodeToBuffer syn (some ops) (some (buf ++ tail)) buf.length).map Prod.snd = .done ⟨-1, some (errnoOfBlame b)⟩) ∧
    (∀ mallocOk allocOk junk, ∃ nb, asnEncodeToNewBuffer syn (some ops) mallocOk allocOk junk = .done nb ∧
        nb.result = ⟨-1, some (errnoOfBlame b)⟩ ∧ nb.buffer = none) := by
  have hrep : reported syn (some ops) = ⟨-1, some (errnoOfBlame b)⟩ := by
    have hres : (internalEnc syn e).result = .fail b :=
      internalEnc_cases (P := (·.result = .fail b)) syn e hfail (by rw [result_andThen, hfail])
    rw [(delivered_reported_standard syn hs ops e hsel).2, hres]
  have hnb : ¬ BadAccounting syn (some ops) := fun h => by
    rw [BadAccounting, hrep] at h
    exact (by decide : ¬ (0 : Int) ≤ -1) h.1
  refine ⟨hrep, ⟨_, by rw [(reported_eq_delivered syn (some ops)).1, hrep]⟩, fun buf tail => ?_,
    fun mallocOk allocOk junk => ?_⟩
  · rw [to_buffer_size_independent, toBufferRet, if_neg hnb, hrep]
  · rcases to_new_buffer_exact syn (some ops) mallocOk allocOk junk with ⟨_, hbad⟩ | ⟨nb, hres, hr, _, hiff, _⟩
    · exact absurd hbad hnb
    · exact ⟨nb, hres, by rw [hr, hrep], hiff.mpr (.inl (by rw [hrep]; show (-1 : Int) < 0; decide))⟩

/-! ## non-vacuity: the hypotheses used above have concrete instances -/

/-- a DER-style run (tag/length chunk, contents chunk) with exact accounting -/
example : Accurate .der (some (TypeOps.all (Enc.ofRun [[0x30, 0x03], [1, 1, 0xff]] (.ok 5)))) := by
  unfold Accurate; decide

/-- UPER: 10 bits flushed as 2 octets; and the 0-bit encoding completed by one zero octet -/
example : Accurate .canonicalUper (some (TypeOps.all (Enc.ofRun [[0xc1, 0x40]] (.ok 10)))) ∧
    delivered .canonicalUper (some (TypeOps.all (Enc.ofRun [] (.ok 0)))) = [[0]] ∧
    reported .canonicalUper (some (TypeOps.all (Enc.ofRun [] (.ok 0)))) = ⟨1, none⟩ := by
  refine ⟨by unfold Accurate; decide, by decide, by decide⟩

/-- `unencodable_clean` applies to e.g. an encoder that refuses after having emitted a prefix -/
example : ∃ e : Enc, e.result = .fail .hasEnc ∧ e.trace = [[0x30, 0x80]] ∧ Propagates e :=
  ⟨Enc.ofRun [[0x30, 0x80]] (.fail .hasEnc), by decide, by decide, ofRun_propagates _ _⟩

/-- a buffer of 4 octets, output of 5 octets in two chunks: only the first chunk is copied, the canary survives, 5 is returned -/
example :
    (asnEncodeToBuffer .der (some (TypeOps.all (Enc.ofRun [[0x30, 0x03], [1, 1, 0xff]] (.ok 5))))
      (some ([0xa5, 0xa5, 0xa5, 0xa5] ++ [0xc3, 0xc3])) 4).map (fun r => (r.1.mem, r.2.encoded))
      = .done ([0x30, 0x03, 0xa5, 0xa5, 0xc3, 0xc3], 5) := by
  decide

end Asn1c.Props.C07
