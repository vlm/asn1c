import Asn1cModel.Proofs.CompileDescr
import Asn1cModel.Props.C09
/-
  C10 (compile leg) — the compiler half of asn1c tied to the reference codecs.

  Impl  = Impl.CompileDescr: `compileDescr : Module → Opts → Names → TypeName → Descr`, a model of the translation
          "module AST → descriptor tables" (libasn1fix tag fixing / automatic tagging / tag chains, asn1c_C.c table
          emitters), tied to the C code by the `compile_descr` correspondence of vlib/c10_compile.py: the model's
          descriptor graph is compared field by field with the `descr` dump of the code asn1c really generated.
  Bridge = Impl.CompileDescrL2.`toL2`: the total restatement of the `partial def L2.resolveTy` on the typed AST; the
          driver op `l2same` checks `toL2 = resolveTy` on every type the K leg visits.
  Spec  = the L2 layer (L2/Types, L2/Der `outerTags`, L2/PerTypes attributes) and Spec.Constraint (X.691 layouts).

  (a) the tag chains the generated tables carry are the tags of the resolved L2 types (top level and members,
      written tags IMPLICIT/EXPLICIT/default and AUTOMATIC tagging, through references);
  (b) tag2el is sorted, strictly when the members' tags are pairwise distinct, and binary search with
      `_search4tag` finds exactly the member that carries the tag;
  (c) oms lists exactly the OPTIONAL/DEFAULT root members, ascending, = the L2 attributes;
  (d) the PER record of INTEGER (l..u[,...]) is the X.691 layout the UPER reference codec uses:
      constrained, lb = l, ub = u, range_bits = ⌈log2(u−l+1)⌉, extensible flag as written;
  (e) the element type of SEQUENCE OF / SET OF: a written tag is resolved like a component's tag;
  (f) a type assignment that references (or tags) another type carries the PER records of that type; ENUMERATED,
      CHOICE, known-multiplier string and time types always have them (findings F38 / F123 / F111 repaired);
  (g) `first_extension` of a SEQUENCE descriptor is the number of components before the extension marker, −1 without
      a marker (finding F120 repaired).
-/
namespace Asn1c.Props.C10Compile
open Asn1c Asn1c.L2 Asn1c.Impl.BerTlv Asn1c.Impl.CompileDescr

/-- **top-level types**: `td->tags` of the descriptor generated for a type (the tag chain
    `asn1f_fetch_tags` assembles after `asn1f_fix_constr_tag`) is the tag list of the type the L2 codecs resolve.
    The DER/BER round-trip theorems of C01/C02 therefore speak about the tags the generated tables carry. -/
theorem compiled_tags_eq_resolved (M : Module) (htd : ValidTagDefault M) (t : CTy) (ty : Ty) (k : Nat)
    (hk : k ≤ 64) (h : toL2 M k t = some ty) :
    tagsOf (fixModule M) (fixTop M t) = tyTags ty :=
  tagsOf_chain (fixModule M) (fixTop M t) (tyTags ty) (fixTop_chain M htd hk h)

/-- in particular for a named type resolved the way the reference codecs do (`L2.resolveNamed`, fuel 64) -/
theorem compiled_tags_eq_resolved_named (M : Module) (htd : ValidTagDefault M) (name : String) (t : CTy) (ty : Ty)
    (hl : M.lookup name = some t) (h : toL2Named M name = some ty) :
    (fixModule M).lookup name = some (fixTop M t) ∧ tagsOf (fixModule M) (fixTop M t) = tyTags ty := by
  refine ⟨by rw [lookup_fix, hl]; rfl, ?_⟩
  unfold toL2Named at h
  rw [hl] at h
  exact compiled_tags_eq_resolved M htd t ty 64 (Nat.le_refl _) h

/-- **members** of SEQUENCE / SET / CHOICE: after the fixer (written tags with the module default, or automatic
    tagging when selected) the chain of every component is the tag list of the component as
    `L2.resolveComps` tags it — X.680 §31.2.7 and §25.8/§29.x. -/
theorem compiled_member_tags_eq_resolved (M : Module) (htd : ValidTagDefault M) (k : Nat) (hk : k ≤ 64)
    (tag : Option WTag) (ck : CK) (ext : Option Nat) (comps : List Comp) (ms : List Ty) (as : List Attr)
    (h : l2Comps (toL2 M k) (autoSelected M comps) (ext.getD comps.length) 0 comps = some (ms, as)) :
    ∃ comps', fixTy M (.constr tag ck ext comps) = .constr tag ck ext comps' ∧
      comps'.map (fun c => tagsOf (fixModule M) c.ty) = ms.map tyTags :=
  ⟨fixComps M (autoSelected M comps) 0 comps, rfl,
    map_fixComps M k _ _ (tagsOf (fixModule M)) tyTags
      (fun j t t0 ht h0 => tagsOf_chain _ _ _ (fixedComp_chain M htd k hk _ j t t0 ht h0))
      comps 0 ms as (autoSelected_untagged M comps) h⟩

/-- the `tag` of a member (`asn1f_fetch_outmost_tag`) is the first tag of its chain; `none` (the "ambiguous"
    marker −1) exactly for a type without tags of its own, i.e. an untagged CHOICE -/
theorem member_tag_is_chain_head (M : Module) (f : Nat) (t : CTy) (c : List Tag) (h : chain M f t = some c) :
    outmost M f t = c.head? := outmost_eq_chain_head M f t c h

/-- **tag2el carries the outermost tags of the resolved members**: for a SEQUENCE / SET / CHOICE resolved by the L2
    layer into the members `ms`, the (tag, element number) pairs asn1c collects (`_fill_tag2el_map`, untagged
    CHOICE members flattened, through references) are exactly (g, i) with g ∈ `L2.outerTags ms[i]` — the tags the
    reference BER decoder dispatches on -/
theorem tag2el_pairs_are_outerTags (M : Module) (htd : ValidTagDefault M) (k : Nat) (hk : k ≤ 64)
    (ext : Option Nat) (comps : List Comp) (ms : List Ty) (as : List Attr)
    (h : l2Comps (toL2 M k) (autoSelected M comps) (ext.getD comps.length) 0 comps = some (ms, as))
    (g : Tag) (i : Nat) :
    (∃ e ∈ tag2el (fixModule M) (fixComps M (autoSelected M comps) 0 comps), e.tag = g ∧ e.elNo = i) ↔
      ∃ m, ms[i]? = some m ∧ g ∈ outerTags m := by
  rw [tag2el_mem, t2eRaw_eq_pairs M htd k hk _ _ comps 0 ms as (autoSelected_untagged M comps) h, pairsFrom_mem]

/-- **the generated dispatch table agrees with the reference decoder**: if the outermost tags of the resolved
    members are pairwise distinct (X.680 §27.3 / §29.3; `L2.outerTagsAlts ms` has no duplicates), then for every
    member `i` and every tag `g` a value of that member can start with, `bsearch`/`_search4tag` on the emitted
    `tag2el` returns an entry with `el_no = i` -/
theorem tag2el_dispatch_agrees_with_reference (M : Module) (htd : ValidTagDefault M) (k : Nat) (hk : k ≤ 64)
    (ext : Option Nat) (comps : List Comp) (ms : List Ty) (as : List Attr)
    (h : l2Comps (toL2 M k) (autoSelected M comps) (ext.getD comps.length) 0 comps = some (ms, as))
    (hnd : (outerTagsAlts ms).Nodup) (i : Nat) (m : Ty) (hm : ms[i]? = some m) (g : Tag) (hg : g ∈ outerTags m) :
    ∃ e, bsearchTag g (tag2el (fixModule M) (fixComps M (autoSelected M comps) 0 comps)) = some e ∧
      e.tag = g ∧ e.elNo = i := by
  have hnd' : ((t2eRaw (fixModule M) 0 (fixComps M (autoSelected M comps) 0 comps)).map (·.1)).Nodup := by
    rw [t2eRaw_eq_outerTagsAlts M htd k hk _ _ comps 0 ms as (autoSelected_untagged M comps) h]; exact hnd
  exact tag2el_finds _ _ hnd' ((tag2el_pairs_are_outerTags M htd k hk ext comps ms as h g i).mpr ⟨m, hm, hg⟩)

/-- the emitted map is sorted by `_tag2el_cmp` (class, value, element number) — always -/
theorem tag2el_sorted (M : Module) (comps : List Comp) :
    ((tag2el M comps).map fun e => (e.tag, e.elNo)).Pairwise (fun a b => t2eLe a b = true) := by
  rw [tag2el_keys]; exact sortT2E_sorted _

/-- the entries are exactly the outermost tags of the members, each pointing to its member: entry (g, i) exists
    iff member `i` exists and `g` is its outermost tag or — for an untagged CHOICE member, also behind
    references — the outermost tag of one of its alternatives (`_add_tag2el_member`) -/
theorem tag2el_entries (M : Module) (comps : List Comp) (g : Tag) (i : Nat) :
    (∃ e ∈ tag2el M comps, e.tag = g ∧ e.elNo = i) ↔
      ∃ c, comps[i]? = some c ∧ (g, i) ∈ t2eMember M t2eFuel c.ty i := by
  rw [tag2el_mem, t2eRaw_mem]

/-- when the members' outermost tags are pairwise distinct (the X.680 §27.3 / §29.3 rule for SET and CHOICE that
    Spec/TagRules calls `allDistinct`; in its executable form: the tag column of the unsorted map has no
    duplicates) the map is strictly increasing in the order `_search4tag` searches by: no duplicate tags -/
theorem tag2el_strict_of_distinct (M : Module) (comps : List Comp)
    (hnd : ((t2eRaw M 0 comps).map (·.1)).Nodup) :
    (tag2el M comps).Pairwise (fun a b => tagLt a.tag b.tag = true) := tag2el_strict M comps hnd

/-- **lookup correctness**: binary search (`bsearch` + `_search4tag` of constr_CHOICE.c / constr_SET.c /
    constr_SEQUENCE.c) on the emitted map finds, for every tag a member can start with, the entry of that member -/
theorem tag2el_lookup_finds_member (M : Module) (comps : List Comp)
    (hnd : ((t2eRaw M 0 comps).map (·.1)).Nodup) (c : Comp) (i : Nat) (g : Tag)
    (hc : comps[i]? = some c) (hg : (g, i) ∈ t2eMember M t2eFuel c.ty i) :
    ∃ e, bsearchTag g (tag2el M comps) = some e ∧ e.tag = g ∧ e.elNo = i :=
  tag2el_finds M comps hnd ((tag2el_entries M comps g i).mpr ⟨c, hc, hg⟩)

/-- … and whatever it finds is the member that carries the tag; a tag no member carries is not found -/
theorem tag2el_lookup_sound (M : Module) (comps : List Comp) (g : Tag) (e : T2E)
    (h : bsearchTag g (tag2el M comps) = some e) :
    e.tag = g ∧ ∃ c, comps[e.elNo]? = some c ∧ (g, e.elNo) ∈ t2eMember M t2eFuel c.ty e.elNo := by
  obtain ⟨he, hk⟩ := bsearchTag_sound g _ e h
  exact ⟨hk, (tag2el_entries M comps g e.elNo).mp ⟨e, he, hk, rfl⟩⟩

theorem tag2el_lookup_none (M : Module) (comps : List Comp)
    (hnd : ((t2eRaw M 0 comps).map (·.1)).Nodup) (g : Tag)
    (h : bsearchTag g (tag2el M comps) = none) (c : Comp) (i : Nat) (hc : comps[i]? = some c) :
    (g, i) ∉ t2eMember M t2eFuel c.ty i := by
  intro hg
  obtain ⟨e, he, _⟩ := tag2el_lookup_finds_member M comps hnd c i g hc hg
  rw [h] at he; cases he

/-- **root part of `oms`** of a SEQUENCE: exactly the element numbers of the OPTIONAL / DEFAULT members before the
    extension marker -/
theorem oms_root_spec (ext : Option Nat) (comps : List Comp) (j : Nat) :
    j ∈ (omsOf .sequence ext comps).1 ↔
      j < ext.getD comps.length ∧ ∃ c, comps[j]? = some c ∧ c.opt.isMand = false := by
  simp only [omsOf, omsFrom_mem]
  constructor
  · rintro ⟨c, hc, h1, h2⟩
    rw [omitable_sequence ext (List.getElem?_eq_some_iff.mp hc).1] at h2
    have h1 : j < ext.getD comps.length := by simpa using h1
    have h2 : c.opt.isMand = false ∨ ext.getD comps.length ≤ j := by simpa using h2
    exact ⟨h1, c, hc, h2.resolve_right (by omega)⟩
  · rintro ⟨hlt, c, hc, hm⟩
    exact ⟨c, hc, by simpa using hlt, by simp [omitable, hm]⟩

/-- **additions part of `oms`**: every member after the marker (asn1c treats all extension additions as omitable:
    `comp_mode == 1` in the type emitter) -/
theorem oms_additions_spec (ext : Option Nat) (comps : List Comp) (j : Nat) :
    j ∈ (omsOf .sequence ext comps).2 ↔ ext.getD comps.length ≤ j ∧ j < comps.length := by
  simp only [omsOf, omsFrom_mem]
  constructor
  · rintro ⟨c, hc, h1, _⟩
    exact ⟨by simpa using h1, (List.getElem?_eq_some_iff.mp hc).1⟩
  · rintro ⟨hge, hlt⟩
    exact ⟨comps[j], List.getElem?_eq_getElem hlt, by simpa using hge, by simp [omitable_sequence ext hlt, hge]⟩

/-- both parts are strictly ascending ("in order") -/
theorem oms_sorted (k : CK) (ext : Option Nat) (comps : List Comp) :
    (omsOf k ext comps).1.Pairwise (· < ·) ∧ (omsOf k ext comps).2.Pairwise (· < ·) :=
  ⟨omsFrom_sorted _ _ _ _ _ _, omsFrom_sorted _ _ _ _ _ _⟩

/-- **agreement with the reference codecs**: the root part of `oms` enumerates the components whose L2 attribute
    says OPTIONAL/DEFAULT (the presence bitmap of the UPER / OER reference codecs runs over these, in this order) -/
theorem oms_agrees_with_l2_attrs (M : Module) (k : Nat) (ext : Option Nat) (comps : List Comp) (ms : List Ty)
    (as : List Attr)
    (h : l2Comps (toL2 M k) (autoSelected M comps) (ext.getD comps.length) 0 comps = some (ms, as)) (j : Nat) :
    j ∈ (omsOf .sequence ext comps).1 ↔
      j < ext.getD comps.length ∧ (as.map (·.optional))[j]? = some true := by
  rw [oms_root_spec, l2Comps_attrs _ _ _ comps 0 ms as h]
  simp

section per
open Asn1c.Impl.CRange Asn1c.Impl.CTables Asn1c.Impl.ConsParse Asn1c.Spec.Constraint

/-- the 64-bit bounds the two theorems of this section are stated for (`intmax_t`; the compiler itself
    computes in the 128-bit `asn1c_integer_t`, see C09) -/
def INTMAX_MIN : Int := -9223372036854775808
def INTMAX_MAX : Int := 9223372036854775807

/-- a written `(l..u)` / `(l..u, ...)` (also `(l)` when l = u) with bounds within 64 bits: what the C09 theorems ask
    of the constraint expression, and the set it selects from a parent `P` that contains l..u -/
theorem consExpr_bounded {c : Impl.CompileDescr.Cons} {l u : Int} (hlo : c.lo = some l) (hhi : c.hi = some u)
    (hlu : l ≤ u) (hl : INTMAX_MIN < l) (hu : u < INTMAX_MAX) (P : ISet) (hP : ∀ y, l ≤ y → y ≤ u → P y = true) :
    IsSpec (consExpr c) ∧ Written (consExpr c) ∧ LitsOK (consExpr c) ∧ extensible (consExpr c) = c.ext ∧
    (∀ y, visible P (consExpr c) y = (decide (l ≤ y) && decide (y ≤ u))) := by
  have hL : ASN_INTEGER_MIN < l ∧ u < ASN_INTEGER_MAX := by
    simp only [INTMAX_MIN, INTMAX_MAX, ASN_INTEGER_MIN, ASN_INTEGER_MAX] at *; omega
  -- the body `(l)` or `(l..u)`, then the marker
  have body : ∃ b : Spec.Constraint.Cons, consExpr c = (if c.ext then .ext b else b) ∧
      IsElem b ∧ IsSpec b ∧ Written b ∧ LitsOK b ∧ extensible b = false ∧
      (∀ y, visible P b y = (decide (l ≤ y) && decide (y ≤ u))) := by
    unfold consExpr
    simp only [hlo, hhi]
    by_cases hleq : l = u
    · subst hleq
      refine ⟨.single l, by simp, trivial, trivial, trivial, hL, rfl, fun y => ?_⟩
      rw [Bool.eq_iff_iff]
      simp only [visible, Bool.and_eq_true, beq_iff_eq, decide_eq_true_eq]
      exact ⟨fun h => by omega, fun h => ⟨by omega, hP y h.1 h.2⟩⟩
    · refine ⟨.range (.val l) (.val u), by simp [hleq], trivial, trivial, ⟨nofun, nofun⟩,
        ⟨⟨hL.1, by omega⟩, ⟨by omega, hL.2⟩⟩, rfl, fun y => ?_⟩
      rw [Bool.eq_iff_iff]
      simp only [visible, End.below, End.above, Bool.and_eq_true, decide_eq_true_eq]
      exact ⟨fun h => h.1, fun h => ⟨h, hP y h.1 h.2⟩⟩
  obtain ⟨b, hb, h0, h1, h2, h3, h4, h5⟩ := body
  rw [hb]
  cases c.ext
  · exact ⟨h1, h2, h3, h4, h5⟩
  · exact ⟨h0, h2, h3, rfl, h5⟩

/-- the record emitted for a range that denotes l..u, bounds within 64 bits; `hr` is what `C09.crange_effective` and
    `C09.crange_size_effective` conclude for the PER tables -/
theorem interval_per_record {r : Range} {S : ISet} {l u : Int} {e : Bool} (hlu : l ≤ u)
    (hS : ∀ y, S y = (decide (l ≤ y) && decide (y ≤ u)))
    (hr : Asn1c.Impl.CRange.Repr r S ∧ r.ext = e ∧ r.notPER = false)
    (hl : INTMAX_MIN < l) (hu : u < INTMAX_MAX) :
    ∃ n : Nat, IsRangeBits (u - l + 1) n ∧
      perOf (perConstraint (some r)) = ⟨2 + (if e then 4 else 0), n, effBits (1 + u - l) u, l, u⟩ := by
  have hlb : LowerBound S (some l) := ⟨by simp [hS, hlu], fun x hx => by simp [hS] at hx; exact hx.1⟩
  have hub : UpperBound S (some u) := ⟨by simp [hS, hlu], fun x hx => by simp [hS] at hx; exact hx.2⟩
  obtain ⟨n, hn, htab⟩ := C09.per_table_eq_layout hr.1 hr.2.2 hlb hub (by
    simp only [INTMAX_MIN, INTMAX_MAX] at hl hu
    omega)
  exact ⟨n, hn, by rw [htab, hr.2.1]; rfl⟩

/-- **INTEGER (l..u) / (l..u, ...)**: whenever the compiler's range computation delivers a range (it never failed
    in the correspondence runs; C09 proves what it delivers), the emitted value record is the X.691 10.5 layout of
    the constraint the UPER reference codec works with (`L2.IntC` = the same `lo`, `hi`, `ext`): constrained,
    lower/upper bound as written, `range_bits` = the least n with u − l + 1 ≤ 2^n, `effective_bits` as
    `emit_single_member_PER_constraint` computes it, APC_EXTENSIBLE iff the marker is written. -/
theorem int_per_record (c : Impl.CompileDescr.Cons) (l u : Int) (hlo : c.lo = some l) (hhi : c.hi = some u)
    (hlu : l ≤ u) (hl : INTMAX_MIN < l ∧ l < INTMAX_MAX) (hu : INTMAX_MIN < u ∧ u < INTMAX_MAX) (r : Range)
    (hr : computeTop { req := .value, rootOnly := true } (some (combinedCT (.value c))) = .ok r) :
    ∃ n : Nat, IsRangeBits (u - l + 1) n ∧
      (encTables .integer (some (.value c)) none).1.1 =
        ⟨2 + (if c.ext then 4 else 0), n, effBits (1 + u - l) u, l, u⟩ := by
  obtain ⟨hs, hw, hlits, hext, hvis⟩ := consExpr_bounded hlo hhi hlu hl.1 hu.2 ISet.univ (fun _ _ _ => rfl)
  have hcomb : combinedCT (.value c) = combined (consExpr c) := rfl
  rw [hcomb] at hr
  have hC := C09.crange_effective (p := { req := .value, rootOnly := true }) rfl rfl rfl
    (domV_of_spec hs).1 hw hlits ⟨l, by rw [hvis]; simp [hlu]⟩ (Or.inl (Or.inr (Or.inl rfl))) hr
  rw [hext] at hC
  obtain ⟨n, hn, htab⟩ := interval_per_record hlu hvis hC hl.1 hu.2
  refine ⟨n, hn, ?_⟩
  simp only [encTables, emitTables, Option.map_some, hcomb, hr, resRange]
  exact htab

/-- **SIZE (l..u) / SIZE (l..u, ...)** on OCTET STRING-like types (and SEQUENCE OF / SET OF): the size record is the
    X.691 10.9 layout of the effective size constraint; `effective_bits` = `range_bits` when the length is a
    constrained whole number (u < 64K), −1 (general length determinant) otherwise. -/
theorem size_per_record (c : Impl.CompileDescr.Cons) (l u : Int) (hlo : c.lo = some l) (hhi : c.hi = some u)
    (h0 : 0 ≤ l) (hlu : l ≤ u) (hu : u < INTMAX_MAX) (r : Range)
    (hr : computeTop { req := .size, rootOnly := true } (some (combinedCT (.size c))) = .ok r) :
    ∃ n : Nat, IsRangeBits (u - l + 1) n ∧
      (encTables .octets (some (.size c)) none).1.2 =
        ⟨2 + (if c.ext then 4 else 0), n, if sizeIsConstrainedNumber u then rangeBits (1 + u - l) else -1, l, u⟩ := by
  have hl : INTMAX_MIN < l := by simp only [INTMAX_MIN]; omega
  obtain ⟨hs, hw, hlits, hext, hvis⟩ := consExpr_bounded hlo hhi hlu hl hu ISet.nat
    (fun y hy _ => by simp only [ISet.nat, decide_eq_true_eq]; omega)
  have hcomb : combinedCT (.size c) = combined (.size (consExpr c)) := rfl
  rw [hcomb] at hr
  have hC := C09.crange_size_effective (p := { req := .size, rootOnly := true }) rfl rfl rfl
    hs hw hlits ⟨l, by rw [hvis]; simp [hlu]⟩ (Or.inl (Or.inr (Or.inl rfl))) hr
  rw [show extensible (.size (consExpr c)) = c.ext from hext] at hC
  obtain ⟨n, hn, htab⟩ := interval_per_record hlu hvis hC hl hu
  refine ⟨n, hn, ?_⟩
  simp only [encTables, emitTables, Option.map_some, hcomb, hr, resRange]
  rw [← C09.per_size_effective_bits h0 hlu hu]
  exact htab

end per

/-- **element of SEQUENCE OF / SET OF**: the fixer decides the tag mode of a tag written on the element type like
    that of a component (module default, X.680 §31.2.7), so the chain of the element in the generated tables is the
    tag list of the element as `L2.resolveTy` resolves it (the former finding F122: the tag kept TM_DEFAULT, which
    the emitters read as EXPLICIT whatever the module said) -/
theorem compiled_element_tags_eq_resolved (M : Module) (htd : ValidTagDefault M) (k : Nat) (hk : k ≤ 64)
    (tag : Option WTag) (q : Bool) (sz : Option Cons) (e : CTy) (e' : Ty) (h : toL2 M k e = some e') :
    ∃ e1, fixTy M (.listOf tag q sz e) = .listOf tag q sz e1 ∧ tagsOf (fixModule M) e1 = tyTags e' := by
  refine ⟨fixTop M e, ?_, compiled_tags_eq_resolved M htd e e' k hk h⟩
  simp only [fixTy, fixTop]

/-- the former witness of F122: `L ::= SEQUENCE OF [1] INTEGER` in an IMPLICIT TAGS module -/
def cexModule : Module := ⟨"IMPLICIT", [("L", .listOf none true none (.integer (some ⟨⟨2, 1⟩, .dflt⟩) none))]⟩

/-- … its member table now carries tag_mode −1 and the element's chain is `[1]` alone, the tag list of the resolved
    element (the unrepaired fixer left tag_mode +1 and the chain `[1] [UNIVERSAL 2]`) -/
theorem seqof_element_default_tag :
    (match fixTop cexModule (.listOf none true none (.integer (some ⟨⟨2, 1⟩, .dflt⟩) none)) with
     | .listOf _ _ _ e => (memberMode (fixModule cexModule) {} e, tagsOf (fixModule cexModule) e)
     | _ => (0, [])) = (-1, [⟨2, 1⟩]) ∧
    (toL2 cexModule 64 (.integer (some ⟨⟨2, 1⟩, .dflt⟩) none)).map tyTags = some [⟨2, 1⟩] := by
  constructor <;> decide

/-- the former witness of F49: `[5] EXPLICIT ENUMERATED { x, y }` as a member has a descriptor of its own whose `tags`
    are `[5] [UNIVERSAL 10]`; the member table says tag_mode 0 (it said +1: the explicit tag was written twice).
    With an IMPLICIT tag the descriptor's tags are `[5]` and the member keeps −1 (the first tag replaced by itself). -/
theorem own_descriptor_member_mode :
    let M : Module := ⟨"none", []⟩
    let e : CTy := .enumerated (some ⟨⟨2, 5⟩, .exp⟩) [0, 1] none
    let i : CTy := .enumerated (some ⟨⟨2, 5⟩, .imp⟩) [0, 1] none
    (memberMode M {} e, tagsOf M e, complexContents M {} e) = (0, [⟨2, 5⟩, ⟨0, 10⟩], true) ∧
    (memberMode M {} i, tagsOf M i) = (-1, [⟨2, 5⟩]) := by
  decide

/-- the specifics of a generated descriptor (`asn_SPC_…_specs`).  Not to be confused with
    `Impl.CompileDescr.specOf`, also in scope here, which turns a written tag into the `TagSpec` of the L2 resolver. -/
def specOf : Descr → DSpec
  | .node _ _ _ _ _ s _ => s
  | _ => .none

/-- `asn_SEQUENCE_specifics_t.first_extension` -/
def firstExtOf : DSpec → Option Int
  | .seq fe _ _ _ _ => some fe
  | _ => Option.none

/-- **first_extension**: the descriptor generated for a SEQUENCE type carries the position of the extension marker
    (the number of components before `...`) whenever the type has one — also when it has no components at all —
    and -1 exactly when it has none: the codecs' "is extensible" test `first_extension >= 0` agrees with the type
    (X.691 §19.1 extension bit, X.696 §16.2 preamble).  Finding F120 (the field was derived inside the loop over the
    components, so `SEQUENCE { ... }` got -1) is repaired in `asn1c_lang_C_type_SEQUENCE_def`. -/
theorem sequence_first_extension (M : Module) (o : Opts) (nm : Names) (fuel : Nat) (path name : String) (emb : Bool)
    (t : CTy) (seen : List String) (p' : String) (tg : Option WTag) (ext : Option Nat) (comps : List Comp)
    (hs : seen.contains path = false)
    (ht : terminalWithPath M M.fuel path t = some (p', .constr tg .sequence ext comps)) :
    firstExtOf (specOf (compTy M o nm (fuel + 1) path name emb t seen).1) =
      some (match ext with | some e => (e : Int) | Option.none => -1) := by
  unfold compTy
  simp only [hs, ht, Bool.false_eq_true, if_false, specOf]
  cases ext <;> (split <;> rfl)

/-- the former F120 witness `A ::= SEQUENCE { ... }` -/
def f120Module : Module := ⟨"AUTOMATIC", [("A", .constr Option.none .sequence (some 0) [])]⟩

/-- … is compiled with `first_extension = 0`, with the default options and without the PER / OER tables -/
theorem empty_extensible_sequence_first_extension :
    (compileDescr f120Module {} [] "A").map (fun d => firstExtOf (specOf d)) = some (some 0) ∧
    (compileDescr f120Module { genPER := false, genOER := false } [] "A").map (fun d => firstExtOf (specOf d)) = some (some 0) := by
  decide

/-- **a reference carries the PER records of the type it references**: the descriptor generated for `B ::= A` or
    `B ::= [5] A` has exactly the type-level PER constraint records of the descriptor generated for `A` (present or
    absent alike), whatever `A` is — as long as the reference chain ends within the compiler's bound.  Before the repair
    `emit_type_DEF` looked at the syntactic kind of `B` itself (a reference), so `B` had no records when `A` was a CHOICE,
    an ENUMERATED (UPER encoding failed: F38, F123) or an unconstrained known-multiplier string (8-bit characters: F111). -/
theorem reference_carries_per_records (M : Module) (o : Opts) (g : Option WTag) (n : String) (a tt : CTy)
    (hl : M.lookup n = some a) (ht : terminal M 63 a = some tt) :
    (typeEnc M o (.ref g n)).per = (typeEnc M o a).per := by
  have h1 : terminal M M.fuel (.ref g n) = some tt := Option.bind_eq_some_iff.mpr ⟨a, hl, ht⟩
  exact typeEnc_per_congr M o (h1.trans (terminal_mono M 63 a tt ht).symm)

/-- **the records are there whenever the PER codecs need them**: with PER generated, the descriptor of every type
    whose terminal type is an ENUMERATED, a CHOICE, a known-multiplier string or a time type (a VisibleString, X.680
    46.3 / 47.3) has PER records, directly or through any chain of references and tags -/
theorem per_records_present (M : Module) (o : Opts) (t tt : CTy) (hg : o.genPER = true)
    (ht : terminal M M.fuel t = some tt)
    (hk : (match tt with
           | .enumerated _ _ _ => true | .constr _ .choice _ _ => true
           | .str _ k _ _ => k != "UTF8String" | .prim _ .utcTime => true | .prim _ .genTime => true
           | _ => false) = true) :
    (typeEnc M o t).per.isSome = true := by
  simp only [typeEnc, ht, hg, Bool.true_and]
  cases tt with
  | enumerated g r e => simp [tkindOf, perKind]
  | constr g k e cs => cases k <;> simp_all [tkindOf, perKind]
  | str g k sz al =>
    by_cases hu : k = "UTF8String"
    · simp [hu] at hk
    · simp [tkindOf, perKind, hu]
  | prim g k => cases k <;> simp_all [perKind]
  | _ => simp at hk

/-- the former witnesses: `A ::= CHOICE { a [0] NULL, b [1] INTEGER }`, `En ::= ENUMERATED { a, b, c }`, `I ::= IA5String`,
    `Bm ::= BMPString`, `N ::= NumericString`, `T ::= GeneralizedTime`, `U ::= UTCTime` -/
def aliasModule : Module := ⟨"none", [
  ("A", .constr none .choice none [.mk "a" (.prim (some ⟨⟨2, 0⟩, .dflt⟩) .null) .mand, .mk "b" (.integer (some ⟨⟨2, 1⟩, .dflt⟩) none) .mand]),
  ("En", .enumerated none [0, 1, 2] none), ("I", .str none "IA5String" none none), ("Bm", .str none "BMPString" none none),
  ("N", .str none "NumericString" none none), ("T", .prim none .genTime), ("U", .prim none .utcTime)]⟩

/-- … `B ::= A` and `E ::= [5] A` get the one-bit index record of the CHOICE (F38), `B ::= En` the two-bit record of the
    ENUMERATED (F123), `B ::= I` / `B ::= Bm` / `B ::= N` the 7 / 16 / 4-bit character records (F111), and the named time
    types the record of VisibleString, 7 bits 32..126 (F111); each had no PER records at all before the repair -/
theorem former_alias_witnesses_have_per_records :
    (typeEnc aliasModule {} (.ref none "A")).per = some (⟨2, 1, 1, 0, 1⟩, ⟨0, -1, -1, 0, 0⟩) ∧
    (typeEnc aliasModule {} (.ref (some ⟨⟨2, 5⟩, .dflt⟩) "A")).per = some (⟨2, 1, 1, 0, 1⟩, ⟨0, -1, -1, 0, 0⟩) ∧
    (typeEnc aliasModule {} (.ref none "En")).per = some (⟨2, 2, 2, 0, 2⟩, ⟨0, -1, -1, 0, 0⟩) ∧
    (typeEnc aliasModule {} (.ref none "I")).per = some (⟨2, 7, 7, 0, 127⟩, ⟨1, -1, -1, 0, 0⟩) ∧
    (typeEnc aliasModule {} (.ref none "Bm")).per = some (⟨2, 16, 16, 0, 65535⟩, ⟨1, -1, -1, 0, 0⟩) ∧
    (typeEnc aliasModule {} (.ref none "N")).per = some (⟨2, 4, 4, 32, 57⟩, ⟨1, -1, -1, 0, 0⟩) ∧
    (typeEnc aliasModule {} (.prim none .genTime)).per = some (⟨2, 7, 7, 32, 126⟩, ⟨1, -1, -1, 0, 0⟩) ∧
    (typeEnc aliasModule {} (.ref none "U")).per = some (⟨2, 7, 7, 32, 126⟩, ⟨1, -1, -1, 0, 0⟩) ∧
    (typeEnc aliasModule { genPER := false } (.ref none "A")).per = Option.none := by
  decide +kernel

/-- the hypotheses of `reference_carries_per_records` are satisfiable -/
example : ∃ a tt, aliasModule.lookup "A" = some a ∧ terminal aliasModule 63 a = some tt := ⟨_, _, rfl, rfl⟩

/-- the hypotheses of the tag theorems are satisfiable -/
example : ValidTagDefault cexModule := Or.inr (Or.inr (Or.inl rfl))
example : (toL2Named cexModule "L").isSome = true := by decide

/-- a module with AUTOMATIC TAGS: `S ::= SEQUENCE { a BOOLEAN OPTIONAL, c CHOICE { x NULL, y INTEGER }, ..., d Ref }`,
    `Ref ::= CHOICE { p REAL, q BOOLEAN }` -/
def exModule : Module := ⟨"AUTOMATIC", [
  ("Ref", .constr none .choice none [.mk "p" (.prim none .real) .mand, .mk "q" (.prim none .boolean) .mand]),
  ("S", .constr none .sequence (some 2) [
      .mk "a" (.prim none .boolean) .opt,
      .mk "c" (.constr none .choice none [.mk "x" (.prim none .null) .mand, .mk "y" (.integer none none) .mand]) .mand,
      .mk "d" (.ref none "Ref") .mand])]⟩

def exComps : List Comp := match exModule.lookup "S" with | some (.constr _ _ _ cs) => cs | _ => []

/-- … resolves, has pairwise distinct member tags, and the model's tag2el is [0]→a, [1]→c, [2]→d -/
example : ∃ ms as, l2Comps (toL2 exModule 63) (autoSelected exModule exComps) 2 0 exComps = some (ms, as) ∧
    (outerTagsAlts ms).Nodup ∧
    (tag2el (fixModule exModule) (fixComps exModule (autoSelected exModule exComps) 0 exComps)).map (fun e => (e.tag, e.elNo))
      = [(⟨2, 0⟩, 0), (⟨2, 1⟩, 1), (⟨2, 2⟩, 2)] := by
  refine ⟨_, _, rfl, ?_, ?_⟩ <;> decide

/-- the range computation succeeds on INTEGER (1..65536, ...): the hypothesis `hr` of `int_per_record` -/
example : (Impl.CTables.resRange (Impl.CRange.computeTop { req := .value, rootOnly := true }
    (some (combinedCT (.value ⟨some 1, some 65536, true⟩))))).isSome = true := by decide

end Asn1c.Props.C10Compile

