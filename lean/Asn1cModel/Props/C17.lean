import Asn1cModel.Proofs.Oid
import Asn1cModel.Proofs.Time
import Asn1cModel.Proofs.TimeFrac
import Mathlib.Algebra.Group.Nat.Defs
/-
  C17 — OBJECT IDENTIFIER and time helper APIs round-trip and match X.690.
  Property theorems (helper lemmas: Proofs/Oid.lean, Proofs/Time.lean, Proofs/TimeFrac.lean).

  Part A: Impl.Oid = model of skeletons/OBJECT_IDENTIFIER.c and RELATIVE-OID.c (`asn_oid_arc_t` = `uint32_t`)
          against Spec.Oid (X.690 §8.19 / §8.20, dotted text form).
  Part B: Impl.Time = model of skeletons/GeneralizedTime.c and UTCTime.c, with libc's timegm / gmtime_r /
          localtime_r replaced by a proleptic-Gregorian calendar model, against Spec.Time (the calendar counted
          year by year and month by month, POSIX seconds, canonical YYYYMMDDHHMMSSZ text).
  Both models are tied to the C code by the `oidtime_driver` correspondence (time ops under several TZ settings).
-/
namespace Asn1c.Props.C17
open Asn1c Asn1c.Impl.Oid Asn1c.Spec.Oid Asn1c.Proofs.Oid

/-- Spec sanity: `base128 n` is one complete sub-identifier, has no 0x80 leading octet and denotes `n`
    (the declarative reading of X.690 §8.19.2). -/
theorem base128_spec (n : Nat) :
    IsSubid (base128 n) ∧ MinimalSubid (base128 n) ∧ subidVal 0 (base128 n) = n :=
  ⟨base128_isSubid n, base128_minimal n, subidVal_base128 n⟩

/-- Spec sanity: a `uint32_t` arc needs at most five octets (the C code's per-arc buffer estimate). -/
theorem base128_length_le (n : Nat) (h : n < 2 ^ 32) : (base128 n).length ≤ 5 :=
  base128_length_le5 n (by omega)

/-- Spec sanity: `base128 n` consists of octets. -/
theorem base128_wf (n : Nat) : Bytes.wf (base128 n) := by
  unfold base128
  intro b hb
  rw [List.mem_append] at hb
  rcases hb with hb | hb
  · exact (base128hi_allHi _ b hb).2
  · simp at hb; omega

/-- **OBJECT_IDENTIFIER_set_single_arc** writes exactly the X.690 §8.19.2 octets of `v` when they fit
    the buffer and returns -1 (nothing written) otherwise. -/
theorem setSingleArc_spec (buflen v : Nat) :
    setSingleArc buflen v = if (base128 v).length ≤ buflen then some (base128 v) else none :=
  setSingleArc_eq buflen v

/-- **OBJECT_IDENTIFIER_set_arcs** stores exactly the X.690 §8.19 contents octets for every arc vector
    with a valid first pair; the internal buffer-size test never fires. -/
theorem setArcs_eq_spec (arcs : List Nat) (hv : ValidFirstPair arcs) (h32 : Arcs32 arcs) :
    setArcs arcs = .ok (oidOctets arcs) := by
  rw [setArcs_total arcs h32, if_pos hv]

/-- **OBJECT_IDENTIFIER_set_arcs** fails with EINVAL for fewer than two arcs and with ERANGE for every
    other vector whose first pair is not valid. -/
theorem setArcs_error_kind (arcs : List Nat) (h32 : Arcs32 arcs) (hn : ¬ ValidFirstPair arcs) :
    setArcs arcs = if arcs.length < 2 then .einval else .erange := by
  rw [setArcs_total arcs h32, if_neg hn]

/-- **OBJECT_IDENTIFIER_set_arcs** succeeds exactly on the arc vectors with a valid first pair. -/
theorem setArcs_rejects_iff (arcs : List Nat) (h32 : Arcs32 arcs) :
    (∃ bs, setArcs arcs = .ok bs) ↔ ValidFirstPair arcs := by
  rw [setArcs_total arcs h32]
  by_cases hv : ValidFirstPair arcs
  · simp [hv]
  · rw [if_neg hv]; split <;> simp [hv]

/-- **OBJECT_IDENTIFIER_set_arcs** never takes the bare `return -1` of the buffer-size test. -/
theorem setArcs_never_fail (arcs : List Nat) (h32 : Arcs32 arcs) : setArcs arcs ≠ .fail := by
  by_cases hv : ValidFirstPair arcs
  · rw [setArcs_eq_spec arcs hv h32]; simp
  · rw [setArcs_error_kind arcs h32 hv]; split <;> simp

/-- **OBJECT_IDENTIFIER_get_single_arc** on any complete sub-identifier (minimal or not, any length,
    whatever follows it) consumes it and returns its value iff that value fits `asn_oid_arc_t`;
    otherwise it reports ERANGE (no wrap-around: F6 repaired). -/
theorem getSingleArc_iff_fits (bs rest : Bytes) (h : IsSubid bs) :
    getSingleArc (bs ++ rest) =
      if subidVal 0 bs < 2 ^ 32 then .ok (subidVal 0 bs) bs.length else .erange :=
  getSingleArc_subid bs rest h

/-- **OBJECT_IDENTIFIER_get_single_arc** returns the exact value of every sub-identifier below 2^32. -/
theorem getSingleArc_spec (bs rest : Bytes) (h : IsSubid bs) (hv : subidVal 0 bs < 2 ^ 32) :
    getSingleArc (bs ++ rest) = .ok (subidVal 0 bs) bs.length := by
  rw [getSingleArc_iff_fits bs rest h, if_pos hv]

/-- **OBJECT_IDENTIFIER_get_single_arc** reports ERANGE for every sub-identifier of 2^32 or more. -/
theorem getSingleArc_overflow (bs rest : Bytes) (h : IsSubid bs) (hv : 2 ^ 32 ≤ subidVal 0 bs) :
    getSingleArc (bs ++ rest) = .erange := by
  rw [getSingleArc_iff_fits bs rest h, if_neg (by omega)]

/-- **OBJECT_IDENTIFIER_get_single_arc** accepts non-minimal sub-identifiers (any number of leading
    0x80 octets, forbidden by X.690 §8.19.2) and returns the same arc. -/
theorem getSingleArc_nonminimal (k n : Nat) (rest : Bytes) (h : n < 2 ^ 32) :
    getSingleArc (List.replicate k 128 ++ base128 n ++ rest) = .ok n (k + (base128 n).length) := by
  have hs : IsSubid (List.replicate k 128 ++ base128 n) :=
    isSubid_hi_append _ _ (allHi_replicate k) (base128_isSubid n)
  have hval : subidVal 0 (List.replicate k 128 ++ base128 n) = n := by
    rw [subidVal_append, subidVal_replicate, subidVal_base128]
  rw [getSingleArc_iff_fits _ rest hs, hval, if_pos h]
  simp

/-- **OBJECT_IDENTIFIER_get_single_arc is sound on arbitrary octets**: whenever it returns an arc, the
    `rd` octets it consumed are one complete sub-identifier, the arc is the value they denote and it
    fits 32 bits (nothing is returned modulo 2^32). -/
theorem getSingleArc_ok_sound (bs : Bytes) (hwf : Bytes.wf bs) (v rd : Nat)
    (h : getSingleArc bs = .ok v rd) :
    ∃ sub rest, bs = sub ++ rest ∧ IsSubid sub ∧ rd = sub.length ∧ v = subidVal 0 sub ∧ v < 2 ^ 32 := by
  have := getSingleArc_total bs hwf
  rwa [h] at this

/-- **OBJECT_IDENTIFIER_get_single_arc reports ERANGE only for an overflow**: on arbitrary octets the
    answer ERANGE means that the octets read so far already denote a value of 2^32 or more. -/
theorem getSingleArc_erange_sound (bs : Bytes) (hwf : Bytes.wf bs) (h : getSingleArc bs = .erange) :
    (∃ sub rest, bs = sub ++ rest ∧ IsSubid sub ∧ 2 ^ 32 ≤ subidVal 0 sub) ∨
    ((∀ b ∈ bs, 128 ≤ b ∧ b < 256) ∧ 2 ^ 32 ≤ subidVal 0 bs) := by
  have := getSingleArc_total bs hwf
  rwa [h] at this

/-- F6 witness, repaired: the five-octet sub-identifier of 2^32 (formerly read back as arc 0) is
    answered with ERANGE; 2^32 - 1 is still read exactly. -/
theorem getSingleArc_overflow_witness :
    IsSubid [0x90, 0x80, 0x80, 0x80, 0x00] ∧ subidVal 0 [0x90, 0x80, 0x80, 0x80, 0x00] = 2 ^ 32 ∧
    getSingleArc [0x90, 0x80, 0x80, 0x80, 0x00] = .erange ∧
    getSingleArc [0x8f, 0xff, 0xff, 0xff, 0x7f] = .ok 4294967295 5 := by
  refine ⟨?_, by decide, by decide, by decide⟩
  simp [IsSubid]

/-- **OBJECT_IDENTIFIER_get_single_arc** when the buffer ends inside a sub-identifier: EINVAL — unless
    the octets read so far already overflow 32 bits, which is reported (as ERANGE) first. -/
theorem getSingleArc_truncated (bs : Bytes) (hne : bs ≠ []) (h : ∀ b ∈ bs, 128 ≤ b ∧ b < 256) :
    (subidVal 0 bs < 2 ^ 32 → getSingleArc bs = .einval) ∧
    (getSingleArc bs = .einval ∨ getSingleArc bs = .erange) := by
  rw [getSingleArc_allHi bs hne h]
  exact ⟨fun hv => if_pos hv, by split <;> simp⟩

/-- **RELATIVE_OID_get_arcs on any series of complete sub-identifiers** (minimal or not): the values
    they denote if every one fits `asn_oid_arc_t`, ERANGE otherwise. -/
theorem roidGetArcs_iff_fit (subs : List Bytes) (h : ∀ s ∈ subs, IsSubid s) :
    roidGetArcs subs.flatten =
      if allFit subs = true then .ok (subs.map (subidVal 0)) else .erange := by
  unfold roidGetArcs
  exact getArcsLoop_subids _ subs h (Nat.le_refl _)

/-- **OBJECT_IDENTIFIER_get_arcs on any series of complete sub-identifiers**: the first one split
    into the arc pair (X.690 §8.19.4), then the values of the others, if every sub-identifier fits
    `asn_oid_arc_t`; ERANGE otherwise. -/
theorem getArcs_iff_fit (s0 : Bytes) (subs : List Bytes) (h0 : IsSubid s0) (h : ∀ s ∈ subs, IsSubid s) :
    getArcs (s0 ++ subs.flatten) =
      if allFit (s0 :: subs) = true then
        .ok ((splitFirst (subidVal 0 s0)).1 :: (splitFirst (subidVal 0 s0)).2 :: subs.map (subidVal 0))
      else .erange := by
  have hall := List.forall_mem_cons.mpr ⟨h0, h⟩
  rw [getArcs_eq_loop, ← List.flatten_cons, getArcsLoop_subids _ (s0 :: subs) hall (Nat.le_succ _)]
  by_cases ha : allFit (s0 :: subs) = true
  · rw [if_pos ha, if_pos ha]; rfl
  · rw [if_neg ha, if_neg ha]

/-- **OBJECT_IDENTIFIER_get_arcs** reads back exactly the arc vector whose X.690 contents octets it is
    given (valid first pair, 32-bit arcs). -/
theorem getArcs_setArcs (arcs : List Nat) (hv : ValidFirstPair arcs) (h32 : Arcs32 arcs) :
    getArcs (oidOctets arcs) = .ok arcs := by
  match arcs, hv, h32 with
  | a0 :: a1 :: rest, hv, h32 =>
    obtain ⟨h0, h1, h2⟩ := hv
    obtain ⟨r1, r2, r3⟩ := base128_subids rest (arcs32_tail (arcs32_tail h32))
    rw [oidOctets, List.flatMap_def, getArcs_iff_fit _ _ (base128_isSubid _) r1, allFit_cons,
      subidVal_base128, r2, r3, splitFirst_pair a0 a1 h0 h1, Bool.and_true, decide_eq_true h2]
    rfl

/-- **OBJECT_IDENTIFIER_get_arcs ∘ OBJECT_IDENTIFIER_set_arcs** is the identity on every accepted
    arc vector. -/
theorem getArcs_of_setArcs (arcs : List Nat) (bs : Bytes) (h32 : Arcs32 arcs)
    (h : setArcs arcs = .ok bs) : getArcs bs = .ok arcs := by
  have hv : ValidFirstPair arcs := (setArcs_rejects_iff arcs h32).mp ⟨bs, h⟩
  rw [setArcs_eq_spec arcs hv h32] at h
  injection h with h
  rw [← h]; exact getArcs_setArcs arcs hv h32

/-- **RELATIVE_OID_set_arcs** stores exactly the X.690 §8.20 contents octets; the buffer-size test
    never fires. -/
theorem roidSetArcs_eq_spec (arcs : List Nat) (h32 : Arcs32 arcs) :
    roidSetArcs arcs = .ok (roidOctets arcs) := by
  unfold roidSetArcs roidOctets
  rw [setArcsLoop_eq _ _ arcs h32 (Nat.le_refl _)]; rfl

/-- **RELATIVE_OID_get_arcs** reads back exactly the arc vector whose contents octets it is given. -/
theorem roidGetArcs_roidSetArcs (arcs : List Nat) (h32 : Arcs32 arcs) :
    roidGetArcs (roidOctets arcs) = .ok arcs := by
  obtain ⟨r1, r2, r3⟩ := base128_subids arcs h32
  rw [roidOctets, List.flatMap_def, roidGetArcs_iff_fit _ r1, if_pos r2, r3]

/-- **OBJECT_IDENTIFIER_parse_arcs** on the dotted text of any non-empty vector of 32-bit arcs returns
    exactly that vector and sets the end pointer to the end of the text. -/
theorem parseArcs_dotted (arcs : List Nat) (hne : arcs ≠ []) (h32 : Arcs32 arcs) :
    parseArcs (dotted arcs) = .ok arcs (dotted arcs).length := by
  unfold parseArcs
  rw [parseLoop_dotted arcs hne h32 _ .leadspace 0 [] (Or.inl rfl) (Nat.le_refl _)]
  simp

/-- **OBJECT_IDENTIFIER_parse_arcs** rejections: "1. 1", ".1", "1.", "1..2" are EINVAL and
    "1.4294967296" is ERANGE, with the end pointer at the offending position. -/
theorem parseArcs_rejects :
    parseArcs [0x31, 0x2e, 0x20, 0x31] = .einval 2 ∧
    parseArcs [0x2e, 0x31] = .einval 0 ∧
    parseArcs [0x31, 0x2e] = .einval 2 ∧
    parseArcs [0x31, 0x2e, 0x2e, 0x32] = .einval 2 ∧
    parseArcs [0x31, 0x2e, 0x34, 0x32, 0x39, 0x34, 0x39, 0x36, 0x37, 0x32, 0x39, 0x36] = .erange 2 := by
  refine ⟨by decide, by decide, by decide, by decide, by decide⟩

/-- **OBJECT_IDENTIFIER_parse_arcs** on blank text returns 0 arcs with the end pointer at the end. -/
theorem parseArcs_blank : parseArcs [0x20, 0x09] = .ok [] 2 := by decide

/-! non-vacuity: a valid vector at the edge of the 32-bit range, and a complete non-minimal sub-identifier -/
example : ValidFirstPair [2, 4294967215, 4294967295] ∧ Arcs32 [2, 4294967215, 4294967295] := by
  constructor
  · decide
  · intro a ha; simp at ha; rcases ha with h | h | h <;> subst h <;> decide
example : IsSubid [0x80, 0x80, 0x01] ∧ subidVal 0 [0x80, 0x80, 0x01] < 2 ^ 32 := by
  refine ⟨by simp [IsSubid], by decide⟩

section TimePart
open Asn1c.Impl.Time Asn1c.Spec.Time Asn1c.Proofs.Time

/-- **calendar model = Gregorian calendar**: the closed-form day count used by the `timegm` model equals the
    day number obtained by counting years (leap rule) and months (length table) one by one. -/
theorem calendar_eq_spec (Y M D : Nat) (h1 : 1 ≤ M) (h2 : M ≤ 12) (hd : 1 ≤ D) :
    daysFromCivil (Y : Int) (M - 1) (D : Int) = (dayNumber Y M D : Int) - 719528 :=
  daysFromCivil_eq_spec Y M D h1 h2 hd

/-- **daysFromCivil ∘ civilFromDays = id** on every day number (negative ones included) -/
theorem daysFromCivil_civilFromDays (z : Int) :
    daysFromCivil (civilFromDays z).1 (civilFromDays z).2.1 (civilFromDays z).2.2 = z :=
  Asn1c.Proofs.Time.daysFromCivil_civilFromDays z

/-- **civilFromDays ∘ daysFromCivil = id** on every valid date (any year, month 0..11, day within the month) -/
theorem civilFromDays_daysFromCivil (y : Int) (m d : Nat) (hm : m < 12) (hd1 : 1 ≤ d)
    (hd2 : d ≤ monthLen (isLeap (y % 400).toNat) m) : civilFromDays (daysFromCivil y m d) = (y, m, d) := by
  have := civilFromDays_era (y / 400) (y % 400).toNat m d (by omega) hm hd1 hd2
  rw [show y / 400 * 400 + ((y % 400).toNat : Int) = y by omega] at this
  exact this

/-- `civilFromDays` always yields a valid date -/
theorem civilFromDays_valid (z : Int) :
    (civilFromDays z).2.1 < 12 ∧ 1 ≤ (civilFromDays z).2.2 ∧
    (civilFromDays z).2.2 ≤ monthLen (isLeap ((civilFromDays z).1 % 400).toNat) (civilFromDays z).2.1 :=
  Asn1c.Proofs.Time.civilFromDays_valid z

/-- **timegm (gmtime t) = t** for every `time_t` -/
theorem timegm_gmtime (t : Int) : timegm (gmtime t) = t := Asn1c.Proofs.Time.timegm_gmtime t

/-- **forced-GMT output does not depend on the time zone**: whatever UTC offset `off` the `struct tm` was
    produced with (`localtime_r` in any zone), `asn_time2GT_frac(.., force_gmt = 1)` yields the text obtained
    from the UTC broken-down time; fractions included. -/
theorem time2GT_zone_independent (t off fv fd : Int) :
    time2GTfrac (localtime t off) fv fd true = time2GTfrac (gmtime t) fv fd true :=
  time2GTfrac_zone_independent t off fv fd

/-- **canonical text**: for every instant `t` in the years 0000..9999 and every zone offset, `asn_time2GT`
    in forced-GMT form succeeds and produces "YYYYMMDDHHMMSSZ" for a valid calendar date-time that denotes
    `t` (POSIX seconds over the Gregorian calendar). -/
theorem time2GT_canonical (t off : Int) (h0 : t0000 ≤ t) (h1 : t < t10000) :
    ∃ Y M D h m s, ValidDateTime Y M D h m s ∧ epochSeconds Y M D h m s = t ∧
      time2GT (localtime t off) true = some (gtCanon Y M D h m s) := by
  obtain ⟨Y, M, D, h, m, s, hv, he, ht⟩ := time2GTfrac_head t off 0 0 h0 h1
  exact ⟨Y, M, D, h, m, s, hv, he, by rw [time2GT, ht, fracText_no_digits, List.append_nil]; rfl⟩

/-- **asn_GT2time on canonical text**: every "YYYYMMDDHHMMSSZ" of a valid date-time converts to the instant
    it denotes (and the `struct tm` handed back is that instant's), in every local zone — the instant -1
    (1969-12-31T23:59:59Z) included (F60 repaired). -/
theorem GT2time_canonical (lo : Int) (g : Bool) (Y M D h m s : Nat) (hv : ValidDateTime Y M D h m s) :
    GT2time lo (gtCanon Y M D h m s) g = .ok (epochSeconds Y M D h m s) 0 0
      (if g then gmtime (epochSeconds Y M D h m s) else localtime (epochSeconds Y M D h m s) lo) := by
  exact GT2timeFrac_of_tail lo g Y M D h m s hv [0x5a] 0 0 rfl

/-- **round trip**: for every `time_t` t in the years 0000..9999, every zone offset of the input
    and every local zone / `as_gmt` choice of the reader:  GT2time (time2GT (localtime t)) = t. -/
theorem GT2time_time2GT (t off lo : Int) (g : Bool) (h0 : t0000 ≤ t) (h1 : t < t10000) :
    ∃ txt, time2GT (localtime t off) true = some txt ∧
      GT2time lo txt g = .ok t 0 0 (if g then gmtime t else localtime t lo) := by
  obtain ⟨Y, M, D, h, m, s, hv, he, ht⟩ := time2GT_canonical t off h0 h1
  refine ⟨_, ht, ?_⟩
  have := GT2time_canonical lo g Y M D h m s hv
  rw [he] at this; exact this

/-- F60 witness, repaired: the instant -1 (1969-12-31T23:59:59Z) is a valid `time_t`; `asn_GT2time`
    converts what `asn_time2GT` prints for it back to -1, and the text "19691231235959Z" of the former
    witness is read as -1 (formerly: -1/EINVAL). -/
theorem GT2time_minus_one_witness (off lo : Int) (g : Bool) :
    (∃ txt, time2GT (localtime (-1) off) true = some txt ∧
      GT2time lo txt g = .ok (-1) 0 0 (if g then gmtime (-1) else localtime (-1) lo)) ∧
    gtCanon 1969 12 31 23 59 59 =
      [0x31, 0x39, 0x36, 0x39, 0x31, 0x32, 0x33, 0x31, 0x32, 0x33, 0x35, 0x39, 0x35, 0x39, 0x5a] ∧
    GT2time lo (gtCanon 1969 12 31 23 59 59) g = .ok (-1) 0 0 (if g then gmtime (-1) else localtime (-1) lo) := by
  have he : epochSeconds 1969 12 31 23 59 59 = -1 := by rw [epochSeconds, dayNumber_eq]; decide
  have hc := GT2time_canonical lo g 1969 12 31 23 59 59 (by decide)
  rw [he] at hc
  exact ⟨GT2time_time2GT (-1) off lo g (by decide) (by decide), by decide, hc⟩

/-- **asn_time2GT_frac, fraction block**: for 1..9 `frac_digits` and a `frac_value` that fits them, the block
    prints the fraction n/10^d canonically: all d digits, trailing zeros stripped, '.' only if a digit remains. -/
theorem fracText_canonical (n d : Nat) (hd1 : 1 ≤ d) (hd9 : d ≤ 9) (hn0 : 0 < n) (hn : n < 10 ^ d) :
    fracText (n : Int) (d : Int) = fracCanon n d :=
  have _ := hd1
  have _ := hn0
  fracText_eq_fracCanon n d hd9 hn

/-- **asn_time2GT_frac, fraction block**: a `frac_value` that does not fit `frac_digits` (1..9) digits is
    silently dropped — the `digit > 9` abort prints no fraction at all. -/
theorem fracText_too_big (n d : Nat) (hd1 : 1 ≤ d) (hd9 : d ≤ 9) (hn : 10 ^ d ≤ n) :
    fracText (n : Int) (d : Int) = [] := by
  have hn0 : 0 < n := Nat.lt_of_lt_of_le (Nat.pow_pos (by decide)) hn
  obtain ⟨k, rfl⟩ : ∃ k, d = k + 1 := ⟨d - 1, by omega⟩
  rw [fracText_succ n k hn0 (by omega), fracLoop_none k 9 n hn]

/-- **asn_time2GT_frac(localtime(t), n, d, force_gmt = 1)** for t in the years 0000..9999 and a fraction n/10^d
    (1 ≤ d ≤ 9): the text is the 14 canonical digits of a valid UTC date-time denoting t, the canonical
    fraction, 'Z' — in every zone. -/
theorem time2GTfrac_canonical (t off : Int) (n d : Nat) (h0 : t0000 ≤ t) (h1 : t < t10000)
    (hd1 : 1 ≤ d) (hd9 : d ≤ 9) (hn0 : 0 < n) (hn : n < 10 ^ d) :
    ∃ Y M D h m s, ValidDateTime Y M D h m s ∧ epochSeconds Y M D h m s = t ∧
      time2GTfrac (localtime t off) n d true =
        some ((gtCanon Y M D h m s).dropLast ++ fracCanon n d ++ [0x5a]) := by
  obtain ⟨Y, M, D, h, m, s, hv, he, ht⟩ := time2GTfrac_head t off n d h0 h1
  refine ⟨Y, M, D, h, m, s, hv, he, ?_⟩
  rw [ht, gtCanon_dropLast, fracText_canonical n d hd1 hd9 hn0 hn]

/-- **asn_GT2time_frac on "YYYYMMDDHHMMSS.f…fZ"** (valid date-time, at most nine fraction digits): the instant
    the text denotes, `*frac_value` = the decimal value of the digits, `*frac_digits` = their number (the instant -1 is no
    exception: F60 repaired). -/
theorem GT2timeFrac_canon_frac (lo : Int) (g : Bool) (Y M D h m s : Nat) (hv : ValidDateTime Y M D h m s)
    (ds : List Nat) (hds : ∀ c ∈ ds, 48 ≤ c ∧ c ≤ 57) (hlen : ds.length ≤ 9) (hne : ds ≠ []) :
    GT2timeFrac lo (gtDigits14 Y M D h m s ++ 0x2e :: ds ++ [0x5a]) g =
      .ok (epochSeconds Y M D h m s) (digitsVal ds : Nat) ds.length
        (if g then gmtime (epochSeconds Y M D h m s) else localtime (epochSeconds Y M D h m s) lo) := by
  have _ := hne
  have hr : gtAfterSec m s (0x2e :: (ds ++ [0x5a])) = some ⟨m, s, (digitsVal ds : Nat), ds.length, true, 0⟩ := by
    rw [gtAfterSec]
    simp only [Nat.reduceEqDiff, or_true, if_true, gtFracLoop_canon ds [] hds hlen]
    rfl
  rw [List.append_assoc]
  exact GT2timeFrac_of_tail lo g Y M D h m s hv _ _ _ hr

/-- Spec sanity: the canonical fraction of n/10^d (0 < n < 10^d) is '.' followed by 1..d digits, the last one
    non-redundant in the sense that their value scaled back to d digits is n. -/
theorem fracCanon_denotes (n d : Nat) (hn0 : 0 < n) (hn : n < 10 ^ d) :
    ∃ ds : List Nat, fracCanon n d = 0x2e :: ds ∧ (∀ c ∈ ds, 48 ≤ c ∧ c ≤ 57) ∧ ds ≠ [] ∧ ds.length ≤ d ∧
      digitsVal ds * 10 ^ (d - ds.length) = n := by
  obtain ⟨hl, hrange, hv⟩ := fracDigits_numeral d n
  obtain ⟨j, hj⟩ := stripZeros_split (fracDigits d n)
  have hlen := congrArg List.length hj
  rw [hl, List.length_append, List.length_replicate] at hlen
  have hval : digitsVal (stripZeros (fracDigits d n)) * 10 ^ j = n := by
    have := hv 0
    rw [hj, digitsValAcc_zeros, Nat.zero_mul, Nat.zero_add, Nat.mod_eq_of_lt hn] at this
    exact this
  have hne : stripZeros (fracDigits d n) ≠ [] := by
    intro h
    rw [h] at hval
    simp [digitsVal, digitsValAcc_nil] at hval
    omega
  refine ⟨stripZeros (fracDigits d n), by rw [fracCanon_eq, if_neg hne], ?_, hne, by omega, ?_⟩
  · exact fun c hc => hrange c (hj ▸ List.mem_append_left _ hc)
  · rw [show d - (stripZeros (fracDigits d n)).length = j by omega]; exact hval

/-- **fraction round trip**: for t in the years 0000..9999, every zone offset, and a fraction
    n/10^d (d ≤ 9, 0 < n < 10^d): `asn_GT2time_frac` applied to the forced-GMT text of `asn_time2GT_frac`
    returns t and a fraction fv/10^fd equal to n/10^d (1 ≤ fd ≤ d: trailing zeros are gone). -/
theorem GT2timeFrac_time2GTfrac (t off lo : Int) (g : Bool) (n d : Nat) (h0 : t0000 ≤ t) (h1 : t < t10000)
    (hd9 : d ≤ 9) (hn0 : 0 < n) (hn : n < 10 ^ d) :
    ∃ (txt : Bytes) (fv fd : Nat), time2GTfrac (localtime t off) n d true = some txt ∧
      GT2timeFrac lo txt g = .ok t fv fd (if g then gmtime t else localtime t lo) ∧
      1 ≤ fd ∧ fd ≤ d ∧ fv * 10 ^ (d - fd) = n := by
  obtain ⟨Y, M, D, h, m, s, hv, he, ht⟩ := time2GTfrac_head t off n d h0 h1
  obtain ⟨ds, e1, e2, e3, e4, e5⟩ := fracCanon_denotes n d hn0 hn
  rw [fracText_eq_fracCanon n d hd9 hn, e1] at ht
  refine ⟨_, digitsVal ds, ds.length, ht, ?_, List.length_pos_iff.mpr e3, e4, e5⟩
  have := GT2timeFrac_canon_frac lo g Y M D h m s hv ds e2 (by omega) e3
  rw [he] at this
  rw [← this]

/-- Observations on foreign input (closed instances; none contradicts C17, which is about the helpers' own
    output): `asn_GT2time` (a) ignores anything after 'Z' ("19700101000000Zjunk" = 0), (b) does not range-check
    minutes ("19700101009900Z" = 99 min = 5940 s), (c) accepts day 31 in any month and lets `timegm` normalise
    ("20230231000000Z" = 2023-03-03), (d) rejects the X.680 fraction-of-an-hour form "2024010112.5Z". -/
theorem GT2time_reader_quirks :
    (GT2time 0 [0x31,0x39,0x37,0x30,0x30,0x31,0x30,0x31,0x30,0x30,0x30,0x30,0x30,0x30,0x5a,0x6a,0x75,0x6e,0x6b] true).time = some 0 ∧
    (GT2time 0 [0x31,0x39,0x37,0x30,0x30,0x31,0x30,0x31,0x30,0x30,0x39,0x39,0x30,0x30,0x5a] true).time = some 5940 ∧
    (GT2time 0 [0x32,0x30,0x32,0x33,0x30,0x32,0x33,0x31,0x30,0x30,0x30,0x30,0x30,0x30,0x5a] true).time = some 1677801600 ∧
    GT2time 0 [0x32,0x30,0x32,0x34,0x30,0x31,0x30,0x31,0x31,0x32,0x2e,0x35,0x5a] true = .einval := by decide

/-- `asn_time2UT` drops the century: for t in 0000..9999 the text is "YYMMDDHHMMSSZ" of the date-time denoting t -/
theorem time2UT_canonical (t off : Int) (h0 : t0000 ≤ t) (h1 : t < t10000) :
    ∃ Y M D h m s, ValidDateTime Y M D h m s ∧ epochSeconds Y M D h m s = t ∧
      time2UT (localtime t off) true = some (utCanon Y M D h m s) := by
  obtain ⟨Y, M, D, h, m, s, hv, he, ht⟩ := time2GT_canonical t off h0 h1
  refine ⟨Y, M, D, h, m, s, hv, he, ?_⟩
  unfold time2UT; rw [ht, utCanon_eq_drop]; rfl

/-- **asn_UT2time window**: a canonical UTCTime text is read as the GeneralizedTime text whose year is the
    image of the two-digit year in 1960..2059 (first digit > '5' → 19xx, else 20xx). -/
theorem UT2time_window (lo : Int) (g : Bool) (Y M D h m s : Nat) :
    UT2time lo (utCanon Y M D h m s) g = GT2time lo (gtCanon (utWindow Y) M D h m s) g := by
  have hlen : (utCanon Y M D h m s).length = 13 := by simp [utCanon, digits2]
  unfold UT2time
  rw [if_neg (by omega)]
  simp only [gtCanon, digits4_utWindow, utCanon, List.append_assoc]
  rfl

/-- **UTCTime round trip inside the window**: for every t in [1960-01-01, 2060-01-01), -1 included -/
theorem UT2time_time2UT (t off lo : Int) (g : Bool) (h0 : t1960 ≤ t) (h1 : t < t2060) :
    ∃ txt, time2UT (localtime t off) true = some txt ∧
      UT2time lo txt g = .ok t 0 0 (if g then gmtime t else localtime t lo) := by
  obtain ⟨Y, M, D, h, m, s, hv, he, ht⟩ := time2UT_canonical t off
    (by unfold t1960 at h0; unfold t0000; omega) (by unfold t2060 at h1; unfold t10000; omega)
  refine ⟨_, ht, ?_⟩
  obtain ⟨w1, w2⟩ := year_in_window Y M D h m s hv (by rw [he]; exact h0) (by rw [he]; exact h1)
  rw [UT2time_window, utWindow_id Y w1 w2]
  have := GT2time_canonical lo g Y M D h m s hv
  rw [he] at this; exact this

/-- outside the window the century is lost: 1959-12-31T23:59:59Z comes back as 2059-12-31T23:59:59Z -/
theorem UT2time_outside_window_cex (lo : Int) :
    UT2time lo (utCanon 1959 12 31 23 59 59) true =
      .ok (epochSeconds 2059 12 31 23 59 59) 0 0 (gmtime (epochSeconds 2059 12 31 23 59 59)) ∧
    epochSeconds 2059 12 31 23 59 59 ≠ epochSeconds 1959 12 31 23 59 59 := by
  have e1 : epochSeconds 2059 12 31 23 59 59 = 2840140799 := by rw [epochSeconds, dayNumber_eq]; decide
  have e2 : epochSeconds 1959 12 31 23 59 59 = -315619201 := by rw [epochSeconds, dayNumber_eq]; decide
  constructor
  · rw [UT2time_window]
    have hw : utWindow 1959 = 2059 := by decide
    rw [hw, GT2time_canonical lo true 2059 12 31 23 59 59 (by decide)]
    rfl
  · rw [e1, e2]; decide

example : ValidDateTime 2024 2 29 23 59 59 := by decide
example : t0000 ≤ (1709251199 : Int) ∧ (1709251199 : Int) < t10000 := by decide
example : t0000 ≤ (-1 : Int) ∧ (-1 : Int) < t10000 ∧ t1960 ≤ (-1 : Int) ∧ (-1 : Int) < t2060 := by decide
example : t1960 ≤ (0 : Int) ∧ (0 : Int) < t2060 := by decide
example : (1 : Nat) ≤ 3 ∧ 3 ≤ 9 ∧ 0 < 250 ∧ 250 < 10 ^ 3 := by decide

end TimePart

end Asn1c.Props.C17
