import Asn1cModel.Impl.CompilerMain
import Asn1cModel.Proofs.Naming
import Asn1cModel.Proofs.WfDescr
/-
  C10 — "Every accepted specification yields C code that builds; the compiler never dies".

  The part a model can carry (DESIGN §9 C10):
   * the status propagation of `main` (exit 0 iff parse, fix and compile succeeded),
   * identifier generation (`asn1c_make_identifier`, reserved words, `-fcompound-names` joining),
   * the internal consistency of the emitted descriptors (`WfDescr`) and what the codecs get from it.
  That gcc accepts the emitted text and that the compiler's C code has no crash is runtime behaviour,
  observed per generated program by vlib/props/c10.py (level: partial proof).
-/
namespace Asn1c.Props.C10
open Asn1c.Impl.CompilerMain Asn1c.Impl.Naming Asn1c.Generated Asn1c.Proofs.Naming
open Asn1c.Impl.WfDescr Asn1c.Proofs.WfDescr

theorem ite_eq_zero_iff {c : Prop} [Decidable c] {a b : Nat} :
    (if c then a else b) = 0 ↔ (c ∧ a = 0) ∨ (¬c ∧ b = 0) := by
  split <;> simp [*]

/-- `asn1c` (compile mode, no `-Werror`) exits with status 0 iff every input file parsed, the fixer
    did not report a fatal error and the code generator succeeded. -/
theorem exit_status_spec (i : MainIn) (hE : i.printOut = false) (hD : i.debugTypeNames = false)
    (hW : i.werror = false) :
    mainStatus i = 0 ↔ (∀ p ∈ i.parse, p = true) ∧ i.fixRet ≠ -1 ∧ i.compileRet = 0 := by
  simp [mainStatus, ite_eq_zero_iff, EX_DATAERR, EX_SOFTWARE, hE, hD, hW]

/-- a failure is always reported as EX_DATAERR (65) or EX_SOFTWARE (70): never another status -/
theorem exit_status_codes (i : MainIn) : mainStatus i = 0 ∨ mainStatus i = 65 ∨ mainStatus i = 70 := by
  unfold mainStatus
  repeat' apply iteInduction (motive := fun s => s = 0 ∨ s = 65 ∨ s = 70) <;> intro _
  all_goals decide

/-- with `-E` the status does not depend on the code generator; without `-F` not on the fixer either -/
theorem exit_status_print_only (i : MainIn) (hE : i.printOut = true) (hF : i.fixAndPrint = false)
    (hp : i.printRet = 0) : mainStatus i = 0 ↔ ∀ p ∈ i.parse, p = true := by
  simp [mainStatus, EX_DATAERR, hE, hF, hp]

example : mainStatus { parse := [true, true], fixRet := 1, compileRet := 0 } = 0 := by decide
example : mainStatus { parse := [true, false], fixRet := 0, compileRet := 0 } = 65 := by decide
example : mainStatus { parse := [true], fixRet := 0, compileRet := -1 } = 70 := by decide

/-- Every character `asn1c_make_identifier(flags, expr, 0)` produces for a plain expression is a C
    identifier character (`[A-Za-z0-9_]`), whatever the name contains (flags without
    AMI_MASK_ONLY_SPACES, name other than the single blank that the function treats as a marker). -/
theorem identifier_chars_are_C (fl : Flags) (hm : fl.maskOnlySpaces = false) (s : String)
    (hs : s.toList ≠ [' ']) : (mkId fl s).all isIdentChar = true := by
  rw [mkId_eq fl s hs, hm]
  split
  · exact capitaliseIfReserved_all_ident _ (escapeChars_all_ident false _)
  · exact escapeChars_all_ident false _

/-- **identifier_is_C**: a name that starts with a letter (every ASN.1 identifier and type reference
    does, X.680 12.2/12.3) becomes a C identifier `[A-Za-z_][A-Za-z0-9_]*`. -/
theorem identifier_is_C (fl : Flags) (hm : fl.maskOnlySpaces = false) (s : String)
    (c : Char) (cs : List Char) (hs : s.toList = c :: cs) (hc : isAlpha c = true) :
    isCIdent (mkId fl s) = true := by
  have hne : s.toList ≠ [' '] := by
    rw [hs]; intro h; injection h with h1 _; subst h1; simp [isAlpha] at hc
  rw [mkId_eq fl s hne, hm, hs]
  split
  · exact capitaliseIfReserved_cident _ (escapeChars_cident c cs hc)
  · exact escapeChars_cident c cs hc

example : isCIdent (mkId { checkReserved := true } "long-name-1") = true :=
  identifier_is_C _ rfl "long-name-1" 'l' "ong-name-1".toList (by decide) (by decide)

/-- The code does **not** guarantee a C identifier for arbitrary names: nothing is done about a leading
    digit or an empty name (unreachable from ASN.1 source, reachable through the API). -/
theorem identifier_leading_digit_cex :
    mkId {} "1a" = ['1', 'a'] ∧ isCIdent (mkId {} "1a") = false ∧ isCIdent (mkId {} "") = false := by
  decide

/-- **not_reserved**: with AMI_CHECK_RESERVED the identifier made from a single name is never an entry of
    `res_kwd[]` — for *every* name (hyphens, blanks, any byte) and every combination of the other flags.
    The table is consulted on the escaped text, so a name whose '-' → '_' image is a keyword (`and-eq`,
    `wchar-t`, `static-assert`) is capitalised like the keyword itself.  (Before the repair of finding F80
    this held for purely alphanumeric names only.) -/
theorem not_reserved (fl : Flags) (hr : fl.checkReserved = true) (s : String) :
    reservedKeyword (mkId fl s) = false := by
  by_cases hs : s.toList = [' ']
  · rw [mkId_blank fl s hs]
    exact not_reserved_of_head_lt (by decide)
  · rw [mkId_eq fl s hs, hr, if_pos rfl]
    exact capitaliseIfReserved_not_reserved _

/-- the common call `MKID_safe(expr)` = `asn1c_make_identifier(AMI_CHECK_RESERVED, expr, 0)` -/
theorem not_reserved_safe (s : String) : reservedKeyword (mkId { checkReserved := true } s) = false :=
  not_reserved _ rfl s

/-- reserved words themselves are moved out of the table by capitalising their first letter, the rest
    is kept -/
theorem reserved_word_is_renamed (s : String) (hr : reservedKeyword s.toList = true) :
    reservedKeyword (mkId { checkReserved := true } s) = false ∧
    ∃ c cs, s.toList = c :: cs ∧ (mkId { checkReserved := true } s).head? = some (toUpper c) ∧
      'A' ≤ toUpper c ∧ toUpper c ≤ 'Z' := by
  refine ⟨not_reserved_safe s, ?_⟩
  have hne : s.toList ≠ [' '] := by
    intro hs; rw [hs, not_reserved_of_head_lt (by decide)] at hr; cases hr
  rw [mkId_checkReserved s hne, reserved_escape_id hr]
  rcases capitaliseIfReserved_cases s.toList with ⟨hf, _⟩ | ⟨c, cs, hcs, ha, hz, e⟩
  · rw [hf] at hr; cases hr
  · exact ⟨c, cs, hcs, by rw [e]; rfl, (toUpper_lower c ha hz).2.2⟩

/-- a name that is not a keyword after escaping is copied unchanged (no capitalisation of innocent names) -/
theorem innocent_name_unchanged (s : String) (hs : s.toList ≠ [' '])
    (h : reservedKeyword (escapeChars false false s.toList) = false) :
    mkId { checkReserved := true } s = mkId {} s := by
  rw [mkId_checkReserved s hs, capitaliseIfReserved_of_not_reserved _ h, mkId_eq _ s hs]
  rfl

/-- the C99 keywords an ASN.1 name can spell and the C++14 keywords / alternative tokens
    (ISO 9899 6.4.1, ISO 14882 2.12) -/
def specKeywords : List String := [
  "auto", "break", "case", "char", "const", "continue", "default", "do", "double", "else", "enum",
  "extern", "float", "for", "goto", "if", "inline", "int", "long", "register", "restrict", "return",
  "short", "signed", "sizeof", "static", "struct", "switch", "typedef", "union", "unsigned", "void",
  "volatile", "while",
  "alignas", "alignof", "and", "and_eq", "asm", "bitand", "bitor", "bool", "catch", "char16_t",
  "char32_t", "class", "compl", "const_cast", "constexpr", "decltype", "delete", "dynamic_cast",
  "explicit", "export", "false", "friend", "mutable", "namespace", "new", "noexcept", "not", "not_eq",
  "nullptr", "operator", "or", "or_eq", "private", "protected", "public", "reinterpret_cast",
  "static_assert", "static_cast", "template", "this", "thread_local", "throw", "true", "try", "typeid",
  "typename", "using", "virtual", "wchar_t", "xor", "xor_eq"]

/-- the translator-extracted `res_kwd[]` contains all of them.  Proved by striking the entries of the table off the
    list, which is one pass while the two lists name the keywords in the same order and right in any order. -/
theorem reserved_table_complete : ∀ k ∈ specKeywords, k ∈ resKwd :=
  subset_of_foldl_erase_eq_nil resKwd specKeywords (by decide +kernel)

/-- the keywords the test vectors below run into are among them -/
theorem vector_keywords_reserved :
    ∀ t ∈ ["int", "and_eq", "static_assert", "thread_local", "wchar_t", "xor_eq"], t ∈ resKwd :=
  fun t ht => reserved_table_complete t (by revert t; decide +kernel)

/-- The former witnesses of finding F80 (the table used to be consulted **before** '-' was replaced by
    '_', so these valid ASN.1 identifiers came out as the C++ tokens `and_eq`, `wchar_t`, `static_assert`):
    they are now capitalised. -/
theorem not_reserved_hyphen_fixed :
    String.ofList (mkId { checkReserved := true } "and-eq") = "And_eq" ∧
    String.ofList (mkId { checkReserved := true } "wchar-t") = "Wchar_t" ∧
    String.ofList (mkId { checkReserved := true } "static-assert") = "Static_assert" ∧
    String.ofList (mkId { checkReserved := true } "thread-local") = "Thread_local" ∧
    String.ofList (mkId { checkReserved := true } "and--eq") = "And_eq" ∧
    String.ofList (mkId { checkReserved := true } "and-eq-x") = "and_eq_x" := by
  have hkw := vector_keywords_reserved
  refine ⟨?_, ?_, ?_, ?_, ?_, ?_⟩
  · rw [mkId_keyword "and-eq" "and_eq" (hkw _ (by decide)) (by decide)]; decide
  · rw [mkId_keyword "wchar-t" "wchar_t" (hkw _ (by decide)) (by decide)]; decide
  · rw [mkId_keyword "static-assert" "static_assert" (hkw _ (by decide)) (by decide)]; decide
  · rw [mkId_keyword "thread-local" "thread_local" (hkw _ (by decide)) (by decide)]; decide
  · rw [mkId_keyword "and--eq" "and_eq" (hkw _ (by decide)) (by decide)]; decide
  · rw [mkId_checkReserved_of_escaped "and-eq-x" "and_eq_x" (by decide) (by decide),
      if_neg (by decide +kernel), String.ofList_toList]

/-- the type / member base name `construct_base_name` produces without `-fcompound-names` (the name is
    then the expression's own identifier) is never a reserved word -/
theorem base_name_not_reserved (chain : List String) (hne : chain ≠ []) :
    reservedKeyword (constructBaseName false true chain) = false := by
  cases hrev : chain.reverse with
  | nil => exact absurd (List.reverse_eq_nil_iff.mp hrev) hne
  | cons self rest =>
    rw [constructBaseName_of_no_parents false true chain self rest hrev (.inl rfl)]
    exact not_reserved _ rfl self

/-- On ASN.1-shaped names (letters, digits, single hyphens) `asn1c_make_identifier` without the
    reserved-word flag is injective: two different names never collide after escaping. -/
theorem identifier_injective_on_asn1_names (a b : String)
    (ha : asn1Tail false a.toList = true) (hb : asn1Tail false b.toList = true)
    (h : mkId {} a = mkId {} b) : a = b :=
  String.ext (by rw [← mkId_asn1_inv a ha, h, mkId_asn1_inv b hb])

example : asn1Tail false "a-b-c1".toList = true := by decide

/-- `-fcompound-names`: the generated base name of a member type is `Parent__child` (two underscores),
    and a reserved word is capitalised only when it stands alone. -/
theorem compound_name_examples :
    String.ofList (constructBaseName true true ["T", "int", "a-b"]) = "T__int__a_b" ∧
    String.ofList (constructBaseName false true ["T", "int"]) = "Int" ∧
    String.ofList (constructBaseName true true ["int"]) = "Int" ∧
    String.ofList (constructBaseName true false ["int"]) = "int" ∧
    String.ofList (constructBaseName false true ["T", "xor-eq"]) = "Xor_eq" ∧
    String.ofList (constructBaseName true true ["T", "xor-eq"]) = "T__xor_eq" := by
  -- only the second, third and fifth name reach the reserved-word step
  have hkw := vector_keywords_reserved
  have hint : String.ofList (mkId { checkReserved := true } "int") = "Int" := by
    rw [mkId_keyword "int" "int" (hkw _ (by decide)) (by decide)]; decide
  have hxor : String.ofList (mkId { checkReserved := true } "xor-eq") = "Xor_eq" := by
    rw [mkId_keyword "xor-eq" "xor_eq" (hkw _ (by decide)) (by decide)]; decide
  refine ⟨by decide, ?_, ?_, by decide, ?_, by decide⟩
  · rw [constructBaseName_of_no_parents false true _ "int" ["T"] rfl (.inl rfl)]; exact hint
  · rw [constructBaseName_of_no_parents true true _ "int" [] rfl (.inr rfl)]; exact hint
  · rw [constructBaseName_of_no_parents false true _ "xor-eq" ["T"] rfl (.inl rfl)]; exact hxor

/-- BER SEQUENCE decoder: the window of optional members searched from member `edx` stays inside the
    member array (`edx + elements[edx].optional ≤ elements_count`). -/
theorem wf_optional_window_in_bounds (n : Node) (o : Bool) (hk : n.kind = "sequence") (h : WfNode o n)
    (edx : Nat) (hi : edx < n.members.length) :
    edx + (n.members[edx]).optional ≤ n.members.length := by
  have hs : wfSpec o n = true := ((wfNode_iff o n).mp h).2.2.2.2
  exact wfOptional_bound (wfSpec_sequence_optional hk hs) edx hi

/-- `tags` / `all_tags`: the effective tag chain is a sub-chain of the full chain with the same
    outermost tag, never longer, and both are empty together (untagged CHOICE) — so the IMPLICIT /
    EXPLICIT chain handed to `ber_check_tags` / `der_write_tags` is well-formed. -/
theorem wf_tags_chain (n : Node) (o : Bool) (h : WfNode o n) :
    n.tags.length ≤ n.allTags.length ∧ (n.tags = [] ↔ n.allTags = []) ∧
    n.tags.Sublist n.allTags ∧ n.tags.head? = n.allTags.head? := by
  have ht : wfTags n.tags n.allTags = true := ((wfNode_iff o n).mp h).1
  unfold wfTags at ht
  simp only [Bool.and_eq_true, decide_eq_true_eq, beq_iff_eq] at ht
  obtain ⟨⟨⟨h1, h2⟩, h3⟩, h4⟩ := ht
  exact ⟨h1, by rw [← List.isEmpty_iff, ← List.isEmpty_iff, h2], isSubseq_sublist _ _ h3, h4⟩

/-- CHOICE under PER: `to_canonical_order` and `from_canonical_order` undo each other on every
    alternative index (when the tables are present). -/
theorem wf_canonical_order_inverse (n : Nat) (es : Int) (to frm : List Nat)
    (h : wfCanon n es to frm = true) (hne : to ≠ []) (i : Nat) (hi : i < n) :
    (∃ j, to[i]? = some j ∧ frm[j]? = some i) ∧ (∃ j, frm[i]? = some j ∧ to[j]? = some i) := by
  unfold wfCanon at h
  have h' : isPermInverse n to frm = true := by
    rcases Bool.or_eq_true _ _ |>.mp h with h | h
    · simp at h; exact absurd h.1 hne
    · simp only [Bool.and_eq_true] at h; exact h.1
  exact isPermInverse_roundtrip n to frm h' i hi

/-- the run-length rule itself, on an example with an extension addition in the middle -/
example : runLengths [false, true, true, false, true] = [0, 2, 1, 0, 1] := by decide

/-- non-vacuity: the descriptor of `SEQUENCE { a [0] BOOLEAN OPTIONAL, ..., b [1] BOOLEAN OPTIONAL }` as asn1c
    emits it satisfies the predicate; the same descriptor with `oms` in the wrong order does not -/
def exampleNode (oms : List Nat) : Node :=
  { name := "T", kind := "sequence", tags := [⟨0, 16⟩], allTags := [⟨0, 16⟩], per := none,
    spec := .seq 1 1 1 oms [⟨⟨2, 0⟩, 0, 0, 0⟩, ⟨⟨2, 1⟩, 1, 0, 0⟩],
    members := [⟨"a", 1, 2, ⟨2, 0⟩, -1, false, none, none⟩, ⟨"b", 1, 1, ⟨2, 1⟩, -1, false, none, none⟩] }

example : WfNode true (exampleNode [0, 1]) := by decide +kernel
example : nodeVerdict true (exampleNode [1, 0]) = some "oms" := by decide +kernel

end Asn1c.Props.C10
