import Asn1cModel.Proofs.L2UperVariants
import Asn1cModel.Impl.PerSizeAlpha
import Mathlib.Algebra.Group.Nat.Defs
/-
  C02 (UPER part) / C01: property theorems about the reference UNALIGNED PER codec `L2.encUPER` / `L2.decUPER`
  (`L2/Uper.lean`, written from ITU-T X.691), the oracle the C encoder's bytes are compared with.

  * round trip: for every well-formed type (`wfP`) and canonical value (`canonV`: the values the decoder
    returns — DEFAULT-valued components absent, SET OF elements in canonical order, BIT STRING unused bits zero,
    octets < 256, REAL in the C16 domain), decoding the encoding followed by ANY bits returns the value and
    exactly those bits (`uper_roundtrip`); hence the encoding is injective and prefix-free;
  * spec shape: the encoder's output for the primitive kinds IS the X.691 §10 building block of `Spec.Per`
    (constrained / semi-constrained / unconstrained whole number, length forms), the SEQUENCE preamble has one bit
    per OPTIONAL/DEFAULT root component, the CHOICE index is the position in the canonical tag order, which is a
    sorted permutation of the alternatives.
  Every statement is fully proved; axioms: propext, Quot.sound, Classical.choice.
-/
namespace Asn1c.Props.C02Uper
open Asn1c Asn1c.L2 Asn1c.Spec.Per Asn1c.Proofs.L2Uper
open Asn1c.Proofs.L2Der (isAbsent RealOk)

/-- **UPER round trip** (all kinds: BOOLEAN, NULL, INTEGER with every constraint shape, ENUMERATED, REAL,
    BIT STRING / OCTET STRING / known-multiplier strings with every size form incl. 16K fragmentation,
    SEQUENCE with OPTIONAL/DEFAULT and extension additions, CHOICE with extension alternatives,
    SEQUENCE OF / SET OF): the decoder returns the encoded value and leaves exactly the bits that followed -/
theorem uper_roundtrip (t : PTy) (v : Val) (bits rest : Bits) (hw : wfP t = true) (hc : canonV t v = true)
    (h : encUPER t v = some bits) : decUPER t (bits ++ rest) = some (v, rest) :=
  -- the encoder is the version-skew encoder at a selector that varies nothing
  Asn1c.Proofs.L2UperVariants.rtu_all t hw v {} {} bits rest (Asn1c.Proofs.L2UperVariants.ucanonP_of_canonV t v hc)
    (by rw [Asn1c.Proofs.L2UperVariants.nu_all t v {} rfl hc, h]; rfl)

/-- the same for the complete encoding (§11.1): the octets decode to the value, what is left is the padding -/
theorem uper_roundtrip_bytes (t : PTy) (v : Val) (bytes : Bytes) (hw : wfP t = true) (hc : canonV t v = true)
    (h : encUPERbytes t v = some bytes) :
    ∃ pad, decUPER t (bytesToBits bytes) = some (v, pad) ∧ bytes.wf := by
  simp only [encUPERbytes, Option.map_eq_some_iff] at h
  obtain ⟨bits, hb, rfl⟩ := h
  obtain ⟨pad, hp, hwf⟩ := complete_spec bits
  exact ⟨pad, by rw [hp]; exact uper_roundtrip t v bits pad hw hc hb, hwf⟩

/-- no encoding is a proper prefix of another encoding of the same type (self-delimiting) -/
theorem uper_prefix_free (t : PTy) (v1 v2 : Val) (b1 s : Bits) (hw : wfP t = true)
    (h1 : canonV t v1 = true) (h2 : canonV t v2 = true)
    (e1 : encUPER t v1 = some b1) (e2 : encUPER t v2 = some (b1 ++ s)) : v1 = v2 ∧ s = [] := by
  have a := uper_roundtrip t v1 b1 s hw h1 e1
  have b := uper_roundtrip t v2 (b1 ++ s) [] hw h2 e2
  rw [List.append_nil, a] at b
  simp only [Option.some.injEq, Prod.mk.injEq] at b
  exact b

/-- distinct canonical values have distinct encodings -/
theorem uper_injective (t : PTy) (v1 v2 : Val) (bits : Bits) (hw : wfP t = true)
    (h1 : canonV t v1 = true) (h2 : canonV t v2 = true)
    (e1 : encUPER t v1 = some bits) (e2 : encUPER t v2 = some bits) : v1 = v2 :=
  (uper_prefix_free t v1 v2 bits [] hw h1 h2 e1 (by rwa [List.append_nil])).1

/-! ### the primitive kinds on their own (no side conditions beyond "the encoder succeeded") -/

theorem boolean_roundtrip (b : Bool) (rest : Bits) : decUPER .boolean ([b] ++ rest) = some (.bool b, rest) := by
  simp [decUPER]

theorem null_roundtrip (rest : Bits) : decUPER .null rest = some (.null, rest) := dec_null rest

/-- INTEGER, every PER-visible constraint shape: constrained (§10.5), semi-constrained (§10.7), unconstrained
    (§10.8), extensible with the value inside or outside the root (§13.1) -/
theorem integer_roundtrip (c : IntC) (z : Int) (bits rest : Bits) (h : encUPER (.integer c) (.int z) = some bits) :
    decUPER (.integer c) (bits ++ rest) = some (.int z, rest) :=
  rt_integer c (.int z) bits rest (by simp [canonV]) h

theorem enumerated_roundtrip (root : List Int) (ext : Option (List Int)) (z : Int) (bits rest : Bits)
    (h : encUPER (.enumerated root ext) (.int z) = some bits) :
    decUPER (.enumerated root ext) (bits ++ rest) = some (.int z, rest) :=
  rt_enumerated root ext (.int z) bits rest (by simp [canonV]) h

/-- OCTET STRING with every length form: fixed size (no length), constrained length, extensible size (in /
    out of the root), unconstrained length below 128, below 16K and fragmented in 16K blocks (any number of
    octets: `lengthLoop_roundtrip`) -/
theorem octet_string_roundtrip (sz : SizeC) (os : Bytes) (hos : os.wf) (bits rest : Bits)
    (h : encUPER (.octstr sz) (.octets os) = some bits) :
    decUPER (.octstr sz) (bits ++ rest) = some (.octets os, rest) :=
  rt_octstr sz (.octets os) bits rest (by simpa [canonV] using hos) h

theorem length_prefixed_roundtrip {α : Type} (rd : Bits → Option (α × Bits)) (enc : α → Bits) (xs : List α)
    (rest : Bits) (hrd : ∀ a ∈ xs, ∀ r, rd (enc a ++ r) = some (a, r)) :
    rdLengthPrefixed rd (lengthPrefixed ((xs.map enc).length + 1) (xs.map enc) ++ rest) = some (xs, rest) :=
  have := rdLengthPrefixed_enc rd (xs.map fun a => (a, enc a)) rest (List.forall_mem_map.mpr hrd)
  by rwa [(Asn1c.Proofs.PerSupport.map_graph _ _).1, (Asn1c.Proofs.PerSupport.map_graph _ _).2, List.length_map,
    ← List.length_map enc] at this

/-! ## spec shape: the encoder's output is the X.691 building block -/

theorem encUPER_boolean (b : Bool) : encUPER .boolean (.bool b) = some [b] := by simp [encUPER]

theorem encUPER_null : encUPER .null .null = some [] := enc_null

/-- §13.2.5 + §10.5.6: a constrained INTEGER is the constrained whole number in `bitWidth (ub − lb + 1)` bits -/
theorem encUPER_integer_constrained (lb ub z : Int) (h1 : lb ≤ z) (h2 : z ≤ ub) :
    encUPER (.integer ⟨some lb, some ub, false⟩) (.int z) = some (constrainedWholeNumber lb ub z) := by
  simp [encUPER, encInt, intInRoot, encIntRoot, h1, h2]

theorem encUPER_integer_constrained_length (lb ub z : Int) (h1 : lb ≤ z) (h2 : z ≤ ub) (bits : Bits)
    (h : encUPER (.integer ⟨some lb, some ub, false⟩) (.int z) = some bits) :
    bits.length = bitWidth (ub - lb + 1).toNat := by
  rw [encUPER_integer_constrained lb ub z h1 h2] at h
  simp only [Option.some.injEq] at h
  subst h
  simp [constrainedWholeNumber, nnbi, Asn1c.Proofs.PerSupport.natBits_length]

/-- §13.2.3 + §10.7: semi-constrained -/
theorem encUPER_integer_semi (lb z : Int) (h1 : lb ≤ z) :
    encUPER (.integer ⟨some lb, none, false⟩) (.int z) = some (semiConstrainedWholeNumber lb z) := by
  simp [encUPER, encInt, intInRoot, encIntRoot, h1]

/-- §13.2.4 + §10.8: unconstrained (also `(MIN..ub)`: no lower bound) -/
theorem encUPER_integer_unconstrained (ub : Option Int) (z : Int) (h : ∀ u, ub = some u → z ≤ u) :
    encUPER (.integer ⟨none, ub, false⟩) (.int z) = some (unconstrainedWholeNumber z) := by
  cases ub with
  | none => simp [encUPER, encInt, intInRoot, encIntRoot]
  | some u => simp [encUPER, encInt, intInRoot, encIntRoot, h u rfl]

/-- §13.1: extensible constraint, value in the root: bit 0 + the root encoding -/
theorem encUPER_integer_ext_root (lb ub z : Int) (h1 : lb ≤ z) (h2 : z ≤ ub) :
    encUPER (.integer ⟨some lb, some ub, true⟩) (.int z) = some (false :: constrainedWholeNumber lb ub z) := by
  simp [encUPER, encInt, intInRoot, encIntRoot, h1, h2]

/-- §13.1: value outside the root: bit 1 + unconstrained whole number -/
theorem encUPER_integer_ext_out (lb ub z : Int) (h : z < lb ∨ ub < z) :
    encUPER (.integer ⟨some lb, some ub, true⟩) (.int z) = some (true :: unconstrainedWholeNumber z) := by
  have : ¬ (lb ≤ z ∧ z ≤ ub) := by omega
  simp [encUPER, encInt, intInRoot, this]

/-- a value outside a non-extensible constraint has no encoding -/
theorem encUPER_integer_out_of_range (lb ub z : Int) (h : z < lb ∨ ub < z) :
    encUPER (.integer ⟨some lb, some ub, false⟩) (.int z) = none := by
  have : ¬ (lb ≤ z ∧ z ≤ ub) := by omega
  simp [encUPER, encInt, intInRoot, this]

/-- §14.2: a root enumeration is the constrained whole number `index ∈ 0..n−1`, the index being the position
    in the list of root values sorted ascending (as `resolvePTy` builds it) -/
theorem encUPER_enumerated_root (root : List Int) (z : Int) (h : z ∈ root) :
    encUPER (.enumerated root none) (.int z) =
      some (constrainedWholeNumber 0 ((root.length : Int) - 1) (root.idxOf z)) := by
  simp [encUPER, encEnum, h]

/-- §14.3: an extension addition is bit 1 + its index as a normally small number -/
theorem encUPER_enumerated_ext (root adds : List Int) (z : Int) (h : z ∉ root) (ha : z ∈ adds) :
    encUPER (.enumerated root (some adds)) (.int z) = some (true :: normallySmall (adds.idxOf z)) := by
  simp [encUPER, encEnum, h, ha]

/-- §17.8 with `ub < 64K`: constrained length + octets -/
theorem encUPER_octstr_constrained (lb ub : Nat) (os : Bytes) (h1 : lb ≤ os.length) (h2 : os.length ≤ ub)
    (hn : ub < 65536) :
    encUPER (.octstr ⟨lb, some ub, false⟩) (.octets os) =
      some (constrainedLength lb ub os.length ++ (octetItems os).flatten) := by
  have hi : (octetItems os).length = os.length := by simp [octetItems]
  simp [encUPER, encSized, sizeInRoot, hi, h1, h2, encCounted, hn]

/-- §10.5.4: a range of one value takes no bits -/
theorem constrainedWholeNumber_self (b n : Int) : constrainedWholeNumber b b n = [] := by
  have : (b - b + 1).toNat = 1 := by omega
  rw [constrainedWholeNumber, this]; rfl

/-- §17.6 / §17.7: fixed size below 64K: the octets and nothing else -/
theorem encUPER_octstr_fixed (n : Nat) (os : Bytes) (hl : os.length = n) (hn : n < 65536) :
    encUPER (.octstr ⟨n, some n, false⟩) (.octets os) = some (octetItems os).flatten := by
  rw [encUPER_octstr_constrained n n os (by omega) (by omega) hn, constrainedLength, constrainedWholeNumber_self]
  rfl

/-- §17.8 without upper bound (or `ub ≥ 64K`): unconstrained length with 16K fragmentation -/
theorem encUPER_octstr_unconstrained (os : Bytes) :
    encUPER (.octstr ⟨0, none, false⟩) (.octets os) = some (lengthPrefixed (os.length + 1) (octetItems os)) := by
  have hi : (octetItems os).length = os.length := by simp [octetItems]
  simp [encUPER, encSized, sizeInRoot, hi, encCounted]

/-- §19.2/19.3: the preamble of a SEQUENCE has exactly one bit per OPTIONAL / DEFAULT root component
    (`optCount`; a component with a DEFAULT value is flagged `optional` by the resolver) -/
theorem seq_preamble_length (root : List PTy) : ∀ (rattrs : List Attr) (vs : List Val) (p b : Bits) (r : List Val),
    rattrs.length = root.length → (∀ a ∈ rattrs, a.dflt.isSome = true → a.optional = true) →
    encRoot root rattrs vs = some (p, b, r) → p.length = optCount rattrs := by
  induction root with
  | nil =>
    intro rattrs vs p b r hl _ he
    rw [encRoot_nil] at he
    cases he
    obtain rfl := List.eq_nil_of_length_eq_zero hl
    rfl
  | cons m ms ih =>
    intro rattrs vs p b r hl hattr
    generalize hM : m :: ms = M at hl
    fun_cases encRoot M rattrs vs
    case case1 => cases hM
    case case3 | case4 | case6 | case8 | case9 => intro h; cases h    -- the encoder fails
    case case2 m' ms' a as vs ho p' b' r' h2 =>    -- absent and OPTIONAL
      intro h; cases hM; cases h
      have := ih as vs p' b r (by simpa using hl) (fun x hx => hattr x (by simp [hx])) h2
      simp [optCount, ho, this, Nat.add_comm]
    case case5 m' ms' a as vs v hv hd p' b' r' h2 =>    -- the DEFAULT value: such a component has a presence bit
      intro h; cases hM; cases h
      have := ih as vs p' b r (by simpa using hl) (fun x hx => hattr x (by simp [hx])) h2
      have ho : a.optional = true := hattr a (by simp) (Asn1c.Proofs.L2Der.isDefault_dflt hd)
      simp [optCount, ho, this, Nat.add_comm]
    case case7 m' ms' a as vs v hv hd x p' b' r' h2 h1 =>    -- encoded
      intro h; cases hM; cases h
      have := ih as vs p' b' r (by simpa using hl) (fun x hx => hattr x (by simp [hx])) h2
      cases ho : a.optional <;> simp [optCount, ho, this, Nat.add_comm]

/-- CANONICAL-PER §19.5: a component that equals its DEFAULT value is encoded exactly like an absent one -/
theorem seq_default_omitted (m : PTy) (ms : List PTy) (a : Attr) (as : List Attr) (v : Val) (vs : List Val)
    (ho : a.optional = true) (hv : isAbsent v = false) (hd : isDefault a v = true) :
    encRoot (m :: ms) (a :: as) (v :: vs) = encRoot (m :: ms) (a :: as) (.absent :: vs) := by
  rw [encRoot_present m ms a as v vs hv, if_pos hd, encRoot_absent, if_pos ho]

/-- §19 without extension marker: preamble, then the root components -/
theorem encUPER_seq_plain (root : List PTy) (rattrs : List Attr) (vs : List Val) (p b : Bits)
    (h : encRoot root rattrs vs = some (p, b, [])) :
    encUPER (.seq root rattrs false [] []) (.seq vs) = some (p ++ b) := by
  simp [encUPER, h, encAdds_nil]

/-- CANONICAL-PER §19.5 among the extension additions: an addition that equals its DEFAULT value is encoded
    exactly like an absent one - no presence bit, no open type (finding F16, repaired: `SEQUENCE__handle_extensions`
    now eliminates default values like the root loops of `SEQUENCE_encode_uper`) -/
theorem seq_default_addition_omitted (m : PTy) (ms : List PTy) (a : Attr) (as : List Attr) (v : Val) (vs : List Val)
    (hd : isDefault a v = true) :
    encAdds (m :: ms) (a :: as) (v :: vs) = encAdds (m :: ms) (a :: as) (.absent :: vs) :=
  encAdds_default m ms a as v vs hd

/-- ... hence a SEQUENCE whose only stored addition holds its DEFAULT value is encoded without the extension bit
    set; the former witness of F16, `T ::= SEQUENCE { a INTEGER, ..., b INTEGER DEFAULT 5 }`: { a 1, b 5 } and
    { a 1 } both encode as 00 80 80 (unpatched C: 80 80 80 81 00 82 80 for the first) -/
def exF16 : PTy :=
  .seq [.integer ⟨none, none, false⟩] [⟨false, none, false⟩] true [.integer ⟨none, none, false⟩] [⟨true, some (.int 5), true⟩]

theorem ref_F16_witness :
    encUPERbytes exF16 (.seq [.int 1, .int 5]) = some [0x00, 0x80, 0x80] ∧
    encUPERbytes exF16 (.seq [.int 1, .absent]) = some [0x00, 0x80, 0x80] ∧
    encUPERbytes exF16 (.seq [.int 1, .int 6]) = some [0x80, 0x80, 0x80, 0x81, 0x00, 0x83, 0x00] := by
  have h1 : ∀ v, encRoot [.integer ⟨none, none, false⟩] [⟨false, none, false⟩] [.int 1, v]
      = some ([], unconstrainedWholeNumber 1, [v]) := by
    intro v; simp [encRoot, encUPER, isDefault, encInt, intInRoot, encIntRoot]
  have h5 : encAdds [.integer ⟨none, none, false⟩] [⟨true, some (.int 5), true⟩] [.int 5] = some ([false], []) := by
    simp [encAdds, isDefault]
  have ha : encAdds [.integer ⟨none, none, false⟩] [⟨true, some (.int 5), true⟩] [.absent] = some ([false], []) := by
    simp [encAdds]
  have h6 : encAdds [.integer ⟨none, none, false⟩] [⟨true, some (.int 5), true⟩] [.int 6]
      = some ([true], openType (unconstrainedWholeNumber 6)) := by
    simp [encAdds, isDefault, encUPER, encInt, intInRoot, encIntRoot]
  refine ⟨?_, ?_, ?_⟩
  · simp only [exF16, encUPERbytes, encUPER, h1, h5]; decide +kernel
  · simp only [exF16, encUPERbytes, encUPER, h1, ha]; decide +kernel
  · simp only [exF16, encUPERbytes, encUPER, h1, h6]; decide +kernel

/-- §19.1 / §19.7–19.9 with extension marker: extension bit; when an addition is present: normally small
    length of the bitmap, the bitmap, then one open type per present addition -/
theorem encUPER_seq_ext (root : List PTy) (rattrs : List Attr) (adds : List PTy) (vs rest : List Val)
    (p b ab : Bits) (bm : List Bool)
    (aattrs : List Attr)
    (h1 : encRoot root rattrs vs = some (p, b, rest)) (h2 : encAdds adds aattrs rest = some (bm, ab)) :
    encUPER (.seq root rattrs true adds aattrs) (.seq vs) =
      some (if bm.any id then true :: (p ++ b ++ normallySmallLength bm.length ++ bm ++ ab)
            else false :: (p ++ b)) := by
  simp only [encUPER, h1, h2, if_true]
  split <;> rfl

/-- §23.2/§23.6: a root alternative is encoded as its index — the position of the alternative in the canonical
    order — as a constrained whole number `0..n−1`, followed by the encoding of the alternative -/
theorem encUPER_choice_root (root : List PTy) (order : List Nat) (adds : List PTy) (i : Nat) (v : Val) (x : Bits)
    (hi : i < root.length) (ho : i ∈ order) (hx : encAlt root i v = some x) :
    encUPER (.choice root order false adds) (.choice i v) =
      some (constrainedWholeNumber 0 ((root.length : Int) - 1) (order.idxOf i) ++ x) := by
  simp [encUPER, hi, hx, ho]

/-- §23.5/§23.8: an extension alternative is bit 1, its index among the additions as a normally small number,
    and the alternative as an open type -/
theorem encUPER_choice_ext (root : List PTy) (order : List Nat) (adds : List PTy) (i : Nat) (v : Val) (x : Bits)
    (hi : root.length ≤ i) (hx : encAlt adds (i - root.length) v = some x) :
    encUPER (.choice root order true adds) (.choice i v) =
      some (true :: (normallySmall (i - root.length) ++ openType x)) := by
  have : ¬ i < root.length := by omega
  simp [encUPER, this, hx]

/-- §11.1: a complete encoding has at least one octet -/
theorem encUPERbytes_ne_nil (t : PTy) (v : Val) (bytes : Bytes) (h : encUPERbytes t v = some bytes) : bytes ≠ [] := by
  simp only [encUPERbytes, Option.map_eq_some_iff] at h
  obtain ⟨bits, _, rfl⟩ := h
  unfold complete
  split
  · simp
  · rename_i hne
    exact fun e => hne (by rw [Asn1c.Proofs.PerSupport.bitsToBytes_eq_nil bits e]; rfl)

/-! ### the canonical order of CHOICE alternatives (X.680 §8.6) -/

open Asn1c.Impl.BerTlv (Tag)

theorem tagLe_total (a b : Tag) : tagLe a b = true ∨ tagLe b a = true := by
  unfold tagLe
  simp only [Bool.or_eq_true, decide_eq_true_eq, Bool.and_eq_true, beq_iff_eq]
  omega

theorem tagLe_trans (a b c : Tag) (h1 : tagLe a b = true) (h2 : tagLe b c = true) : tagLe a c = true := by
  unfold tagLe at *
  simp only [Bool.or_eq_true, decide_eq_true_eq, Bool.and_eq_true, beq_iff_eq] at *
  omega

/-- the canonical order lists every root alternative exactly once -/
theorem canonicalOrder_perm (keys : List Tag) : (canonicalOrder keys).Perm (List.range keys.length) := by
  have h := (Asn1c.Proofs.Sort.perm_sortBy (fun (a b : Tag × Nat) => tagLe a.1 b.1)
    (keys.zip (List.range keys.length))).map (·.2)
  rwa [List.map_snd_zip (by simp)] at h

theorem canonicalOrder_length (keys : List Tag) : (canonicalOrder keys).length = keys.length := by
  have := (canonicalOrder_perm keys).length_eq
  simpa using this

theorem mem_canonicalOrder (keys : List Tag) (i : Nat) : i ∈ canonicalOrder keys ↔ i < keys.length := by
  rw [(canonicalOrder_perm keys).mem_iff]
  simp

/-- … and the (key, declaration index) pairs are in ascending tag order: class first, then number -/
theorem canonicalOrder_sorted (keys : List Tag) :
    (Asn1c.L2.sortBy (fun (a b : Tag × Nat) => tagLe a.1 b.1) (keys.zip (List.range keys.length))).Pairwise
      (fun a b => tagLe a.1 b.1 = true) :=
  Asn1c.Proofs.Sort.pairwise_sortBy _ (fun a b => tagLe_total a.1 b.1) (fun a b c => tagLe_trans a.1 b.1 c.1) _

/-- the types built by `resolvePTy` for a CHOICE satisfy the side condition of the round-trip theorem -/
theorem canonicalOrder_wf (keys : List Tag) (root adds : List PTy) (ext : Bool) (h : keys.length = root.length)
    (hr : wfPs root = true) (ha : wfPs adds = true) : wfP (.choice root (canonicalOrder keys) ext adds) = true := by
  simp [wfP, hr, ha, canonicalOrder_length, h]

/-- the hypotheses of `uper_roundtrip` are satisfiable on a type with every structural feature:
    `SEQUENCE { a BOOLEAN, b INTEGER (0..7) OPTIONAL, ..., c NULL, d SEQUENCE OF CHOICE { x BOOLEAN, y NULL } }` -/
example :
    let t := PTy.seq [.boolean, .integer ⟨some 0, some 7, false⟩] [⟨false, none, false⟩, ⟨true, none, false⟩] true
               [.null, .seqOf ⟨0, none, false⟩ (.choice [.boolean, .null] (canonicalOrder [⟨0, 1⟩, ⟨0, 5⟩]) false [])]
               [⟨false, none, true⟩, ⟨false, none, true⟩]
    let v := Val.seq [.bool true, .absent, .null, .list [.choice 1 .null, .choice 0 (.bool false)]]
    wfP t = true ∧ canonV t v = true ∧ (encUPER t v).isSome = true := by
  refine ⟨?_, ?_, ?_⟩
  · simp [wfP, wfPs, canonicalOrder_length]
  · simp [canonV, canonRoot, canonAdds, canonAlt, isAbsent, isDefault]
  · simp [encUPER, encRoot, encAdds, encList, encAlt, isDefault, encSized, sizeInRoot,
      show canonicalOrder [⟨0, 1⟩, ⟨0, 5⟩] = [0, 1] from by decide]

/-! ### the reference on the witnesses of the findings (what X.691 prescribes where asn1c deviates) -/

/-- F28 witness `CHOICE { a [2] NULL, b [0] NULL, c [1] NULL }`: canonical order b, c, a; a ↦ index 2 -/
example : canonicalOrder [⟨2, 2⟩, ⟨2, 0⟩, ⟨2, 1⟩] = [1, 2, 0] := by decide
/-- canonical order with the smallest tag in the middle: `CHOICE { y [APPLICATION 7], inner (smallest root tag
    [APPLICATION 5]), z [1] }` -/
example : canonicalOrder [⟨1, 7⟩, ⟨1, 5⟩, ⟨2, 1⟩] = [1, 0, 2] := by decide
example : minTag [⟨1, 5⟩, ⟨2, 0⟩] = some ⟨1, 5⟩ := by decide

/-- F110 witness: `INTEGER (0..MAX)`, value 128: X.691 §10.7 → `01 80` (asn1c wrote `02 00 80` before the repair of F110) -/
theorem ref_F110_witness : encUPERbytes (.integer ⟨some 0, none, false⟩) (.int 128) = some [0x01, 0x80] := by
  simp only [encUPERbytes, encUPER]; decide +kernel
/-- F111 witness: `GeneralizedTime` "19700101000000Z" is a VisibleString: 7 bits per character (the named type
    `T ::= GeneralizedTime` was written with 8-bit characters before the repair of F111) -/
theorem ref_F111_witness :
    encUPERbytes (.kmstr 1 [(32, 126)] [(32, 126)] ⟨0, none, false⟩)
      (.octets [0x31,0x39,0x37,0x30,0x30,0x31,0x30,0x31,0x30,0x30,0x30,0x30,0x30,0x30,0x5a]) =
    some [0x0f,0x62,0xe5,0xbb,0x06,0x0c,0x58,0x31,0x60,0xc1,0x83,0x06,0x0c,0x2d,0x00] := by
  simp only [encUPERbytes, encUPER]; decide +kernel
/-- F112 witnesses: `SEQUENCE (SIZE(2..MAX,...)) OF BOOLEAN` with 2 elements is in the root (bit 0);
    `OCTET STRING (SIZE(2..MAX,...))` with one octet is outside (bit 1) -/
theorem ref_F112_witness :
    encUPERbytes (.seqOf ⟨2, none, true⟩ .boolean) (.list [.bool true, .bool true]) = some [0x01, 0x60] ∧
    encUPERbytes (.octstr ⟨2, none, true⟩) (.octets [0x61]) = some [0x80, 0xb0, 0x80] := by
  constructor
  · simp only [encUPERbytes, encUPER, encList]; decide +kernel
  · simp only [encUPERbytes, encUPER]; decide +kernel
/-- F113 witness: `IA5String (SIZE(1..2,...))`, "abc" (outside the root): 7-bit characters (§30.4) -/
theorem ref_F113_witness :
    encUPERbytes (.kmstr 1 [(0, 127)] [(0, 127)] ⟨1, some 2, true⟩) (.octets [0x61, 0x62, 0x63]) =
      some [0x81, 0xe1, 0xc5, 0x8c] := by
  simp only [encUPERbytes, encUPER]; decide +kernel
/-- F114 witness: `IA5String (FROM(" ".."@"))`: N = 33, b = 6, ub = 64 > 2^6 − 1 → characters by index (§30.5.4) -/
theorem ref_F114_witness :
    encUPERbytes (.kmstr 1 [(32, 64)] [(0, 127)] ⟨0, none, false⟩) (.octets [0x20, 0x40]) = some [0x02, 0x02, 0x00] := by
  simp only [encUPERbytes, encUPER]; decide +kernel
/-- F28 witness: `CHOICE { a [2] NULL, b [0] NULL, c [1] NULL }`: a, b, c ↦ 2, 0, 1 -/
theorem ref_F28_witness :
    let t := PTy.choice [.null, .null, .null] (canonicalOrder [⟨2, 2⟩, ⟨2, 0⟩, ⟨2, 1⟩]) false []
    encUPERbytes t (.choice 0 .null) = some [0x80] ∧ encUPERbytes t (.choice 1 .null) = some [0x00] ∧
      encUPERbytes t (.choice 2 .null) = some [0x40] := by
  refine ⟨?_, ?_, ?_⟩ <;> (simp only [encUPERbytes, encUPER, encAlt]; decide +kernel)

/-! ## the size / alphabet decisions of the C encoders (`Impl.PerSizeAlpha`) are those of the reference

  F112 and F114 are repaired: the guarded regions of the K leg (types with `SIZE(lb..MAX,...)`, permitted alphabets
  whose largest value is exactly `2^b`) are gone, and the decisions the repaired C expressions take are proved to be
  the reference's for every constraint and every count / alphabet. -/
section ImplDecisions
open Asn1c.Impl.PerSizeAlpha

/-- the table row asn1c emits for an effective size constraint (`emit_single_member_PER_constraint`, the subject
    of C09): semi-constrained rows carry `effective_bits = -1` and `upper_bound = 0` -/
def ctOfSize (sz : SizeC) : Ct :=
  match sz.ub with
  | none => ⟨true, sz.ext, -1, sz.lb, 0⟩
  | some u => ⟨false, sz.ext, if u < 65536 then (bitWidth (u + 1 - sz.lb) : Nat) else -1, sz.lb, u⟩

/-- X.691 §10.9.4.1: the count is a constrained whole number iff there is an upper bound below 64K -/
def countConstrained (sz : SizeC) : Bool :=
  match sz.ub with
  | some u => decide (u < 65536)
  | none => false

theorem ctOfSize_ext (sz : SizeC) : (ctOfSize sz).ext = sz.ext := by
  unfold ctOfSize; split <;> rfl

theorem notInRoot_eq_spec (sz : SizeC) (n : Nat) : notInRoot (ctOfSize sz) n = !sizeInRoot sz n := by
  rw [Bool.eq_iff_iff]
  cases hu : sz.ub with
  | none => simp [notInRoot, ctOfSize, sizeInRoot, hu]
  | some u => simp [notInRoot, ctOfSize, sizeInRoot, hu]

theorem ebits_eq_spec (sz : SizeC) : decide (0 ≤ (ctOfSize sz).ebits) = countConstrained sz := by
  cases hu : sz.ub with
  | none => simp [ctOfSize, countConstrained, hu]
  | some u =>
    by_cases h : u < 65536
    · simp [ctOfSize, countConstrained, hu, h]
    · simp [ctOfSize, countConstrained, hu, h]

theorem size_head_eq_spec (sz : SizeC) (n : Nat) (hext : sz.ext = true) :
    setOfHead (ctOfSize sz) n = some ([!sizeInRoot sz n], sizeInRoot sz n && countConstrained sz) ∧
    octetStringHead (ctOfSize sz) n = some ([!sizeInRoot sz n], countConstrained sz && sizeInRoot sz n) := by
  have he : (ctOfSize sz).ext = true := (ctOfSize_ext sz).trans hext
  simp only [setOfHead, octetStringHead, he, notInRoot_eq_spec, ebits_eq_spec, if_true, Bool.not_not,
    Bool.or_true, Bool.true_and, Bool.not_true, Bool.and_false, Bool.false_eq_true, if_false]
  exact ⟨trivial, trivial⟩

theorem size_head_nonext_root (sz : SizeC) (n : Nat) (hext : sz.ext = false) (hr : sizeInRoot sz n = true) :
    setOfHead (ctOfSize sz) n = some ([], countConstrained sz) ∧
    octetStringHead (ctOfSize sz) n = some ([], countConstrained sz) := by
  have he : (ctOfSize sz).ext = false := (ctOfSize_ext sz).trans hext
  simp [setOfHead, octetStringHead, he, notInRoot_eq_spec, ebits_eq_spec, hr]

/-- a count outside a non-extensible size constraint with a constrained count is refused (as the reference does) -/
theorem size_head_nonext_out (sz : SizeC) (n : Nat) (hext : sz.ext = false) (hr : sizeInRoot sz n = false)
    (hc : countConstrained sz = true) :
    setOfHead (ctOfSize sz) n = none ∧ octetStringHead (ctOfSize sz) n = none := by
  have he : (ctOfSize sz).ext = false := (ctOfSize_ext sz).trans hext
  simp [setOfHead, octetStringHead, he, notInRoot_eq_spec, ebits_eq_spec, hr, hc]

/-- **The extension bit of an extensible SIZE constraint is the X.691 bit** (§16.6 / §17.3 / §20.4 / §30.5.7 →
    `L2.encSized`), for every constraint shape — `SIZE(lb..ub,...)`, `SIZE(lb..MAX,...)` (finding F112 repaired), an
    upper bound of 64K and more — and every count: the first bit of the reference encoding is the bit
    `SET_OF_encode_uper` / `SEQUENCE_OF_encode_uper` / `OCTET_STRING_encode_uper` write, and the count follows as a
    constrained whole number exactly when the reference writes one. -/
theorem size_extension_bit_eq_spec (sz : SizeC) (items : List Bits) (bits : Bits) (hext : sz.ext = true)
    (h : encSized sz items = some bits) :
    ∃ b tail, bits = b :: tail ∧
      setOfHead (ctOfSize sz) items.length = some ([b], !b && countConstrained sz) ∧
      octetStringHead (ctOfSize sz) items.length = some ([b], countConstrained sz && !b) ∧
      tail = (if b then lengthPrefixed (items.length + 1) items else encCounted sz.lb sz.ub items) := by
  obtain ⟨h1, h2⟩ := size_head_eq_spec sz items.length hext
  -- the bit says "not in the root"
  refine ⟨!sizeInRoot sz items.length, _, ?_, by simpa using h1, by simpa using h2, rfl⟩
  rw [encSized, hext] at h
  cases hr : sizeInRoot sz items.length <;> simpa [hr] using h.symm

/-- the former F112 witnesses: 2 elements of `SEQUENCE (SIZE(2..MAX,...)) OF` are in the root (bit 0; the
    expression before the repair said "not in root": bit 1 for EVERY count ≥ lb), one octet of
    `OCTET STRING (SIZE(2..MAX,...))` is not (bit 1) -/
theorem former_F112_witness :
    setOfHead (ctOfSize ⟨2, none, true⟩) 2 = some ([false], false) ∧
    octetStringHead (ctOfSize ⟨2, none, true⟩) 1 = some ([true], false) ∧
    notInRootF112 (ctOfSize ⟨2, none, true⟩) 2 = true := by decide

/-- **§30.5.4: by value iff the largest character value fits in `b` bits** (`ub ≤ 2^b − 1`; finding F114
    repaired: the code tested `ub ≤ 2^b`) -/
theorem chars_by_value_eq_spec (alpha : Alpha) (h0 : 0 < charWidth alpha) (hw : charWidth alpha ≤ 63)
    (hub : alphaMax alpha < 2 ^ 64) :
    charsByValue (charWidth alpha) (alphaMax alpha) = byValue alpha := by
  have h2 : 2 * 2 ^ (charWidth alpha - 1) = 2 ^ charWidth alpha := by
    rw [← Nat.pow_succ']; congr 1; omega
  have hlt : 2 ^ charWidth alpha < 2 ^ 64 := Nat.pow_lt_pow_right (by decide) (by omega)
  simp only [charsByValue, byValue, h2, Nat.mod_eq_of_lt hub, Nat.mod_eq_of_lt hlt, h0, decide_true, Bool.true_and]

/-- a permitted alphabet that is one range `lo..hi` (no generated map): the code written for a character of the
    alphabet is the reference's — the value, or the index `c − lo` when `hi > 2^b − 1` -/
theorem put_char_code_eq_spec (lo hi c : Nat) (hlo : lo ≤ c) (hhi : c ≤ hi)
    (h0 : 0 < charWidth [(lo, hi)]) (hw : charWidth [(lo, hi)] ≤ 63) (hub : hi < 2 ^ 64) :
    (putCharCode (charWidth [(lo, hi)]) lo hi c).map (nnbi (charWidth [(lo, hi)])) = encChar [(lo, hi)] c := by
  have hmax : alphaMax [(lo, hi)] = hi := by simp [alphaMax]
  have hbv := chars_by_value_eq_spec [(lo, hi)] h0 hw (by rw [hmax]; exact hub)
  rw [hmax] at hbv
  have hidx : alphaIndex c [(lo, hi)] = some (c - lo) := by simp [alphaIndex, hlo, hhi]
  unfold putCharCode encChar
  rw [hbv, hidx]
  cases byValue [(lo, hi)] with
  | true => simp [hhi]
  | false =>
    have : ¬ (c < lo ∨ c > hi) := by omega
    simp [this]

/-- what is written is read back -/
theorem char_code_roundtrip (w lb ub v code : Nat) (h : putCharCode w lb ub v = some code) :
    getCharValue w lb ub code = some v := by
  unfold putCharCode at h
  unfold getCharValue
  by_cases hb : charsByValue w ub = true
  · simp only [hb, if_true] at h ⊢
    by_cases hv : v ≤ ub
    · simp only [hv, if_true, Option.some.injEq] at h; subst h; simp [hv]
    · simp [hv] at h
  · simp only [hb, Bool.false_eq_true, if_false] at h ⊢
    by_cases hv : v < lb ∨ v > ub
    · simp [hv] at h
    · simp only [hv, if_false, Option.some.injEq] at h; subst h
      have : ¬ (v - lb + lb > ub) := by omega
      simp only [this, if_false]; congr 1; omega

/-- the former F114 witness `IA5String (FROM(" ".."@"))`: N = 33, b = 6, ub = 64 = 2^6: by index — '@' is written
    as 32 and read back, ' ' as 0 (before the repair: by value, '@' = 64 truncated to 000000 and read back as NUL) -/
theorem former_F114_witness :
    charWidth [(32, 64)] = 6 ∧ charsByValue 6 64 = false ∧ charsByValueF114 6 64 = true ∧
    putCharCode 6 32 64 0x40 = some 32 ∧ getCharValue 6 32 64 32 = some 0x40 ∧ putCharCode 6 32 64 0x20 = some 0 := by
  decide

end ImplDecisions

end Asn1c.Props.C02Uper
