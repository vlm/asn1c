import Asn1cModel.Proofs.OpenType
/-
  C18 — open types governed by an information object set resolve per the object table.
  Property theorems only (helper lemmas: Proofs/OpenType.lean; Impl = Impl/OpenType.lean, the model
  of the emitted selector, of asn1fix_cws.c's table construction and of skeletons/OPEN_TYPE.c +
  per_opentype.c; Spec = Spec/ObjectSet.lean).  The row types' own codecs are parameters.
  Guarded (`_partial`) statements are paired with counter-example theorems (`_cex`) for the regions
  where the code violates the property (findings F101, F103).  F105 (failure path reading the row
  type's specifics) and F22 (pointer members) are repaired: `mismatch_fails_clean`,
  `inner_failure_never_crashes` and the round trips hold for every row type and for OPTIONAL members;
  the former witnesses are `mismatch_witness_fails_clean` and `pointer_member_witness_decodes`.
-/
namespace Asn1c.Props.C18
open Asn1c Asn1c.Impl.OpenType Asn1c.Spec.ObjectSet Asn1c.Proofs.OpenType

variable {ι : Type} [DecidableEq ι]

/-- **selector_is_lookup**: the emitted `select_<T>_<member>_type` returns the type cell of the
    first row whose identifier cell equals the sibling identifier (`List.find?`), and
    `presence_index` = that row's index + 1 (0 when there is none). -/
theorem selector_is_lookup (tbl : Table ι) (id : ι) :
    (select tbl id).ty = (tbl.find? (fun r => decide (r.id = id))).map (·.ty) ∧
    (select tbl id).presence =
      (match tbl.findIdx? (fun r => decide (r.id = id)) with | some i => i + 1 | none => 0) :=
  ⟨congrArg Selected.ty (selectGo_eq id tbl 0), congrArg Selected.presence (selectGo_eq id tbl 0)⟩

/-- a non-zero `presence_index` names a row of the table that carries the sibling identifier; its type cell is
    what the selector returns, and no earlier row carries that identifier -/
theorem selector_first_match (tbl : Table ι) (id : ι) (p : Nat) (hp : (select tbl id).presence = p)
    (h0 : p ≠ 0) :
    ∃ r, tbl[p - 1]? = some r ∧ r.id = id ∧ (select tbl id).ty = some r.ty ∧
      ∀ j r', j < p - 1 → tbl[j]? = some r' → r'.id ≠ id := by
  rcases select_cases tbl id with ⟨_, hs⟩ | ⟨i, r, hi, hid, hf, hs⟩
  · rw [hs] at hp
    exact absurd hp.symm h0
  · rw [hs] at hp ⊢
    subst hp
    exact ⟨r, hi, hid, rfl, hf⟩

/-- `presence_index` 0 (the selector's "not found") exactly when no row of the object set has the identifier -/
theorem selector_none_iff (tbl : Table ι) (id : ι) :
    (select tbl id).presence = 0 ↔ ∀ r ∈ tbl, r.id ≠ id := by
  rcases select_cases tbl id with ⟨hno, hs⟩ | ⟨i, r, hi, hid, _, hs⟩
  · rw [hs]
    exact ⟨fun _ => hno, fun _ => rfl⟩
  · rw [hs]
    exact ⟨nofun, fun h => absurd hid (h r (List.mem_of_getElem? hi))⟩

/-- the identifier of row `i` selects row `i` (its type cell, `presence_index = i + 1`) unless an earlier row
    repeats that identifier -/
theorem select_row (tbl : Table ι) (i : Nat) (r : Row ι) (hi : tbl[i]? = some r)
    (hfirst : ∀ j r', j < i → tbl[j]? = some r' → r'.id ≠ r.id) :
    select tbl r.id = ⟨some r.ty, i + 1⟩ := by
  rcases select_cases tbl r.id with ⟨hno, _⟩ | ⟨i', r', hi', hid', hf', hs⟩
  · exact absurd rfl (hno r (List.mem_of_getElem? hi))
  · rcases Nat.lt_trichotomy i' i with h | h | h
    · exact absurd hid' (hfirst _ _ h hi')
    · subst h
      rw [hi] at hi'
      cases hi'
      exact hs
    · exact absurd rfl (hf' _ _ h hi)

omit [DecidableEq ι] in
/-- with UNIQUE identifiers, the first-match condition of `select_row` holds for every row -/
theorem unique_first (tbl : Table ι) (hu : UniqueIds tbl) (i : Nat) (r : Row ι) (hi : tbl[i]? = some r) :
    ∀ j r', j < i → tbl[j]? = some r' → r'.id ≠ r.id := by
  intro j r' hj hr' he
  obtain ⟨hjl, rfl⟩ := List.getElem?_eq_some_iff.1 hr'
  obtain ⟨hil, rfl⟩ := List.getElem?_eq_some_iff.1 hi
  exact List.pairwise_iff_getElem.1 (List.pairwise_map.1 hu) j i hjl hil hj he

omit [DecidableEq ι] in
/-- **unique_ids_at_most_one_row**: with a UNIQUE `&id` at most one row carries a given identifier. -/
theorem unique_ids_at_most_one_row (tbl : Table ι) (hu : UniqueIds tbl) (r₁ r₂ : Row ι)
    (h₁ : r₁ ∈ tbl) (h₂ : r₂ ∈ tbl) (he : r₁.id = r₂.id) : r₁ = r₂ :=
  -- "same identifier, same row" holds of a row and itself, and of two rows at different positions either way round
  have hp := List.pairwise_map.1 hu
  List.Pairwise.forall_of_forall_of_flip (R := fun a b : Row ι => a.id = b.id → a = b) (fun _ _ _ => rfl)
    (hp.imp fun hn he => absurd he hn) (hp.imp fun hn he => absurd he.symm hn) h₁ h₂ he

/-- **selector_iff_paired** (soundness and completeness against the X.682 relation): with UNIQUE
    identifiers the selector returns type `ty` exactly when the set pairs `id` with `ty`. -/
theorem selector_iff_paired (tbl : Table ι) (hu : UniqueIds tbl) (id : ι) (ty : Nat) :
    (select tbl id).ty = some ty ↔ Paired tbl id ty := by
  constructor
  · intro h
    rcases select_cases tbl id with ⟨_, hs⟩ | ⟨i, r, hi, hid, _, hs⟩
    · rw [hs] at h
      cases h
    · rw [hs] at h
      cases h
      exact hid ▸ List.mem_of_getElem? hi
  · intro h
    obtain ⟨i, hi⟩ := List.getElem?_of_mem h
    rw [select_row tbl i ⟨id, ty⟩ hi (unique_first tbl hu i _ hi)]

/-- every row of the emitted table is an object written in the set … -/
theorem buildTable_sound (items : List (SetItem ι)) (r : Row ι) :
    r ∈ (buildTable items).rows → r ∈ allObjects items :=
  fun h => let ⟨os, hm, _, hr⟩ := mem_buildTable.1 h
  mem_allObjects.2 ⟨os, hm, hr⟩

/-- … and no row is repeated -/
theorem buildTable_nodup (items : List (SetItem ι)) : (buildTable items).rows.Nodup :=
  buildTable_rows items ▸ nodup_foldl_addUnique _ _ List.nodup_nil

/-- **buildTable_complete_partial**: when no comma-separated item of the set consists of a single
    object, the table holds exactly the objects of the set (root and additions). -/
theorem buildTable_complete_partial (items : List (SetItem ι)) (hs : NoSingleton items) (r : Row ι) :
    r ∈ (buildTable items).rows ↔ r ∈ allObjects items :=
  ⟨buildTable_sound items r, fun h =>
    let ⟨os, hm, hr⟩ := mem_allObjects.1 h
    mem_buildTable.2 ⟨os, hm, noSingleton_iff.1 hs os hm, hr⟩⟩

/-- **F101** counter-example: `{ { T0 IDENTIFIED BY 1 } }` yields an empty table, and
    `{ a | b, ..., c }` loses the addition `c`. -/
theorem buildTable_single_object_cex :
    (buildTable [SetItem.union [(⟨1, 0⟩ : Row Int)]]).rows = [] ∧
    (buildTable [SetItem.union [(⟨1, 0⟩ : Row Int), ⟨7, 1⟩], .ext, .union [⟨9, 2⟩]]).rows = [⟨1, 0⟩, ⟨7, 1⟩] ∧
    (⟨9, 2⟩ : Row Int) ∈ allObjects [SetItem.union [(⟨1, 0⟩ : Row Int), ⟨7, 1⟩], .ext, .union [⟨9, 2⟩]] := by
  decide

/-- non-vacuity of `NoSingleton`: the one-row table is reachable (`{ a | a }`) -/
example : (buildTable [SetItem.union [(⟨1, 0⟩ : Row Int), ⟨1, 0⟩]]).rows = [⟨1, 0⟩] := by decide

section decode
variable {α β : Type}

/-- **unknown_id_fails**: an identifier without a row makes `OPEN_TYPE_ber_get`/`_uper_get` return
    RC_FAIL before anything is decoded, allocated or touched (also for pointer members). -/
theorem unknown_id_fails (tbl : Table ι) (m : Member) (ber : Bool) (dec : Nat → α → DecRes β) (id : ι)
    (input : α) (h : ∀ r ∈ tbl, r.id ≠ id) : otGet tbl m ber dec id input = .fail := by
  have := (selector_none_iff tbl id).2 h
  simp [otGet, this]

theorem unknown_id_fails_xer (tbl : Table ι) (m : Member) (name : String)
    (dec : Nat → List XTok → DecRes β) (id : ι) (input : List XTok) (h : ∀ r ∈ tbl, r.id ≠ id) :
    xerGet tbl m name dec id input = .fail := by
  have := (selector_none_iff tbl id).2 h
  simp [xerGet, this]

/-- **decoded_type_is_paired_type**: whatever the input, a successful decode stores presence
    index `p` of a row that carries the decoded identifier (the first such row), and the value is
    what *that row's* decoder returned on the member's input. -/
theorem decoded_type_is_paired_type (tbl : Table ι) (m : Member) (ber : Bool) (dec : Nat → α → DecRes β)
    (id : ι) (input : α) (ov : OpenVal β) (c : Nat) (hn : tbl.length ≤ m.nelems)
    (h : otGet tbl m ber dec id input = .ok ov c) :
    ∃ r, tbl[ov.present - 1]? = some r ∧ ov.present ≠ 0 ∧ r.id = id ∧ Paired tbl id r.ty ∧
      dec r.ty input = .ok ov.val c ∧
      ∀ j r', j < ov.present - 1 → tbl[j]? = some r' → r'.id ≠ id := by
  rcases select_cases tbl id with ⟨hno, _⟩ | ⟨i, r, hi, hid, hf, hs⟩
  · rw [unknown_id_fails tbl m ber dec id input hno] at h
    cases h
  · rw [otGet_of_select hs (Nat.succ_ne_zero i)] at h
    obtain ⟨hd, hp⟩ := finish_eq_ok (Nat.le_trans (List.getElem?_eq_some_iff.1 hi).1 hn) h
    rw [hp]
    exact ⟨r, hi, Nat.succ_ne_zero i, hid, hid ▸ List.mem_of_getElem? hi, hd, hf⟩

/-- **mismatch_fails_clean**: the identifier has a row but the member's input is not a valid
    encoding of the paired type (the row decoder fails): RC_FAIL — for every row type (whatever its
    `specifics`) and for inline and pointer (OPTIONAL) members alike. -/
theorem mismatch_fails_clean (tbl : Table ι) (m : Member) (ber : Bool) (dec : Nat → α → DecRes β)
    (id : ι) (input : α) (ty p : Nat) (hs : select tbl id = ⟨some ty, p⟩) (hp0 : p ≠ 0)
    (hd : dec ty input = .fail) :
    otGet tbl m ber dec id input = .fail := by
  rw [otGet_of_select hs hp0, hd]
  rfl

/-- a truncated member (the row decoder wants more data) is reported as such, never as a crash -/
theorem starved_inner_wants_more (tbl : Table ι) (m : Member) (ber : Bool) (dec : Nat → α → DecRes β)
    (id : ι) (input : α) (ty p : Nat) (hs : select tbl id = ⟨some ty, p⟩) (hp0 : p ≠ 0)
    (hd : dec ty input = .more) :
    otGet tbl m ber dec id input = .more := by
  rw [otGet_of_select hs hp0, hd]
  rfl

/-- **inner_failure_never_crashes**: `OPEN_TYPE_ber_get`/`_uper_get` add no crash of their own: for
    a table as emitted (every row has a type cell) and row decoders that do not crash on the
    member's input, the outcome is RC_OK, RC_WMORE or RC_FAIL — for every identifier, every input,
    every row type and every kind of member. -/
theorem inner_failure_never_crashes (tbl : Table ι) (m : Member) (ber : Bool) (dec : Nat → α → DecRes β)
    (id : ι) (input : α) (hdec : ∀ ty, dec ty input ≠ .crash) :
    otGet tbl m ber dec id input ≠ .crash := by
  rcases select_cases tbl id with ⟨hno, _⟩ | ⟨i, r, _, _, _, hs⟩
  · rw [unknown_id_fails tbl m ber dec id input hno]
    exact nofun
  · rw [otGet_of_select hs (Nat.succ_ne_zero i), Ne, finish_eq_crash]
    exact hdec r.ty

/-- **failed_get_releases_member**: whenever the getter does not return RC_OK, the member is left
    empty — a pointer (OPTIONAL) member freed and reset to NULL, an inline member zeroed (presence
    index 0): nothing of the partially decoded variant stays behind for the caller's
    `ASN_STRUCT_FREE` to leak or to free a second time. -/
theorem failed_get_releases_member (tbl : Table ι) (m : Member) (ber : Bool) (dec : Nat → α → DecRes β)
    (id : ι) (input : α) (h : ∀ ov c, otGet tbl m ber dec id input ≠ .ok ov c) :
    slotAfter m (otGet tbl m ber dec id input) = if m.pointer then none else some 0 := by
  cases hr : otGet tbl m ber dec id input with
  | ok ov c => exact absurd hr (h ov c)
  | more => rfl
  | fail => rfl
  | crash => rfl

/-- … and after RC_OK it holds the presence index of the row paired with the identifier -/
theorem ok_get_holds_paired_row (tbl : Table ι) (m : Member) (ber : Bool) (dec : Nat → α → DecRes β)
    (id : ι) (input : α) (ov : OpenVal β) (c : Nat) (hn : tbl.length ≤ m.nelems)
    (h : otGet tbl m ber dec id input = .ok ov c) :
    ∃ p r, slotAfter m (otGet tbl m ber dec id input) = some p ∧ tbl[p - 1]? = some r ∧ p ≠ 0 ∧
      Paired tbl id r.ty := by
  obtain ⟨r, hr, h0, _, hp, _, _⟩ := decoded_type_is_paired_type tbl m ber dec id input ov c hn h
  exact ⟨ov.present, r, by rw [h]; rfl, hr, h0, hp⟩

/-- XER variant of `decoded_type_is_paired_type` (`OPEN_TYPE_xer_get`): a successful decode stores
    the first row carrying the decoded identifier, and the value is one that row's decoder
    returned (on some token list: the statement does not say which). -/
theorem decoded_type_is_paired_type_xer (tbl : Table ι) (m : Member) (name : String)
    (dec : Nat → List XTok → DecRes β) (id : ι) (input : List XTok) (ov : OpenVal β) (c : Nat)
    (hn : tbl.length ≤ m.nelems) (h : xerGet tbl m name dec id input = .ok ov c) :
    ∃ r, tbl[ov.present - 1]? = some r ∧ ov.present ≠ 0 ∧ r.id = id ∧ Paired tbl id r.ty ∧
      ∃ toks c', dec r.ty toks = .ok ov.val c' := by
  obtain ⟨toks, c', h'⟩ := xerGet_ok_otGet h
  obtain ⟨r, h1, h2, h3, h4, h5, _⟩ := decoded_type_is_paired_type tbl m false dec id toks ov c' hn h'
  exact ⟨r, h1, h2, h3, h4, toks, c', h5⟩

/-- XER variant of `mismatch_fails_clean` -/
theorem mismatch_fails_clean_xer (tbl : Table ι) (m : Member) (name : String)
    (dec : Nat → List XTok → DecRes β) (id : ι) (rest : List XTok) (ty p : Nat)
    (hs : select tbl id = ⟨some ty, p⟩) (hp0 : p ≠ 0)
    (hd : dec ty rest = .fail) :
    xerGet tbl m name dec id (XTok.opening name :: rest) = .fail := by
  simp [xerGet, hs, hp0, skipText, hd, finish]

/-- the former **F105** witness (identifier 1 ↦ a row type without `specifics`, member bytes that
    are not an encoding of it): RC_FAIL now, like the mismatch on the SEQUENCE row. -/
theorem mismatch_witness_fails_clean :
    otGet (β := Unit) [(⟨1, 0⟩ : Row Int), ⟨7, 1⟩] ⟨2, false⟩ true
      (fun _ (_ : Bytes) => .fail) 1 [0x30, 0x00] = .fail ∧
    otGet (β := Unit) [(⟨1, 0⟩ : Row Int), ⟨7, 1⟩] ⟨2, false⟩ true
      (fun _ (_ : Bytes) => .fail) 7 [0x02, 0x01, 0x05] = .fail := by
  decide

/-- the former **F22** witness: an OPTIONAL (pointer) open-type member holding a valid encoding
    of the paired type decodes (presence index 1, all three octets consumed) … -/
theorem pointer_member_witness_decodes :
    otGet (β := Unit) [(⟨1, 0⟩ : Row Int), ⟨7, 1⟩] ⟨2, true⟩ true
      (fun _ (bs : Bytes) => .ok () bs.length) 1 [0x02, 0x01, 0x05] = .ok ⟨1, ()⟩ 3 := by
  decide

/-- … and in general the outcome of the three getters does not depend on how the member is
    contained (inline or by pointer). -/
theorem pointer_member_same_outcome (tbl : Table ι) (n : Nat) (ber : Bool) (dec : Nat → α → DecRes β)
    (id : ι) (input : α) :
    otGet tbl ⟨n, true⟩ ber dec id input = otGet tbl ⟨n, false⟩ ber dec id input := rfl

theorem pointer_member_same_outcome_xer (tbl : Table ι) (n : Nat) (name : String)
    (dec : Nat → List XTok → DecRes β) (id : ι) (input : List XTok) :
    xerGet tbl ⟨n, true⟩ name dec id input = xerGet tbl ⟨n, false⟩ name dec id input := rfl

end decode

section roundtrip
variable {β : Type}

omit [DecidableEq ι] in
/-- **BER framing**: the open-type member contributes exactly the row type's own encoding (its TLV,
    inside the member's EXPLICIT tag when it has one) — the element is chosen by presence index. -/
theorem ber_open_is_row_tlv (tbl : Table ι) (i : Nat) (r : Row ι) (hi : tbl[i]? = some r)
    {γ : Type} (enc : Nat → β → Option γ) (v : β) :
    otPut (tbl.map (·.ty)) enc ⟨i + 1, v⟩ = enc r.ty v := by
  have : ¬ tbl.length < i + 1 := Nat.not_lt.2 (List.getElem?_eq_some_iff.1 hi).1
  simp [otPut, this, hi]

/-- **open_type_roundtrip_ber**: for row `i` of the table (no earlier row sharing its identifier —
    automatic with UNIQUE ids, see `unique_first`) and any row codec that round-trips on this
    value, decoding the encoded member under the row's identifier gives back presence index
    `i + 1` and the value, consuming exactly the member's bytes (inline and OPTIONAL members). -/
theorem open_type_roundtrip_ber (tbl : Table ι) (m : Member) (i : Nat) (r : Row ι)
    (hi : tbl[i]? = some r) (hfirst : ∀ j r', j < i → tbl[j]? = some r' → r'.id ≠ r.id)
    (hn : m.nelems = tbl.length)
    (enc : Nat → β → Option Bytes) (dec : Nat → Bytes → DecRes β) (v : β) (bs rest : Bytes)
    (henc : enc r.ty v = some bs) (hdec : dec r.ty (bs ++ rest) = .ok v bs.length) :
    otPut (tbl.map (·.ty)) enc ⟨i + 1, v⟩ = some bs ∧
    berGet tbl m dec r.id (bs ++ rest) = .ok ⟨i + 1, v⟩ bs.length := by
  refine ⟨by rw [ber_open_is_row_tlv tbl i r hi, henc], ?_⟩
  rw [berGet, otGet_of_select (select_row tbl i r hi hfirst) (Nat.succ_ne_zero i), hdec]
  exact if_pos (show i + 1 ≤ m.nelems from hn ▸ (List.getElem?_eq_some_iff.1 hi).1)

/-- **UPER framing**: below 16384 octets `uper_open_type_put` emits the X.691 §10.2 open type field. -/
theorem uper_open_framing (inner : Bits) (h : (toOctets inner).length / 8 < 16384) :
    openPut inner = openTypeField inner :=
  openPut_short inner h

/-- `uper_open_type_get` rejects non-zero padding bits after the row value -/
theorem uper_nonzero_padding_fails (dec : Bits → PerRes β) (input buf rest : Bits) (v : β) (used : Nat)
    (hc : collect (input.length + 1) input [] = some (buf, rest)) (hd : dec buf = .ok v used)
    (hp : (buf.drop used).all (· == false) = false) :
    openGet dec input = .fail := by
  rw [openGet, hc]
  simp only [hd, hp, Bool.false_eq_true, and_false, if_false]

/-- **open_type_roundtrip_uper**: as for BER, with the row codec working on bits: the row
    decoder, given the octet-aligned stand-alone encoding, must return the value and report the
    bits the row encoder produced.  Restricted to fields below 16384 octets (no fragmentation). -/
theorem open_type_roundtrip_uper (tbl : Table ι) (m : Member) (i : Nat) (r : Row ι)
    (hi : tbl[i]? = some r) (hfirst : ∀ j r', j < i → tbl[j]? = some r' → r'.id ≠ r.id)
    (hn : m.nelems = tbl.length)
    (enc : Nat → β → Option Bits) (dec : Nat → Bits → PerRes β) (v : β) (inner rest : Bits)
    (henc : enc r.ty v = some inner) (hdec : dec r.ty (toOctets inner) = .ok v inner.length)
    (hshort : (toOctets inner).length / 8 < 16384) :
    uperPut (tbl.map (·.ty)) enc ⟨i + 1, v⟩ = some (openTypeField inner) ∧
    uperGet tbl m dec r.id (openTypeField inner ++ rest)
      = .ok ⟨i + 1, (v, rest)⟩ (openTypeField inner).length := by
  rw [← uper_open_framing inner hshort]
  refine ⟨by rw [uperPut, ber_open_is_row_tlv tbl i r hi, henc]; rfl, ?_⟩
  rw [uperGet, otGet_of_select (select_row tbl i r hi hfirst) (Nat.succ_ne_zero i),
    openGet_openPut (dec r.ty) inner rest v hdec hshort]
  exact if_pos (show i + 1 ≤ m.nelems from hn ▸ (List.getElem?_eq_some_iff.1 hi).1)

/-- **open_type_roundtrip_xer**: `<member>` row-XER `</member>`, whitespace (text tokens) allowed
    around the row's element. -/
theorem open_type_roundtrip_xer (tbl : Table ι) (m : Member) (name : String) (i : Nat) (r : Row ι)
    (hi : tbl[i]? = some r) (hfirst : ∀ j r', j < i → tbl[j]? = some r' → r'.id ≠ r.id)
    (hn : m.nelems = tbl.length)
    (dec : Nat → List XTok → DecRes β) (v : β) (body rest : List XTok)
    (hdec : dec r.ty (body ++ XTok.text :: XTok.closing name :: rest) = .ok v body.length) :
    xerGet tbl m name dec r.id (XTok.text :: XTok.opening name :: (body ++ XTok.text :: XTok.closing name :: rest))
      = .ok ⟨i + 1, v⟩ (body.length + 4) := by
  have hle : i + 1 ≤ m.nelems := hn ▸ (List.getElem?_eq_some_iff.1 hi).1
  simp only [xerGet, select_row tbl i r hi hfirst, skipText, hdec, finish, hle, List.drop_left,
    Nat.succ_ne_zero, if_false, if_true, ne_eq, not_true_eq_false, List.length_cons, List.length_append]
  exact congrArg _ (Nat.sub_eq_of_eq_add (Nat.add_right_comm body.length rest.length 4))

end roundtrip

section frame
variable {β : Type}

/-- **frame_roundtrip_ber**: `dec (enc (id, v)) = (id, v)` for the pair of related members when the
    identifier is declared before the open type, for identifier and row codecs that round-trip. -/
theorem frame_roundtrip_ber (tbl : Table ι) (m : Member) (zero : ι) (i : Nat) (r : Row ι)
    (hi : tbl[i]? = some r) (hu : UniqueIds tbl)
    (hn : m.nelems = tbl.length)
    (encId : ι → Option Bytes) (decId : Bytes → DecRes ι)
    (enc : Nat → β → Option Bytes) (dec : Nat → Bytes → DecRes β) (v : β) (ib bs rest : Bytes)
    (hencId : encId r.id = some ib) (hdecId : decId (ib ++ (bs ++ rest)) = .ok r.id ib.length)
    (henc : enc r.ty v = some bs) (hdec : dec r.ty (bs ++ rest) = .ok v bs.length) :
    frameEnc (tbl.map (·.ty)) true encId enc (r.id, ⟨i + 1, v⟩) = some (ib ++ bs) ∧
    frameDec tbl m true zero decId dec (fun inp c => inp.drop c) (ib ++ bs ++ rest)
      = .ok (r.id, ⟨i + 1, v⟩) (ib.length + bs.length) := by
  have hrt := open_type_roundtrip_ber tbl m i r hi (unique_first tbl hu i r hi) hn enc dec v bs rest henc hdec
  constructor
  · simp [frameEnc, hencId, hrt.1]
  · have h2 := hrt.2
    simp only [berGet] at h2
    simp [frameDec, List.append_assoc, hdecId, h2]

/-- **F103** counter-example: identifier declared *after* the open type.  The selector reads the
    not-yet-decoded (zero) identifier: with rows `0 ↦ T0`, `2 ↦ T1` a frame carrying identifier 2
    and a `T1` value whose bytes also parse as `T0` decodes "successfully" as row 1 (`T0`), i.e. the
    decoded type is not the type paired with the decoded identifier; and when no row has
    identifier 0 every frame fails to decode. -/
theorem ident_after_open_cex :
    frameDec (β := Unit) [(⟨0, 0⟩ : Row Int), ⟨2, 1⟩] ⟨2, false⟩ false 0
      (fun bs => match bs with | [0x81, 0x01, x] => .ok (x : Int) 3 | _ => .fail)
      (fun _ bs => if bs.length ≥ 5 then .ok () 5 else .fail) (fun inp c => inp.drop c)
      [0xa0, 0x03, 0x02, 0x01, 0x03, 0x81, 0x01, 0x02] = .ok (2, ⟨1, ()⟩) 8 ∧
    frameDec (β := Unit) [(⟨1, 0⟩ : Row Int), ⟨2, 1⟩] ⟨2, false⟩ false 0
      (fun bs => match bs with | [0x81, 0x01, x] => .ok (x : Int) 3 | _ => .fail)
      (fun _ bs => if bs.length ≥ 5 then .ok () 5 else .fail) (fun inp c => inp.drop c)
      [0xa0, 0x03, 0x02, 0x01, 0x03, 0x81, 0x01, 0x02] = .fail := by
  decide

end frame

/-- a concrete instance of the round-trip hypotheses: two rows, the row codec of type 1 is the
    identity on one octet -/
example :
    berGet [(⟨1, 0⟩ : Row Int), ⟨7, 1⟩] ⟨2, false⟩
      (fun _ bs => match bs with | b :: _ => .ok b 1 | [] => .more) 7 ([5] ++ [9, 9])
      = .ok ⟨2, 5⟩ 1 := by decide

example : UniqueIds [(⟨1, 0⟩ : Row Int), ⟨7, 1⟩] := by unfold UniqueIds; decide

end Asn1c.Props.C18
