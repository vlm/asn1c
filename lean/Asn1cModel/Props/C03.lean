import Asn1cModel.Proofs.L2Variants
import Asn1cModel.Props.C01
/-
  C03 (BER part) — "decoders accept every valid encoding, not only the library's own".

  `ValidBER t v x` (Proofs/L2Variants.lean) is the set of all valid BER trees `x` of the canonical
  value `v` of type `t`: the closure of the DER tree `toTlv t v` under
    (a) any length form on any node (the relation never mentions a `form` field),
    (b) constructed, arbitrarily nested OCTET STRING (and other `Prim.octets` kinds),
    (c) constructed, arbitrarily nested BIT STRING; arbitrary unused bits in the last octet,
    (d) SET children in any order,
    (e) SET OF children in any order (`ValidBERo`: in the order of the value's list),
    (f) BOOLEAN TRUE as any non-zero octet,
    (g) explicit tag wrappers in any length form.
  Not covered: the alternative REAL encodings of X.690 §8.5 (base 8/16, decimal, non-minimal
  exponent/mantissa); `ValidPrim.real` only admits the contents written by `asn_double2REAL`.
  Model: `decBER fuel t bs = interp t (parseTlv fuel bs)`; property theorems only.
-/
namespace Asn1c.Props.C03
open Asn1c Asn1c.Impl.BerTlv Asn1c.L2 Asn1c.Spec Asn1c.Proofs.L2Tlv Asn1c.Proofs.L2Der
open Asn1c.Proofs.L2Variants

/-- **the DER tree is one of the valid BER trees** of a canonical value -/
theorem der_is_valid (t : Ty) (v : Val) (x : Tlv) (hc : Canon t v) (h : toTlv t v = some x) :
    ValidBER t v x ∧ ValidBERo t v x := ⟨valid_of_toTlv hc h, valid_of_toTlv hc h⟩

/-- decoding the serialisation of any well-formed tree = interpreting the tree (whatever follows) -/
theorem decBER_enc (t : Ty) (x : Tlv) (hx : x.Wf) (fuel : Nat) (hf : x.size ≤ fuel) (rest : Bytes) :
    decBER fuel t (x.enc ++ rest) = match interp t x with
      | some v => .ok v rest
      | none => .fail := by
  unfold decBER
  rw [Asn1c.Proofs.L2Tlv.parseTlv_enc_any_form x hx fuel hf rest]
  rfl

/-- **the BER decoder accepts every valid encoding** (SET OF children in value order): RC_OK,
    exactly the encoding is consumed, the value is returned -/
theorem ber_accepts_valid_ordered (t : Ty) (v : Val) (x : Tlv) (hw : t.Wf) (h : ValidBERo t v x)
    (hx : x.Wf) (fuel : Nat) (hf : x.size ≤ fuel) (rest : Bytes) :
    decBER fuel t (x.enc ++ rest) = .ok v rest := by
  rw [decBER_enc t x hx fuel hf rest, interp_valid_ordered hw h]

/-- **the BER decoder accepts every valid encoding**: RC_OK, exactly the encoding is consumed, the
    value is returned up to the order of its SET OF lists -/
theorem ber_accepts_valid (t : Ty) (v : Val) (x : Tlv) (hw : t.Wf) (h : ValidBER t v x) (hx : x.Wf) :
    ∃ v', SetOfPerm t v v' ∧
      ∀ fuel, x.size ≤ fuel → ∀ rest, decBER fuel t (x.enc ++ rest) = .ok v' rest := by
  obtain ⟨v', hp, hi⟩ := interp_valid hw h
  exact ⟨v', hp, fun fuel hf rest => by rw [decBER_enc t x hx fuel hf rest, hi]⟩

/-- the same for types without SET OF: exactly the value -/
theorem ber_accepts_valid_noSetOf (t : Ty) (v : Val) (x : Tlv) (hw : t.Wf) (hn : NoSetOf t)
    (h : ValidBER t v x) (hx : x.Wf) (fuel : Nat) (hf : x.size ≤ fuel) (rest : Bytes) :
    decBER fuel t (x.enc ++ rest) = .ok v rest := by
  rw [decBER_enc t x hx fuel hf rest, interp_valid_noSetOf hw hn h]

/-- **length forms never matter**: trees that differ only in how lengths are written are interpreted
    identically (`interp_sameShape`: every type, every tree, valid or not), hence their serialisations
    decode to the same result -/
theorem decBER_sameShape (t : Ty) (x y : Tlv) (h : sameShape x y) (hx : x.Wf) (hy : y.Wf)
    (fuel : Nat) (hfx : x.size ≤ fuel) (hfy : y.size ≤ fuel) (rest : Bytes) :
    decBER fuel t (x.enc ++ rest) = decBER fuel t (y.enc ++ rest) := by
  rw [decBER_enc t x hx fuel hfx rest, decBER_enc t y hy fuel hfy rest, interp_sameShape t x y h]

section Examples
open Asn1c.Props.C01

theorem intOctets_5 : intOctets 5 = [5] := by decide +kernel
theorem intOctets_9 : intOctets 9 = [9] := by decide +kernel
theorem intOctets_m129 : intOctets (-129) = [255, 127] := by decide +kernel
/-- an INTEGER node whose contents are given as a literal -/
theorem validInt {t : Tag} {k : Nat} {z : Int} {c : Bytes} (h : intOctets z = c) :
    ValidPrim .integer (.int z) t (.prim t k c) := h ▸ .integer

theorem real_1_5 : Asn1c.Impl.Real.double2REAL 0x3ff8000000000000 = [128, 255, 3] := by decide +kernel

/-- value `{ b x : TRUE, c { 5, -129 } }` of `C01.exTy` =
    `SEQUENCE { a [0] INTEGER OPTIONAL, b CHOICE { x BOOLEAN, y OCTET STRING }, c SEQUENCE OF INTEGER }` -/
def exVal1 : Val := .seq [.absent, .choice 0 (.bool true), .list [.int 5, .int (-129)]]

/-- (a), (f): every constructed node indefinite, a long-form length, TRUE written as 01 -/
def exTree1 : Tlv :=
  .cons ⟨0, 16⟩ none
    [.prim ⟨0, 1⟩ 0 [1], .cons ⟨0, 16⟩ none [.prim ⟨0, 2⟩ 0 [5], .prim ⟨0, 2⟩ 1 [255, 127]]]

theorem exTree1_valid : ValidBERo exTy exVal1 exTree1 := by
  refine .seq (outer := []) (inner := ⟨0, 16⟩) rfl ?_ .nil
  refine .absent rfl (.present rfl rfl ?_ (.present rfl rfl ?_ .nil))
  · exact .choice (.here (.prim (outer := []) rfl (.boolean rfl) .nil)) .nil
  · refine .seqOf (outer := []) (inner := ⟨0, 16⟩) rfl (.cons ?_ (.cons ?_ .nil)) .nil
    · exact .prim (outer := []) rfl (validInt intOctets_5) .nil
    · exact .prim (outer := []) rfl (validInt intOctets_m129) .nil

theorem exTree1_wf : exTree1.Wf := by decide +kernel

theorem exTree1_enc :
    exTree1.enc = [48, 128, 1, 1, 1, 48, 128, 2, 1, 5, 2, 129, 2, 255, 127, 0, 0, 0, 0] := by decide +kernel

/-- `30 80 01 01 01 30 80 02 01 05 02 81 02 FF 7F 00 00 00 00` decodes to the value -/
example (fuel : Nat) (hf : 7 ≤ fuel) (rest : Bytes) :
    decBER fuel exTy ([48, 128, 1, 1, 1, 48, 128, 2, 1, 5, 2, 129, 2, 255, 127, 0, 0, 0, 0] ++ rest)
      = .ok exVal1 rest := by
  rw [← exTree1_enc]
  exact ber_accepts_valid_ordered exTy exVal1 exTree1 (by decide) exTree1_valid exTree1_wf fuel
    (Nat.le_trans (by decide) hf) rest

/-- (b): `C01.exVal` (b = y : '010203'H) with the OCTET STRING constructed and nested:
    `24 80 (04 01 01) (24 81 06 (04 00) (04 02 02 03)) 00 00` -/
def exTree2 : Tlv :=
  .cons ⟨0, 16⟩ (some 0)
    [.cons ⟨0, 4⟩ none
       [.prim ⟨0, 4⟩ 0 [1], .cons ⟨0, 4⟩ (some 1) [.prim ⟨0, 4⟩ 0 [], .prim ⟨0, 4⟩ 0 [2, 3]]],
     .cons ⟨0, 16⟩ (some 0) [.prim ⟨0, 2⟩ 0 [5], .prim ⟨0, 2⟩ 0 [255, 127]]]

theorem exTree2_valid : ValidBERo exTy exVal exTree2 := by
  refine .seq (outer := []) (inner := ⟨0, 16⟩) rfl ?_ .nil
  refine .absent rfl (.present rfl rfl ?_ (.present rfl rfl ?_ .nil))
  · refine .choice (.there (.here (.prim (outer := []) (inner := ⟨0, 4⟩) rfl (.octets rfl ?_) .nil))) .nil
    simp [stringContent, stringContentList]
  · refine .seqOf (outer := []) (inner := ⟨0, 16⟩) rfl (.cons ?_ (.cons ?_ .nil)) .nil
    · exact .prim (outer := []) rfl (validInt intOctets_5) .nil
    · exact .prim (outer := []) rfl (validInt intOctets_m129) .nil

theorem exTree2_wf : exTree2.Wf := by decide +kernel

theorem exTree2_enc :
    exTree2.enc = [48, 25, 36, 128, 4, 1, 1, 36, 129, 6, 4, 0, 4, 2, 2, 3, 0, 0, 48, 7, 2, 1, 5, 2, 2,
      255, 127] := by decide +kernel

example (fuel : Nat) (hf : 13 ≤ fuel) (rest : Bytes) :
    decBER fuel exTy ([48, 25, 36, 128, 4, 1, 1, 36, 129, 6, 4, 0, 4, 2, 2, 3, 0, 0, 48, 7, 2, 1, 5, 2, 2,
      255, 127] ++ rest) = .ok exVal rest := by
  rw [← exTree2_enc]
  exact ber_accepts_valid_ordered exTy exVal exTree2 (by decide) exTree2_valid exTree2_wf fuel
    (Nat.le_trans (by decide) hf) rest

/-- value of `C01.exSet` = `SET { p [1] BOOLEAN, q [0] EXPLICIT INTEGER DEFAULT 7,
    r SET OF OCTET STRING, s BIT STRING OPTIONAL, u REAL, ... }` with q = 9, s = '11111111 101'B -/
def exSetVal3 : Val :=
  .seq [.bool true, .int 9, .list [.octets [1], .octets [2], .octets [1, 0]], .bits [0xFF, 0xA0] 5,
    .real 0x3ff8000000000000]

/-- (d), (g), (c), (f), (a): children in the order q, p, r, u, s (DER order: s, u, r, q, p);
    the explicit wrapper of q indefinite; the BIT STRING constructed in two segments, the last
    one with non-zero unused bits (A7); TRUE = 80; non-minimal length on r -/
def exTree3 : Tlv :=
  .cons ⟨0, 17⟩ none
    [.cons ⟨2, 0⟩ none [.prim ⟨0, 2⟩ 0 [9]],
     .prim ⟨2, 1⟩ 0 [0x80],
     .cons ⟨0, 17⟩ (some 2) [.prim ⟨0, 4⟩ 0 [1], .prim ⟨0, 4⟩ 0 [2], .prim ⟨0, 4⟩ 0 [1, 0]],
     .prim ⟨0, 9⟩ 0 [128, 255, 3],
     .cons ⟨0, 3⟩ none [.prim ⟨0, 3⟩ 0 [0, 0xFF], .prim ⟨0, 3⟩ 0 [5, 0xA7]]]

theorem exTree3_valid : ValidBERo exSet exSetVal3 exTree3 := by
  refine .set (outer := []) (inner := ⟨0, 17⟩)
    (cs := [.prim ⟨2, 1⟩ 0 [0x80], .cons ⟨2, 0⟩ none [.prim ⟨0, 2⟩ 0 [9]],
      .cons ⟨0, 17⟩ (some 2) [.prim ⟨0, 4⟩ 0 [1], .prim ⟨0, 4⟩ 0 [2], .prim ⟨0, 4⟩ 0 [1, 0]],
      .cons ⟨0, 3⟩ none [.prim ⟨0, 3⟩ 0 [0, 0xFF], .prim ⟨0, 3⟩ 0 [5, 0xA7]],
      .prim ⟨0, 9⟩ 0 [128, 255, 3]]) rfl ?_ ?_ .nil
  · refine .present rfl rfl ?_ (.present rfl rfl ?_ (.present rfl rfl ?_ (.present rfl rfl ?_
      (.present rfl rfl ?_ .nil))))
    · exact .prim (outer := []) rfl (.boolean rfl) .nil
    · exact .prim (outer := [⟨2, 0⟩]) (inner := ⟨0, 2⟩) rfl (validInt intOctets_9) (.cons .nil)
    · refine .setOf (outer := []) (inner := ⟨0, 17⟩) rfl
        (.cons ?_ (.cons ?_ (.cons ?_ .nil))) (List.Perm.refl _) (fun _ => rfl) .nil
      · exact .prim (outer := []) rfl (.octets rfl rfl) .nil
      · exact .prim (outer := []) rfl (.octets rfl rfl) .nil
      · exact .prim (outer := []) rfl (.octets rfl rfl) .nil
    · refine .prim (outer := []) (inner := ⟨0, 3⟩) rfl (.bitsCons (bs' := [0xFF, 0xA7]) ?_ ?_) .nil
      · simp [bitSegments, bitLeavesList, bitLeaves, combineBits]
      · simp [maskLast]
    · refine .prim (outer := []) rfl ?_ .nil
      rw [← real_1_5]; exact .real (by decide)
  · exact (List.Perm.swap _ _ _).trans
      (List.Perm.cons _ (List.Perm.cons _ (List.Perm.cons _ (List.Perm.swap _ _ _))))

theorem exTree3_wf : exTree3.Wf := by decide +kernel

theorem exTree3_enc :
    exTree3.enc = [49, 128, 160, 128, 2, 1, 9, 0, 0, 129, 1, 128, 49, 130, 0, 10, 4, 1, 1, 4, 1, 2, 4, 2, 1, 0,
      9, 3, 128, 255, 3, 35, 128, 3, 2, 0, 255, 3, 2, 5, 167, 0, 0, 0, 0] := by decide +kernel

example (fuel : Nat) (hf : 16 ≤ fuel) (rest : Bytes) :
    decBER fuel exSet ([49, 128, 160, 128, 2, 1, 9, 0, 0, 129, 1, 128, 49, 130, 0, 10, 4, 1, 1, 4, 1, 2, 4, 2,
      1, 0, 9, 3, 128, 255, 3, 35, 128, 3, 2, 0, 255, 3, 2, 5, 167, 0, 0, 0, 0] ++ rest)
      = .ok exSetVal3 rest := by
  rw [← exTree3_enc]
  exact ber_accepts_valid_ordered exSet exSetVal3 exTree3 (by decide) exTree3_valid exTree3_wf fuel
    (Nat.le_trans (by decide) hf) rest

/-- (e): `SET OF INTEGER` value {5, -129} with the children in the non-DER order -129, 5 -/
def exSetOf : Ty := .setOf [⟨0, 17⟩] (.prim [⟨0, 2⟩] .integer)
def exTree4 : Tlv := .cons ⟨0, 17⟩ (some 0) [.prim ⟨0, 2⟩ 0 [255, 127], .prim ⟨0, 2⟩ 0 [5]]

theorem exTree4_valid : ValidBER exSetOf (.list [.int 5, .int (-129)]) exTree4 := by
  refine .setOf (outer := []) (inner := ⟨0, 17⟩)
    (cs := [.prim ⟨0, 2⟩ 0 [5], .prim ⟨0, 2⟩ 0 [255, 127]]) rfl (.cons ?_ (.cons ?_ .nil))
    (List.Perm.swap _ _ _) (fun h => by cases h) .nil
  · exact .prim (outer := []) rfl (validInt intOctets_5) .nil
  · exact .prim (outer := []) rfl (validInt intOctets_m129) .nil

example : ∃ v', SetOfPerm exSetOf (.list [.int 5, .int (-129)]) v' ∧
    ∀ fuel, exTree4.size ≤ fuel → ∀ rest, decBER fuel exSetOf (exTree4.enc ++ rest) = .ok v' rest :=
  ber_accepts_valid exSetOf _ exTree4 (by decide) exTree4_valid
    (by decide +kernel)

/-- `der_is_valid` instantiated: the DER tree of `C01.exVal` is a valid BER tree -/
example : ∃ x, toTlv exTy exVal = some x ∧ ValidBER exTy exVal x := by
  obtain ⟨x, hx⟩ := toTlv_total exTy exVal (by decide) (by decide)
  exact ⟨x, hx, (der_is_valid exTy exVal x (by decide) hx).1⟩

/-- `sameShape`: `exTree1` and its all-definite, all-minimal variant -/
example : sameShape exTree1
    (.cons ⟨0, 16⟩ (some 0)
      [.prim ⟨0, 1⟩ 0 [1], .cons ⟨0, 16⟩ (some 0) [.prim ⟨0, 2⟩ 0 [5], .prim ⟨0, 2⟩ 0 [255, 127]]]) := by
  simp [sameShape, exTree1, eraseForm, eraseFormList]

end Examples

end Asn1c.Props.C03
