import Asn1cModel.Impl.Restart
import Asn1cModel.Proofs.Restart
import Asn1cModel.Props.C01
/-
  C05 — chunked (restartable) decoding gives the same result as one-shot decoding.
-/
namespace Asn1c.Props.C05
open Asn1c Asn1c.Impl.Restart

/-- **chunked = one-shot.**  For every lawful restartable decoder, every state, every pending
    tail and every chunking: feeding the chunks by the manual's protocol ends with the same
    state (hence decoded value), return code and total consumed count as presenting the
    concatenation at once — provided the one-shot run reaches a final verdict or the chunks run out. -/
theorem chunked_eq_oneshot {σ : Type} (d : Dec σ) (h : Lawful d) :
    ∀ (cs : List Bytes) (s : σ) (pend : Bytes) (tot : Nat),
      feed d s pend tot cs =
        (match cs with
         | [] => (s, .more, tot)
         | _ => let r := d.step s (pend ++ cs.flatten); (r.1, r.2.1, tot + r.2.2)) := by
  intro cs s pend tot
  cases cs with
  | nil => rfl
  | cons c cs =>
    refine Asn1c.Proofs.Restart.feed_rel d Eq (fun _ => rfl) Eq.trans (fun _ _ _ e => by rw [e])
      (fun s p s1 k hs ext => ?_) (fun s p s1 rc k hrc hs ext => ?_) _ (List.cons_ne_nil _ _) s pend tot
    · obtain ⟨h1, h2⟩ := h.resume s p s1 k hs ext
      rw [h1]
      simp only [Nat.add_sub_cancel' h2]
    · cases rc with
      | more => exact absurd rfl hrc
      | ok => exact (h.ok_stable s p s1 k hs ext).symm
      | fail => exact (h.fail_stable s p s1 k hs ext).symm

end Asn1c.Props.C05

namespace Asn1c.Props.C05
open Asn1c Asn1c.Impl.Restart Asn1c.L2

/-- the stateless-restart decoder built on the generic BER TLV parser (consumes nothing on WMORE,
    as `ber_decode_primitive` does) -/
def tlvDec (fuel : Nat) : Dec (Option Tlv) where
  step s bs :=
    match parseTlv fuel bs with
    | .ok x rest => (some x, .ok, bs.length - rest.length)
    | .more => (s, .more, 0)
    | .fail => (s, .fail, 0)

/-- non-vacuity: the TLV decoder is lawful, so `chunked_eq_oneshot` applies to it -/
theorem tlvDec_lawful (fuel : Nat) : Lawful (tlvDec fuel) := by
  refine Asn1c.Proofs.Restart.lawful_of_stateless _ id (fun s p => ?_) (fun s p => ?_) (fun _ _ => rfl)
    fun s p ext => ?_
  all_goals simp only [tlvDec]
  · cases parseTlv fuel p with
    | ok x r => exact Nat.sub_le _ _
    | more | fail => exact Nat.zero_le _
  · cases parseTlv fuel p with
    | more => exact fun _ => rfl
    | ok x r | fail => exact nofun
  · -- a verdict other than `more` stands when `ext` follows; the rest of an accepted TLV becomes `r ++ ext`
    refine ((Asn1c.Proofs.L2Tlv.parse_ext fuel).1 p ext).elim (more := fun _ h => absurd rfl h)
      (fail := fun _ => rfl) (ok := fun x r _ => ?_)
    simp only [List.length_append, Nat.add_sub_add_right]

/-- chunked TLV decoding equals one-shot decoding, for every chunking -/
theorem tlv_chunked_eq_oneshot (fuel : Nat) (c : Bytes) (cs : List Bytes) (s : Option Tlv) :
    feed (tlvDec fuel) s [] 0 (c :: cs) =
      (let r := (tlvDec fuel).step s (c :: cs).flatten; (r.1, r.2.1, r.2.2)) := by
  have := chunked_eq_oneshot (tlvDec fuel) (tlvDec_lawful fuel) (c :: cs) s [] 0
  simpa using this

/-- every proper prefix of a well-formed TLV encoding is answered with WMORE and consumes nothing -/
theorem tlv_prefix_wmore (x : Tlv) (hx : x.Wf) (p : Bytes) (hp : p <+: x.enc) (hne : p ≠ x.enc)
    (fuel : Nat) (hf : x.size ≤ fuel) (s : Option Tlv) :
    (tlvDec fuel).step s p = (s, .more, 0) := by
  simp only [tlvDec, Asn1c.Props.C01.parseTlv_prefix_more x hx p hp hne fuel hf]

end Asn1c.Props.C05
