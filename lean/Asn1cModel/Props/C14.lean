import Asn1cModel.Proofs.Lifecycle
/-
  C14 — structure lifecycle is leak-free and double-free-free after any outcome.

  Theorems about the ownership model `Impl.Lifecycle` (heap ledger + ownership tree mirroring
  SEQUENCE_free / SET_free / CHOICE_free / SET_OF_free / OCTET_STRING_free / ASN__PRIMITIVE_TYPE_free
  and the three `asn_struct_free_method`s), all by induction over trees of unbounded depth and width.

  What is *not* proved here: that the C decoders/encoders perform exactly these steps (allocation
  sites and their order are observed by the allocation ledger of harness/alloc_wrap.c, not verified).
-/
namespace Asn1c.Props.C14
open Asn1c.Impl.Lifecycle Asn1c.Impl.Lifecycle.Tree Asn1c.Proofs.Lifecycle
open List

/-- **owned_inv.**  `Owned`: live ids are distinct, the structure references pairwise distinct blocks
  (no block has two owners), every referenced block is live (no dangling owner), consistency conditions.
  Any executable step (box a member, set/realloc/free a buf, push decoder scratch, grow the SET OF array,
  move the element under construction into the array, free a member, reset a member, set `present`, …)
  performed at a node the decoder may legitimately be at (`livePath`) preserves it. -/
theorem owned_inv {p : List Nat} {e : Edit} {st st' : State} (I : Owned st)
    (lp : livePath p st.root = true) (lk : ∀ s, subtreeAt p st.root = some s → localOK e s = true)
    (hs : step p e st = some st') : Owned st' :=
  let ⟨rest, F⟩ := owned_iff.mp I
  owned_iff.mpr ⟨rest, step_framed F lp lk hs⟩

/-- closed-world version: if moreover every live block is referenced by the structure (nothing has
  leaked so far), the same holds after the step: a step cannot lose a block. -/
theorem exact_inv {p : List Nat} {e : Edit} {st st' : State} (E : Exact st)
    (lp : livePath p st.root = true) (lk : ∀ s, subtreeAt p st.root = some s → localOK e s = true)
    (hs : step p e st = some st') : Exact st' :=
  exact_iff.mpr (step_framed (exact_iff.mp E) lp lk hs)

/-- the bookkeeping identity behind it, for *every* executable step (no discipline needed):
  referenced-after + released = allocated + referenced-before, as multisets. -/
theorem step_conservation {p : List Nat} {e : Edit} {st : State} {s : Tree} {o : EditOut}
    (w : wf st.root = true) (hsub : subtreeAt p st.root = some s) (ho : applyEdit e s = some o) :
    (owned (replaceAt p o.node st.root) ++ o.rel).Perm (o.allocs.map Prod.fst ++ owned st.root) :=
  (step_owned w hsub ho).1

/-- the invariant after a whole operation -/
theorem run_inv : ∀ (prog : List (List Nat × Edit)) {st st' : State}, Exact st → okProg prog st →
    run prog st = some st' → Exact st' :=
  fun prog _ _ E ok hr => exact_iff.mpr (run_framed prog (exact_iff.mp E) ok hr)

/-- … and after **any cut** of it (the k-th allocation fails, input is exhausted, an error is detected:
  the operation stops after some prefix of its steps; clean-up actions of the failure path are steps too) -/
theorem cut_inv (prog : List (List Nat × Edit)) (k : Nat) {st st' : State} (E : Exact st) (ok : okProg prog st)
    (hr : run (prog.take k) st = some st') : Exact st' :=
  run_inv (prog.take k) E (okProg_take prog k st ok) hr

/-- **free_everything_releases_owned** (open world).  From an `Owned` state `ASN_STRUCT_FREE` succeeds on the ledger
  (no FREEMEM of a block that is not live), releases no id twice, releases exactly the blocks the
  structure references and nothing else. -/
theorem free_everything_releases_owned {h : Heap} {b : Id} {t : Tree} (I : Owned ⟨h, .boxed b t⟩) :
    (frees t ++ [b]).Nodup ∧
    ∃ h', freeState .everything ⟨h, .boxed b t⟩ = some ⟨h', .null⟩ ∧ h'.live.Nodup ∧
      ∀ i, i ∈ h'.live ↔ i ∈ h.live ∧ i ∉ owned (.boxed b t) := by
  obtain ⟨rest, F⟩ := owned_iff.mp I
  obtain ⟨nd, h', e, pm⟩ := freeAll_frees F
  obtain ⟨_, ndr, dj⟩ := nodup_append.mp (F.perm.nodup F.nodup)
  refine ⟨nd, h', freeState_eq rfl e, pm.nodup_iff.mpr ndr, fun i => ?_⟩
  rw [pm.mem_iff, F.perm.mem_iff, mem_append]
  exact ⟨fun hr => ⟨.inr hr, fun ho => dj i ho i hr rfl⟩, fun ⟨hl, hn⟩ => hl.resolve_left hn⟩

/-- **free_everything_empties.**  Closed world: afterwards no block is live. -/
theorem free_everything_empties {h : Heap} {b : Id} {t : Tree} (E : Exact ⟨h, .boxed b t⟩) :
    (frees t ++ [b]).Nodup ∧ ∃ h', freeState .everything ⟨h, .boxed b t⟩ = some ⟨h', .null⟩ ∧ h'.live = [] := by
  obtain ⟨nd, h', e, pm⟩ := freeAll_frees (exact_iff.mp E)
  exact ⟨nd, h', freeState_eq rfl e, pm.eq_nil⟩

/-- a NULL structure pointer: `free_struct` returns immediately -/
theorem free_null (m : Method) (h : Heap) : freeState m ⟨h, .null⟩ = some ⟨h, .null⟩ := by
  cases m <;> rfl

/-- contents released by ASFM_FREE_UNDERLYING / ASFM_FREE_UNDERLYING_AND_RESET: exactly the outer block stays -/
theorem free_contents_keeps_outer {h : Heap} {b : Id} {t : Tree} (E : Exact ⟨h, .boxed b t⟩) :
    (frees t).Nodup ∧ ∃ h', h.freeAll (frees t) = some h' ∧ h'.live = [b] := by
  have F := exact_iff.mp E
  -- seen from the contents of the outer block, that block is the rest
  obtain ⟨nd, h', e, pm⟩ := freeAll_frees (t := t) ⟨F.nodup, F.wf, F.perm.trans (.of_eq (append_assoc ..))⟩
  exact ⟨nd, h', e, pm.eq_singleton⟩

/-- **free_underlying_keeps_outer.**  `ASN_STRUCT_FREE_CONTENTS_ONLY`: exactly the outer block stays live. -/
theorem free_underlying_keeps_outer {h : Heap} {b : Id} {t : Tree} (E : Exact ⟨h, .boxed b t⟩) :
    ∃ h', freeState .underlying ⟨h, .boxed b t⟩ = some ⟨h', .boxed b (afterUnderlying t)⟩ ∧ h'.live = [b] := by
  obtain ⟨_, h', e, l⟩ := free_contents_keeps_outer E
  exact ⟨h', freeState_eq rfl e, l⟩

/-- … but it leaves dangling pointers behind (the header says "AVOID using it in the application code"):
  a second FREE_CONTENTS_ONLY of an INTEGER_t releases `buf` again. -/
theorem free_underlying_twice_double_free_cex :
    ∃ st1, freeState .underlying ⟨⟨[1, 2], fun _ => 8⟩, .boxed 1 (.prim (some 2))⟩ = some st1 ∧
      st1.heap.live = [1] ∧ freeState .underlying st1 = none :=
  ⟨⟨⟨[1], fun _ => 8⟩, .boxed 1 (.prim (some 2))⟩, rfl, rfl, rfl⟩

/-- **reset_zero.**  `ASN_STRUCT_RESET` releases the contents, leaves an all-zero structure in the same
  outer block, and the state is again a closed-world invariant state whose only live block is the outer one. -/
theorem reset_zero {h : Heap} {b : Id} {t : Tree} (E : Exact ⟨h, .boxed b t⟩) :
    ∃ h', freeState .reset ⟨h, .boxed b t⟩ = some ⟨h', .boxed b (zero t)⟩ ∧
      isZero (zero t) = true ∧ owned (zero t) = [] ∧ h'.live = [b] ∧ Exact ⟨h', .boxed b (zero t)⟩ := by
  obtain ⟨_, h', e, l⟩ := free_contents_keeps_outer E
  refine ⟨h', freeState_eq rfl e, isZero_zero t, owned_zero t, l,
    exact_iff.mpr ⟨l ▸ pairwise_singleton _ b, wf_zero t, ?_⟩⟩
  rw [l, owned, owned_zero]
  exact .refl _

/-- a structure on the stack / in static storage (no outer block): RESET releases everything it references -/
theorem reset_static_empties {h : Heap} {t : Tree} (E : Exact ⟨h, t⟩) :
    (frees t).Nodup ∧ ∃ h', h.freeAll (frees t) = some h' ∧ h'.live = [] ∧ isZero (zero t) = true := by
  obtain ⟨nd, h', e, pm⟩ := freeAll_frees (exact_iff.mp E)
  exact ⟨nd, h', e, pm.eq_nil, isZero_zero t⟩

/-- **reset_then_free_ok.**  RESET followed by FREE: both succeed on the ledger, nothing is released twice
  across the two calls, nothing stays live. -/
theorem reset_then_free_ok {h : Heap} {b : Id} {t : Tree} (E : Exact ⟨h, .boxed b t⟩) :
    ∃ h1 h2, freeState .reset ⟨h, .boxed b t⟩ = some ⟨h1, .boxed b (zero t)⟩ ∧
      freeState .everything ⟨h1, .boxed b (zero t)⟩ = some ⟨h2, .null⟩ ∧ h2.live = [] ∧
      (frees t ++ (frees (zero t) ++ [b])).Nodup := by
  obtain ⟨h1, e1, _, _, _, E1⟩ := reset_zero E
  obtain ⟨_, h2, e2, l2⟩ := free_everything_empties E1
  refine ⟨h1, h2, e1, e2, l2, ?_⟩
  rw [frees_zero]
  exact (free_everything_empties E).1

/-- RESET twice is harmless (the second call finds nothing to release) -/
theorem reset_twice_ok {h : Heap} {b : Id} {t : Tree} (E : Exact ⟨h, .boxed b t⟩) :
    ∃ h1, freeState .reset ⟨h, .boxed b t⟩ = some ⟨h1, .boxed b (zero t)⟩ ∧
      freeState .reset ⟨h1, .boxed b (zero t)⟩ = some ⟨h1, .boxed b (zero t)⟩ := by
  obtain ⟨h1, e1, _, _, _, _⟩ := reset_zero E
  have e2 : freeState .reset ⟨h1, .boxed b (zero t)⟩ = _ :=
    freeState_eq rfl (show h1.freeAll (frees (zero t)) = some h1 by rw [frees_zero]; rfl)
  rw [zero_idem] at e2
  exact ⟨h1, e1, e2⟩

/-- **reset state = fresh state.**  An all-zero structure (what `calloc` gives a decoder) is a fixed
  point of the memset, so the contents after RESET *are* the fresh contents of the same layout; any function
  of the structure – in particular a later decode – cannot tell them apart. -/
theorem reset_eq_fresh {t f : Tree} (hf : isZero f = true) (layout : zero t = zero f) : zero t = f := by
  rw [layout, zero_of_isZero f hf]

theorem decode_after_reset_eq_fresh {α} (decode : Tree → α) {t f : Tree} (hf : isZero f = true)
    (layout : zero t = zero f) : decode (zero t) = decode f := by
  rw [reset_eq_fresh hf layout]

/-- **alloc_failure_clean.**  Start from a clean state (e.g. `sptr = NULL` and an empty ledger, or a RESET
  structure), run any disciplined operation, cut it after any number `k` of its steps (allocation failure at
  the next allocation, starvation, error); then `ASN_STRUCT_FREE` succeeds on the ledger and nothing stays live. -/
theorem alloc_failure_clean (prog : List (List Nat × Edit)) (k : Nat) {st st' : State} (E : Exact st)
    (hp : isPtr st.root = true) (ok : okProg prog st) (hr : run (prog.take k) st = some st') :
    ∃ h', freeState .everything st' = some ⟨h', .null⟩ ∧ h'.live = [] := by
  have E' := cut_inv prog k E ok hr
  have hp' := run_invariant (Q := fun _ st => isPtr st.root = true) (fun _ _ _ _ _ => step_isPtr) _ hp hr
  obtain ⟨h, r⟩ := st'
  cases r with
  | null => exact ⟨h, rfl, (exact_iff.mp E').perm.eq_nil⟩
  | boxed b t => exact (free_everything_empties E').2
  | _ => cases hp'

/-- the initial state of a decode into `sptr = NULL` with an empty ledger is such a clean state -/
theorem initial_exact : Exact ⟨Heap.empty, .null⟩ :=
  exact_iff.mpr ⟨nodup_nil, rfl, .refl _⟩

/-- **choice_present_before_member.**  Once a valid `present` is recorded, whatever the member decoder
  has built so far (`m` arbitrary – every cut point), CHOICE_free releases exactly what the CHOICE references. -/
theorem choice_present_before_member {n k : Nat} {m : Tree} (h0 : 0 < k) (hn : k ≤ n) (wm : wf m = true) :
    wf (.choice n k m) = true ∧ (frees (.choice n k m)).Perm (owned (.choice n k m)) := by
  have w : wf (.choice n k m) = true := by simp [wf, wm, h0, hn]
  exact ⟨w, frees_perm_owned _ w⟩

/-- after `setPresent k` (valid k) the decoder may descend into the member: paths through the CHOICE are live,
  so `owned_inv` / `alloc_failure_clean` cover every step of the member decoder -/
theorem choice_member_path_live {n pr k i : Nat} {m : Tree} (h0 : 0 < k) (hn : k ≤ n) (q : List Nat)
    (hq : livePath q m = true) :
    ∃ o, applyEdit (.setPresent k) (.choice n pr m) = some o ∧ livePath (i :: q) o.node = true := by
  refine ⟨⟨[], [], .choice n k m⟩, rfl, ?_⟩
  show (decide (0 < k) && decide (k ≤ n) && livePath q m) = true
  rw [decide_eq_true h0, decide_eq_true hn, hq]
  rfl

/-- the wrong order is *not* covered: with `present = 0` no path into the member is live … -/
theorem choice_member_path_dead (n i : Nat) (m : Tree) (q : List Nat) :
    livePath (i :: q) (.choice n 0 m) = false :=
  rfl

/-- the member decoder allocates the member (block `x`) of a CHOICE in block `b`, whatever `present` is -/
theorem box_member_step (n pr b x sz : Nat) (f : Id → Nat) (hne : x ≠ b) :
    step [0, 0] (.box x sz .native) ⟨⟨[b], f⟩, .boxed b (.choice n pr .null)⟩ =
      some ⟨⟨[x, b], fun j => if j = x then sz else f j⟩, .boxed b (.choice n pr (.boxed x .native))⟩ :=
  -- all of the step is evaluation but the allocation, which succeeds because `x` is not live
  have ha : Heap.alloc ⟨[b], f⟩ x sz = some ⟨[x, b], fun j => if j = x then sz else f j⟩ :=
    if_neg (mt mem_singleton.mp hne)
  step_eq_some_iff.mpr ⟨.null, ⟨[(x, sz)], [], .boxed x .native⟩, _, rfl, rfl,
    congrArg (Option.bind · (Heap.allocAll · [])) ha, rfl, rfl⟩

/-- … and it does leak (**counter-example for the wrong order**): CHOICE holding a pointer member, member
  allocated (block `x`) while `present` is still 0, operation cut right there (e.g. the next allocation
  fails): every step executes, `ASN_STRUCT_FREE` succeeds, and block `x` stays live forever. -/
theorem choice_present_after_member_leaks (n b x sz : Nat) (hne : x ≠ b) :
    ∃ st' h', run [([0, 0], .box x sz .native)] ⟨⟨[b], fun _ => 0⟩, .boxed b (.choice n 0 .null)⟩ = some st' ∧
      freeState .everything st' = some ⟨h', .null⟩ ∧ h'.live = [x] := by
  refine ⟨_, ⟨[x], fun j => if j = x then sz else 0⟩,
    (congrArg (·.bind (run [])) (box_member_step n 0 b x sz _ hne) :), ?_, rfl⟩
  simp [freeState, freeStruct, frees, Heap.freeAll, Heap.free, hne]

/-- the right order on the same example: `present` first, then the member; cut anywhere, free: nothing live -/
theorem choice_present_first_clean (n b x sz : Nat) (hn : 0 < n) (hne : x ≠ b) (k : Nat) :
    ∃ st' h', run ([([0], .setPresent 1), ([0, 0], .box x sz .native)].take k)
        ⟨⟨[b], fun _ => 0⟩, .boxed b (.choice n 0 .null)⟩ = some st' ∧
      freeState .everything st' = some ⟨h', .null⟩ ∧ h'.live = [] := by
  -- an instance of `alloc_failure_clean`: every prefix is executable, the start is clean, the operation disciplined
  refine (?ex : ∃ st', run _ _ = some st').elim fun st' hr =>
    (alloc_failure_clean _ k ?E rfl ?ok hr).elim fun h' ⟨e, l⟩ => ⟨st', h', hr, e, l⟩
  case ex =>
    match k with
    | 0 => exact ⟨_, rfl⟩
    | 1 => exact ⟨_, rfl⟩
    | k + 2 =>
      rw [take_succ_cons, take_succ_cons, take_nil]
      exact ⟨_, (congrArg (·.bind (run [])) (box_member_step n 1 b x sz _ hne) :)⟩
  case E => exact exact_iff.mpr ⟨pairwise_singleton _ b, rfl, .refl _⟩
  case ok =>
    refine ⟨rfl, ?_, ?_⟩
    · rintro s ⟨⟩
      exact Bool.or_true _
    · rintro st1 ⟨⟩
      refine ⟨?_, fun _ _ => rfl, fun _ _ => trivial⟩
      show (decide (0 < 1) && decide (1 ≤ n) && true) = true
      rw [decide_eq_true (show 1 ≤ n from hn)]
      rfl

/-! The ledger itself (what the K leg evaluates on the allocator events observed from C) -/

/-- conservation: after a trace that respects the heap discipline, live + released = allocated + live-before -/
theorem ledger_conservation (evs : List Ev) {h h' : Heap} (r : h.run evs = some h') :
    (h'.live ++ evs.flatMap Ev.freed).Perm (evs.flatMap Ev.allocd ++ h.live) :=
  run_conservation evs r

/-- the ledger rejects a second release of the same block -/
theorem ledger_detects_double_free {h h1 : Heap} {i : Id} (nd : h.live.Nodup) (e : h.free i = some h1) :
    h1.free i = none :=
  if_neg (free_nodup e nd).1

/-- a balanced trace (everything allocated is released, nothing else) starting from an empty ledger ends empty:
  what "encode scratch is released" means for the events of an encoder call -/
theorem balanced_trace_ends_empty (evs : List Ev) {h' : Heap} (r : Heap.empty.run evs = some h')
    (bal : (evs.flatMap Ev.freed).Perm (evs.flatMap Ev.allocd)) : h'.live = [] := by
  have c : (h'.live ++ evs.flatMap Ev.freed).Perm ([] ++ evs.flatMap Ev.freed) :=
    ((ledger_conservation evs r).trans (.of_eq (append_nil _))).trans bal.symm
  exact ((perm_append_right_iff _).mp c).eq_nil

/-- **F21 counter-example** (allocator events observed from C on the witness of finding F21: BER decode of
  `SEQUENCE { a INTEGER, c SET OF INTEGER, s UTF8String }`, CANONICAL-XER encode with its 4th allocation failing, then
  ASN_STRUCT_FREE): the trace respects the heap discipline but is not balanced – blocks 7 and 8 (the `encs` array of
  SET_OF_encode_xer and the first element buffer) stay live. -/
theorem f21_witness_trace_leaks :
    (Heap.empty.run [.alloc 1 120, .alloc 2 8, .alloc 3 32, .alloc 4 8, .alloc 5 16,      -- decode
                     .alloc 6 16, .alloc 7 48, .alloc 8 1, .free 6,                       -- encode, 4th allocation fails
                     .free 2, .free 4, .free 3, .free 5, .free 1]).map (·.live) = some [8, 7] := by
  decide

/-- non-vacuity: a SEQUENCE { INTEGER_t, SET OF (one element under construction), CHOICE present=2 → OCTET STRING with
  BER stack } in a closed-world invariant state -/
example : Exact ⟨⟨[1, 2, 3, 4, 5, 6, 7, 8, 9], fun _ => 16⟩,
    .boxed 1 (.seq (some 2) [.prim (some 3), .setof (some 4) (.boxed 5 .native) [.boxed 6 (.prim none)],
                             .choice 2 2 (.boxed 7 (.ostr none (some 8) [9]))])⟩ := by
  unfold Exact Owned
  decide

/-- non-vacuity of `okProg`: decoding `SEQUENCE { s OCTET STRING (pointer member), i INTEGER_t }` into `sptr = NULL` -/
example : okProg [([], .box 1 56 (.seq none [.null, .prim none])),
                  ([0, 0], .box 2 40 (.ostr none none [])),
                  ([0, 0, 0], .setBuf 3 16),
                  ([0, 1], .setBuf 4 8)] ⟨Heap.empty, .null⟩ := by
  -- `rintro st ⟨⟩` puts the evaluated result of the step in place of the state after it
  refine ⟨rfl, fun _ _ => rfl, ?_⟩
  rintro st1 ⟨⟩
  refine ⟨rfl, fun _ _ => rfl, ?_⟩
  rintro st2 ⟨⟩
  refine ⟨rfl, fun _ _ => rfl, ?_⟩
  rintro st3 ⟨⟩
  exact ⟨rfl, fun _ _ => rfl, fun _ _ => trivial⟩

end Asn1c.Props.C14
