import Asn1cModel.Impl.Print
import Asn1cModel.Impl.Lookup
import Asn1cModel.Proofs.Print
/-
  C12 — "Compiler output is deterministic and invariant under pretty-print round trip".

  The logic part (DESIGN §9 C12): the printer and the parser are inverse on the printed subset, and name
  resolution does not depend on the order of the module list.  Dependence on ASLR, uninitialised memory
  and hash iteration order is runtime behaviour, observed by vlib/props/c12.py (level: partial proof).
-/
namespace Asn1c.Props.C12
open Asn1c.Print Asn1c.Lookup

/-- **parse_print**: the text printed for a module of the subset is accepted and yields the same tree. -/
theorem parse_print (m : Module) : parse (print m) = some m := Asn1c.Proofs.Print.parse_print m

/-- **print_fixpoint**: printing, parsing and printing again gives the same text (one application) -/
theorem print_fixpoint (m : Module) : (parse (print m)).map print = some (print m) := by
  rw [parse_print]; rfl

/-- … and so does every further application of the print/parse cycle -/
theorem print_fixpoint_twice (m : Module) :
    ((parse (print m)).bind (fun m' => parse (print m'))).map print = some (print m) := by
  simp [parse_print]

/-- **print_injective**: different trees never print to the same text. -/
theorem print_injective (a b : Module) (h : print a = print b) : a = b := by
  have ha := parse_print a
  rw [h, parse_print b] at ha
  exact (Option.some.inj ha).symm

/-- same statement for a single type (any following context that cannot continue a type) -/
theorem parseTy_print (t : Ty) (rest : List Tok) (h : Asn1c.Proofs.Print.okFollow rest) :
    parseTy ((pTy t).length + 1) (pTy t ++ rest) = some (t, rest) :=
  Asn1c.Proofs.Print.parseTy_print t _ rest (Nat.lt_succ_self _) h

/-- non-vacuity: a module using every construct of the subset -/
def sample : Module :=
  { name := "M", tagDefault := some .automatic,
    types := [
      ⟨"T0", none, .integer [("a", 1), ("b", -2)] (some (.value ⟨.range (.int 0) .max, [.single (.int (-5))], true⟩))⟩,
      ⟨"T1", some ⟨.app, 7, .implicit⟩,
        .constr .sequence (.comp "x" (some ⟨.ctx, 0, .explicit⟩) (.prim .boolean none) (.dflt .tru)
          (.ext (.comp "y" none (.listOf true (some ⟨.single (.int 1), [], false⟩) none (.ref "T0")) .optional .nil)))⟩,
      ⟨"T2", none, .enumerated [.item "r" none, .dots, .item "g" (some 5)]⟩,
      ⟨"T3", none, .prim .ia5 (some (.sizeAlpha ⟨.range (.int 1) (.int 4), [], false⟩ ⟨.range (.str "a") (.str "z"), [.single (.str " ")], false⟩))⟩,
      ⟨"T4", none, .constr .choice (.comp "c" none (.prim .null none) .none .nil)⟩] }

example : parse (print sample) = some sample := parse_print sample

/-- `render` read as octets computed from lists of characters, on which `++` evaluates in linear time -/
theorem render_eq_iff (toks : List Tok) (s : String) :
    render toks = s ↔
      (" ".toList.intercalate ((toks.map Tok.text).map String.toList)).flatMap String.utf8EncodeChar
        = s.toByteArray.data.toList := by
  have h : (render toks).toByteArray.data.toList =
      (" ".toList.intercalate ((toks.map Tok.text).map String.toList)).flatMap String.utf8EncodeChar := by
    rw [render, ← String.ofList_toList (s := String.intercalate _ _), String.toList_intercalate,
      String.toByteArray_ofList, List.utf8Encode, List.toList_data_toByteArray]
  rw [← String.toByteArray_inj, ByteArray.ext_iff, ← Array.toList_inj, h]

example : render (print sample) =
    "M DEFINITIONS AUTOMATIC TAGS ::= BEGIN T0 ::= INTEGER { a ( 1 ) , b ( -2 ) } ( 0 .. MAX | -5 , ... ) T1 ::= [ APPLICATION 7 ] IMPLICIT SEQUENCE { x [ 0 ] EXPLICIT BOOLEAN DEFAULT TRUE , ... , y SET ( SIZE ( 1 ) ) OF T0 OPTIONAL } T2 ::= ENUMERATED { r , ... , g ( 5 ) } T3 ::= IA5String ( SIZE ( 1 .. 4 ) ^ FROM ( \"a\" .. \"z\" | \" \" ) ) T4 ::= CHOICE { c NULL } END" := by
  rw [render_eq_iff]
  decide +kernel

theorem find_perm_unique {α} (p : α → Bool) (l₁ l₂ : List α) (hp : l₁.Perm l₂)
    (hu : l₁.Pairwise (fun a b => ¬ (p a = true ∧ p b = true))) : l₁.find? p = l₂.find? p := by
  induction hp with
  | nil => rfl
  | cons x _ ih =>
    simp only [List.find?_cons]
    cases p x with
    | true => rfl
    | false => exact ih (List.Pairwise.of_cons hu)
  | swap x y l =>
    simp only [List.find?_cons]
    have hxy : ¬ (p y = true ∧ p x = true) := List.rel_of_pairwise_cons hu (a' := x) (by simp)
    cases hx : p x <;> cases hy : p y <;> first | rfl | exact absurd ⟨hy, hx⟩ hxy
  | trans h₁ _ ih₁ ih₂ =>
    rw [ih₁ hu]
    exact ih₂ (h₁.pairwise hu (fun hab hba => hab ⟨hba.2, hba.1⟩))

theorem lookupModule_perm (ms₁ ms₂ : List LModule) (hp : ms₁.Perm ms₂)
    (hd : (ms₁.map (·.name)).Nodup) (n : String) : lookupModule ms₁ n = lookupModule ms₂ n := by
  unfold lookupModule
  apply find_perm_unique _ _ _ hp
  have hne : ms₁.Pairwise (fun a b => a.name ≠ b.name) := List.pairwise_map.mp hd
  exact hne.imp (fun hab ⟨ha, hb⟩ => hab (by rw [beq_iff_eq.mp ha, beq_iff_eq.mp hb]))

/-- **lookup_perm_invariant**: for a permutation of a module list with pairwise distinct module names
    (the order in which the module files are named on the command line), every reference of every
    module resolves to the same definition. -/
theorem lookup_perm_invariant (ms₁ ms₂ : List LModule) (hp : ms₁.Perm ms₂)
    (hd : (ms₁.map (·.name)).Nodup) (cur : LModule) (r : Ref) :
    lookupSymbol ms₁ cur r = lookupSymbol ms₂ cur r := by
  have h : lookupModule ms₁ = lookupModule ms₂ := funext (lookupModule_perm ms₁ ms₂ hp hd)
  unfold lookupSymbol
  rw [h]

/-- hence the resolution table of a whole module is order independent -/
theorem per_module_resolution_perm_invariant (ms₁ ms₂ : List LModule) (hp : ms₁.Perm ms₂)
    (hd : (ms₁.map (·.name)).Nodup) (refs : LModule → List Ref) (cur : LModule) :
    resolveAll ms₁ refs cur = resolveAll ms₂ refs cur := by
  unfold resolveAll
  apply List.map_congr_left
  intro r _
  exact lookup_perm_invariant ms₁ ms₂ hp hd cur r

/-- the hypothesis matters: with two modules of the same name the first one in list order wins -/
theorem lookup_order_dependent_when_names_clash :
    let a : LModule := ⟨"M", ["T"], []⟩
    let b : LModule := ⟨"M", ["U"], []⟩
    lookupSymbol [a, b] a ⟨some "M", "U"⟩ ≠ lookupSymbol [b, a] a ⟨some "M", "U"⟩ := by decide

end Asn1c.Props.C12
