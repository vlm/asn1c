import Asn1cModel.Proofs.L2UperVariants
import Asn1cModel.Props.C03Oer
/-
  C03 (UPER part) — "decoders accept every valid encoding of a value, not only the library's own".

  In UNALIGNED PER the sender has no freedom of form (see the header of L2/UperVariants.lean for the clauses);
  the valid encodings of a value that the library's own encoder never emits come from *version skew* of extensible
  SEQUENCEs (X.691 §19.7–§19.9): the presence bitmap of an older version is shorter, that of a newer version is
  longer and may announce open types unknown to the receiver, which must be skipped.  `L2.UperVar.encUV t v s`
  produces these encodings (variation and position selected by `s`).

  * `uper_accepts_variant`: the reference decoder `decUPER` (the decoder of the C02 UPER oracle, tied to the C
    decoder by the K leg of `vlib/c03_oer.py` on the same variants) accepts every `encUV` output, for every
    selector state, and returns exactly the value and the bits that follow.
  * `uper_accepts_variant_bytes`: the same for the complete encoding (§11.1: padded to octets).
  Values: `ucanonP` = `canonV` (the domain of `C02Uper.uper_roundtrip`) without the requirement that SET OF lists
  are sorted — `encUV` emits SET OF elements in list order, as BASIC-PER allows (`ucanonP_of_canonV`).
-/
namespace Asn1c.Props.C03Uper
open Asn1c Asn1c.L2 Asn1c.Spec.Per Asn1c.L2.UperVar
open Asn1c.L2.OerVar (VSt Kind)
open Asn1c.Proofs.L2Uper Asn1c.Proofs.L2UperVariants

/-- **the UPER decoder accepts every version-skew variant**: the value is returned and exactly the encoding is
    consumed — whatever variation (`older` / `newer`), position, number of bits kept, list of unknown additions
    (absent, or present with arbitrary octets) was chosen, whatever follows the encoding. -/
theorem uper_accepts_variant (t : PTy) (hw : wfP t = true) (v : Val) (hc : ucanonP t v = true) (s s' : VSt)
    (bits rest : Bits) (h : encUV t v s = some (bits, s')) : decUPER t (bits ++ rest) = some (v, rest) :=
  rtu_all t hw v s s' bits rest hc h

/-- … and so is the complete encoding (zero-padded to octets): decoded from its octets, with the padding left over -/
theorem uper_accepts_variant_bytes (t : PTy) (hw : wfP t = true) (v : Val) (hc : ucanonP t v = true) (s s' : VSt)
    (bits : Bits) (h : encUV t v s = some (bits, s')) :
    ∃ pad, bytesToBits (complete bits) = bits ++ pad ∧ decUPER t (bytesToBits (complete bits)) = some (v, pad) := by
  obtain ⟨pad, hp, _⟩ := complete_spec bits
  exact ⟨pad, hp, by rw [hp]; exact uper_accepts_variant t hw v hc s s' bits pad h⟩

/-- the hypotheses are satisfiable and the variants differ from the encoder's own form: an extensible SEQUENCE with
    three additions, only the first present.  Own form: `1 1 0000010 100` + open type `00000001 00000000`; an older
    sender that knows one addition: bitmap length 0000000, bitmap `1`; a newer one with two more additions, the last
    present with contents AA BB 01: bitmap length 0000100, bitmap `10001`, and one more open type `03 AA BB 01`. -/
example :
    let t : PTy := .seq [.boolean] [⟨false, none, false⟩] true [.boolean, .octstr ⟨0, none, false⟩, .null]
      [⟨false, none, true⟩, ⟨true, none, true⟩, ⟨true, none, true⟩]
    let v : Val := .seq [.bool true, .bool false, .absent, .absent]
    wfP t = true ∧ ucanonP t v = true ∧
      (encUV t v {}).map (fun p => complete p.1) = some [0xc1, 0x40, 0x10, 0x00] ∧
      (encUV t v { kind := .older }).map (fun p => complete p.1) = some [0xc0, 0x40, 0x40, 0x00] ∧
      (encUV t v { kind := .newer, extra := [none, some [0xaa, 0xbb, 0x01]] }).map (fun p => complete p.1)
        = some [0xc2, 0x44, 0x04, 0x00, 0x0e, 0xaa, 0xec, 0x04] := by
  decide +kernel

/-- every canonical value (`canonV`, the domain of `C02Uper.uper_roundtrip`) is in the domain of `uper_accepts_variant` -/
theorem ucanonP_of_canonV : ∀ (t : PTy) (v : Val), canonV t v = true → ucanonP t v = true :=
  Asn1c.Proofs.L2UperVariants.ucanonP_of_canonV

/-- … so the decoder accepts every version-skew variant of every canonical value -/
theorem uper_accepts_variant_of_canonical (t : PTy) (hw : wfP t = true) (v : Val) (hc : canonV t v = true) (s s' : VSt)
    (bits rest : Bits) (h : encUV t v s = some (bits, s')) : decUPER t (bits ++ rest) = some (v, rest) :=
  uper_accepts_variant t hw v (ucanonP_of_canonV t v hc) s s' bits rest h

/-- the former F171 witness: `T ::= SEQUENCE { a INTEGER (0..255), ..., b BOOLEAN OPTIONAL }` receives
    `83 81 40 80 40 80` from a newer version of the type: extension bit, a = 7, a bitmap of 2 additions `01` (b absent,
    one unknown addition present), the unknown addition as an open type of TWO octets `02 01 02` — a length that is
    neither a multiple of 3 octets nor the single octet 00, which `uper_open_type_skip` could not skip before the
    repair.  It is a valid encoding of { a 7 } and the decoder returns that value (C: `ok 6 (seq (a (int 7)))`). -/
theorem ref_F171_witness :
    let t : PTy := .seq [.integer ⟨some 0, some 255, false⟩] [⟨false, none, false⟩] true [.boolean] [⟨true, none, true⟩]
    let v : Val := .seq [.int 7, .absent]
    (encUV t v { kind := .newer, extra := [some [0x01, 0x02]] }).map (fun p => complete p.1)
      = some [0x83, 0x81, 0x40, 0x80, 0x40, 0x80] ∧
    ∃ pad, decUPER t (bytesToBits [0x83, 0x81, 0x40, 0x80, 0x40, 0x80]) = some (v, pad) := by
  intro t v
  have h1 : (encUV t v { kind := .newer, extra := [some [0x01, 0x02]] }).map (fun p => complete p.1)
      = some [0x83, 0x81, 0x40, 0x80, 0x40, 0x80] := by decide +kernel
  obtain ⟨⟨bits, s'⟩, h, hb⟩ := Option.map_eq_some_iff.mp h1
  obtain ⟨pad, _, hd⟩ := uper_accepts_variant_bytes t (by decide +kernel) v (by decide +kernel) _ s' bits h
  exact ⟨h1, pad, hb ▸ hd⟩

end Asn1c.Props.C03Uper
