import Asn1cModel.Props.C01
import Asn1cModel.Props.L1Per
import Asn1cModel.Proofs.BerTlv
import Asn1cModel.Proofs.BerTlvSpec
import Asn1cModel.Props.C02Oer
import Asn1cModel.Props.C02Uper
/-
  C02 — encoders emit the byte-exact standard wire format.  The theorems audited for this property (the list is
  lean/props/C02.json) live in Proofs/BerTlv.lean and Proofs/BerTlvSpec.lean (identifier / length octets = X.690
  §8.1.2/§8.1.3/§10.1), Props/L1Per.lean (PER building blocks = X.691 §10.5–§10.9, OER length = X.696 §8.6, OER INTEGER
  = X.696 §10), Proofs/L2Der.lean and Proofs/L2Tlv.lean (`toTlv` is DER: `toTlv_isDer`, `isDer_wf`; REAL contents),
  Props/C01.lean (INTEGER contents minimal), Props/C02Oer.lean and Props/C02Uper.lean (the X.696 and X.691 reference
  codecs).  This file only gathers the imports so the check builds exactly this closure; lean/props/C01.json names
  this module too.
-/
