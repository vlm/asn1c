import Asn1cModel.Proofs.PerSupport
import Asn1cModel.Proofs.PerSmall
import Asn1cModel.Proofs.OerSupport
import Mathlib.Algebra.Group.Nat.Defs
import Mathlib.Algebra.Group.Int.Defs
/-
  L1 (UPER / OER primitive layer) property theorems, feeding C01 (round trip), C02 (byte-exact
  standard wire format) and C04 (decoders never read out of bounds).

  Impl  : Impl.BitData (asn_bit_data.c), Impl.PerSupport (per_support.c), Impl.OerSupport (oer_support.c)
  Spec  : Spec.Per (X.691 §10.5–10.9), Spec.Oer (X.696 §8.6)
  Every statement is unbounded (all values / all following bits); `decide` is used only for the four
  witnesses of repaired findings (F29, F64, F36, F5), each a fact about one concrete input.
  Findings F29 (`uper_put_nsnnwn(n ≥ 64)` omitted the marker bit `1` of X.691 §10.6.2; the reader stopped at
  two octets) and F64 (`uper_put_nslength(n > 64)` omitted the bit `1` of X.691 §10.9.3.4) are repaired: the
  statements about the normally small number / length hold on the whole domain of the writers.
-/
namespace Asn1c.Props.L1Per
open Asn1c Asn1c.Impl.BitData Asn1c.Impl.PerSupport Asn1c.Impl.OerSupport
open Asn1c.Proofs.PerSupport Asn1c.Proofs.PerSmall Asn1c.Proofs.OerSupport

/-! ## asn_bit_data.c -/

/-- C01: `asn_get_few_bits` inverts `asn_put_few_bits`, whatever follows on the wire -/
theorem getFewBits_putFewBits (n v : Nat) (rest : Bits) (hn : n ≤ 31) (hv : v < 2 ^ n) :
    (putFewBits n v).bind (fun b => getFewBits n (b ++ rest)) = some (v, rest) := by
  rw [putFewBits_eq n v hn]
  simp only [Option.bind_some]
  rw [getFewBits_natBits n v rest hn, Nat.mod_eq_of_lt hv]

/-- C02: `asn_put_few_bits` writes the non-negative-binary-integer of X.691 §10.3 in `n` bits;
    bits of the value above `n` are masked off (`bits &= (1 << obits) - 1`) -/
theorem putFewBits_spec (n v : Nat) (hn : n ≤ 31) :
    putFewBits n v = some (Spec.Per.nnbi n v) ∧ putFewBits n v = putFewBits n (v % 2 ^ n) := by
  rw [putFewBits_eq n v hn, putFewBits_eq n _ hn, natBits_mod]
  exact ⟨rfl, rfl⟩

/-- `asn_put_few_bits` refuses 32 bits and more -/
theorem putFewBits_fails (n v : Nat) (hn : 32 ≤ n) : putFewBits n v = none := by
  unfold putFewBits; rw [if_pos hn]

/-- C04: a successful `asn_get_few_bits` consumed exactly `n ≤ 31` bits, all of them inside the data:
    the input is `n` bits (the binary digits of the value) followed by the untouched rest -/
theorem getFewBits_in_bounds (n : Nat) (bs r : Bits) (v : Nat) (h : getFewBits n bs = some (v, r)) :
    n ≤ 31 ∧ v < 2 ^ n ∧ bs = Spec.Per.nnbi n v ++ r ∧ r.length + n = bs.length := by
  obtain ⟨h1, h2, h3⟩ := getFewBits_some h
  refine ⟨h1, h2, h3, ?_⟩
  rw [h3]; simp [natBits_length]; omega

/-- C04: -1 exactly when more than 31 bits are requested or fewer than `n` bits are left -/
theorem getFewBits_fails_iff (n : Nat) (bs : Bits) : getFewBits n bs = none ↔ n > 31 ∨ bs.length < n := by
  rw [getFewBits_eq]
  split <;> simp [*]

/-- C02: `asn_put_many_bits(src, n)` writes the first `n` bits of the `src` octets -/
theorem putManyBits_spec (src : Bytes) (n : Nat) (hw : src.wf) (hn : n ≤ 8 * src.length) :
    putManyBits src n = (bytesToBits src).take n := by
  induction n using Nat.strongRecOn generalizing src with
  | _ n ih =>
    obtain ⟨w1, w2, w3, -⟩ := ofBE_window src
    rw [putManyBits]
    by_cases c0 : n = 0
    · rw [if_pos c0, c0]; rfl
    rw [if_neg c0]
    by_cases c24 : n ≥ 24
    · -- three octets are the first 24 bits: `natBits_prefix` at `k = 3`, `n = 24`, where its shift is `/ 2 ^ 0`
      have hwr : Bytes.wf (src.drop 3) := fun x hx => hw x (List.mem_of_mem_drop hx)
      rw [if_pos c24, ih (n - 24) (by omega) _ hwr (by rw [List.length_drop]; omega), bytesToBits_drop, ← w3 (by omega),
        ← Nat.div_one (ofBE 0 _), natBits_prefix src 3 24 hw (by omega) (by omega), ← List.take_add]
      congr 1; omega
    · -- the first `k = ⌈n / 8⌉` octets, shifted right by the unused bits of the last one
      rw [if_neg c24]
      simp only
      rw [ite_pad n (_ / 2 ^ ·) _ (Nat.div_one _)]
      generalize hk : (n + 7) / 8 = k
      rw [← natBits_prefix src k n hw (by omega) (by omega)]
      congr 2
      have : k = 1 ∨ k = 2 ∨ k = 3 := by omega
      rcases this with rfl | rfl | rfl
      · rw [if_neg (by omega), if_neg (by omega), w1 (by omega)]
      · rw [if_neg (by omega), if_pos (by omega), w2 (by omega)]
      · rw [if_pos (by omega), if_pos (by omega), w3 (by omega)]
        omega

/-- C01/C04: `asn_get_many_bits(pd, dst, 0, n)` fails iff fewer than `n` bits are left; otherwise it consumes
    exactly `n` bits and stores `⌈n/8⌉` octets: those bits, left-aligned, zero-padded (no 31-bit limit here:
    the 24-bit rounds and the tail are invisible) -/
theorem getManyBits_spec (n : Nat) (bs : Bits) :
    (bs.length < n → getManyBits false n bs = none) ∧
    (n ≤ bs.length → ∃ out, getManyBits false n bs = some (out, bs.drop n) ∧ out.length = (n + 7) / 8 ∧ Bytes.wf out ∧
      bytesToBits out = bs.take n ++ List.replicate (8 * ((n + 7) / 8) - n) false) := by
  rw [show getManyBits false n bs = getManyLoop n bs by unfold getManyBits; simp]
  exact ⟨getManyLoop_none n bs, getManyLoop_some n bs⟩

/-- C01: octets written by `asn_put_many_bits` are read back by `asn_get_many_bits`, whatever follows -/
theorem getManyBits_putManyBits_octets (src : Bytes) (rest : Bits) (hw : src.wf) :
    getManyBits false (8 * src.length) (putManyBits src (8 * src.length) ++ rest) = some (src, rest) := by
  rw [putManyBits_spec src _ hw (Nat.le_refl _), ← bytesToBits_length src, List.take_length]
  obtain ⟨out, ho, _, hwo, hb⟩ := (getManyBits_spec (bytesToBits src).length (bytesToBits src ++ rest)).2
    (by rw [List.length_append]; omega)
  rw [List.take_left' rfl, bytesToBits_length, show 8 * ((8 * src.length + 7) / 8) - 8 * src.length = 0 by omega,
    List.replicate_zero, List.append_nil] at hb
  rw [ho, List.drop_left' rfl, bytesToBits_inj out src hwo hw hb]

/-! ## asn_bit_data.c at byte level: the C04 statement for `asn_get_few_bits`

`Src` = (octets from `pd->buffer` to the end of the buffer, `nboff`, `nbits`); every `buf[i]` of the C code is a
partial lookup in the model (`getFewRaw`), with the distinguished outcome `oob`.
`SrcInv s` : `nboff ≤ nbits ≤ 8 * buf.length` (what `uper_decode` / `asn_bit_data_new_contiguous` establish). -/

/-- C04: on a position satisfying the invariant, `asn_get_few_bits` never indexes outside the buffer
    (also not in the 4-octet window of the `off ≤ 31` case, nor in the 24-bit split), leaves a position
    satisfying the invariant again, and consumes exactly `n` of the remaining bits -/
theorem asn_get_few_bits_no_oob (s : Src) (n : Nat) (h : SrcInv s) :
    getFewRaw s n ≠ .oob ∧
    ∀ v s', getFewRaw s n = .ok v s' →
      SrcInv s' ∧ v < 2 ^ n ∧ n ≤ 31 ∧ (s'.nbits : Int) - s'.nboff + n = (s.nbits : Int) - s.nboff := by
  by_cases c : n > 31 ∨ (s.nbits : Int) - s.nboff < n
  · rw [getFewRaw_fail s n c]
    exact ⟨nofun, nofun⟩
  · obtain ⟨x, e, hx, _⟩ := getFewRaw_ok s n h c
    rw [e]
    refine ⟨nofun, fun v s' hh => ?_⟩
    obtain ⟨rfl, rfl⟩ := RawRes.ok.inj hh
    obtain ⟨ai, al⟩ := adv_inv s n h (by omega)
    exact ⟨ai, hx, by omega, al⟩

/-- the byte-level reader (pointer / nboff / nbits arithmetic, shifts and masks) computes exactly the
    bit-list reader `getFewBits` that all other theorems are about -/
theorem asn_get_few_bits_refines (s : Src) (n : Nat) (h : SrcInv s) (hw : s.buf.wf) :
    match getFewBits n (srcBits s) with
    | none => getFewRaw s n = .fail
    | some (v, r) => ∃ s', getFewRaw s n = .ok v s' ∧ srcBits s' = r ∧ SrcInv s' ∧ s'.buf.wf := by
  have hlen := srcBits_length s h
  have hinv := h
  unfold SrcInv at hinv
  by_cases c : n > 31 ∨ (s.nbits : Int) - s.nboff < n
  · rw [getFewBits_eq, if_pos (by omega)]
    exact getFewRaw_fail s n c
  · obtain ⟨x, e, _, hx⟩ := getFewRaw_ok s n h c
    rw [getFewBits_eq, if_neg (by omega), ← hx hw]
    exact ⟨adv s n, e, srcBits_adv s n h, (adv_inv s n h (by omega)).1, normalize_wf s hw⟩

/-! ## per_support.c: length determinants -/

/-- C02: what one call of `uper_put_length(n)` writes and returns (X.691 §10.9.3.5–10.9.3.8) -/
theorem putLength_spec (n : Nat) :
    (n < 16384 → putLength n = (Spec.Per.lengthDetSmall n, n, false)) ∧
    (16384 ≤ n → putLength n =
      (Spec.Per.fragHeader (min (n / 16384) 4), min (n / 16384) 4 * 16384, decide (n = min (n / 16384) 4 * 16384))) :=
  ⟨putLength_small n, putLength_frag n⟩

/-- C01: `uper_get_length` reads back what one `uper_put_length` wrote: the length itself below 16K
    (incl. 127/128 and 16383), otherwise the size of the fragment with `repeat` set -/
theorem getLength_putLength (n : Nat) (rest : Bits) :
    getLength (-1) 0 ((putLength n).1 ++ rest) =
      if n < 16384 then some (n, false, rest) else some (min (n / 16384) 4 * 16384, true, rest) := by
  by_cases h : n < 16384
  · rw [if_pos h, putLength_small n h, getLength_lengthDetSmall n rest h]
  · rw [if_neg h, putLength_frag n (by omega), getLength_fragHeader _ rest (by omega) (by omega), Nat.mul_comm]

/-- C01: a constrained length (`0 ≤ ebits ≤ 16`, written by the callers with `per_put_few_bits(n - lb, ebits)`)
    is read back by `uper_get_length` -/
theorem getLength_constrained (ebits lb n : Nat) (rest : Bits) (he : ebits ≤ 16) (h1 : lb ≤ n) (h2 : n - lb < 2 ^ ebits) :
    (putFewBits ebits (n - lb)).bind (fun b => getLength ebits lb (b ++ rest)) = some (n, false, rest) := by
  rw [putFewBits_eq _ _ (by omega)]
  simp only [Option.bind_some, getLength]
  rw [if_pos (by omega)]
  simp only [Int.toNat_natCast]
  rw [getFewBits_natBits _ _ _ (by omega), Nat.mod_eq_of_lt h2]
  simp only
  congr 2; omega

/-- C02: the length loop of `OCTET_STRING_encode_uper` / `SET_OF_encode_uper` / `SEQUENCE_OF_encode_uper` /
    `INTEGER_encode_uper` / `uper_open_type_put` emits exactly the length-prefixed, fragmented form of
    X.691 §10.9.3.5–10.9.3.8, for every number of items -/
theorem putLength_eq_spec (items : List Bits) :
    putLoop items = Spec.Per.lengthPrefixed (items.length + 1) items :=
  (lengthPrefixed_eq_putLoop (items.length + 1) items (by omega)).symm

/-- C01: decoding with the get loop (`do { n = uper_get_length(); read n items } while(repeat)`) what the put
    loop wrote returns exactly the items and leaves exactly the following bits – for **every** item count
    (0, 127/128, 16383/16384, exact multiples of 16K with the end-of-message determinant, > 64K in several rounds),
    for any item codec whose reader inverts its writer -/
theorem lengthLoop_roundtrip {α : Type} (rd : Bits → Option (α × Bits)) (enc : α → Bits) (xs : List α) (rest : Bits)
    (hrd : ∀ a ∈ xs, ∀ r, rd (enc a ++ r) = some (a, r)) :
    getLoop rd (putLoop (xs.map enc) ++ rest) = some (xs, rest) :=
  have := getLoop_putLoop rd (xs.map fun a => (a, enc a)) rest (List.forall_mem_map.mpr hrd)
  by rwa [(map_graph _ _).1, (map_graph _ _).2] at this

/-- instance: `n` octets (OCTET STRING without constraints) -/
example (os : List Nat) (h : ∀ b ∈ os, b < 256) (rest : Bits) :
    getLoop (getFewBits 8) (putLoop (os.map (natBits 8)) ++ rest) = some (os, rest) :=
  lengthLoop_roundtrip _ _ os rest (fun a ha r => by
    rw [getFewBits_natBits 8 a r (by omega), Nat.mod_eq_of_lt (h a ha)])

/-- C04: an unconstrained `uper_get_length` consumes at least 8 bits, never announces more than 64K
    items, `repeat` only with exactly 16K·m (1 ≤ m ≤ 4), and the remaining bits are a suffix of the input -/
theorem getLength_in_bounds (e : Int) (lb : Nat) (bs r : Bits) (v : Nat) (rep : Bool)
    (h : getLength e lb bs = some (v, rep, r)) :
    r <:+ bs ∧ ((e < 0 ∨ 16 < e) → r.length + 8 ≤ bs.length ∧
      ((rep = false ∧ v < 16384) ∨ (rep = true ∧ (v = 16384 ∨ v = 32768 ∨ v = 49152 ∨ v = 65536)))) := by
  obtain ⟨hdr, rfl, hu⟩ := getLength_some h
  refine ⟨⟨hdr, rfl⟩, fun he => ⟨?_, (hu he).2⟩⟩
  have h8 : 8 ≤ hdr.length := (hu he).1
  rw [List.length_append]; omega

/-- C04: the whole get loop stays inside the input as long as the item reader does -/
theorem getLoop_in_bounds {α : Type} (rd : Bits → Option (α × Bits))
    (hrd : ∀ bs a r, rd bs = some (a, r) → r <:+ bs) (bs : Bits) (xs : List α) (r : Bits)
    (h : getLoop rd bs = some (xs, r)) : r <:+ bs :=
  getLoopF_suffix rd hrd _ bs xs r h

/-! ## per_support.c: normally small non-negative whole number (X.691 §10.6) -/

/-- C02 (finding F29 repaired): `uper_put_nsnnwn` writes exactly X.691 §10.6 for every `n < 2^24`:
    §10.6.1 (`0` + 6 bits) up to 63, §10.6.2 (the bit `1`, then the semi-constrained whole number
    with its length octet) from 64 on -/
theorem putNsnnwn_eq_spec (n : Nat) (h : n < 2 ^ 24) : putNsnnwn n = some (Spec.Per.normallySmall n) := by
  by_cases h63 : n ≤ 63
  · rw [putNsnnwn_small n h63, Spec.Per.normallySmall, if_pos h63, Spec.Per.nnbi, natBits_succ_lt (k := 6) (by omega)]
  · obtain ⟨k, hb, hlo, hhi, e⟩ := putNsnnwn_large n (by omega) h
    rw [e, normallySmall_large n k (by omega) (by omega) hlo hhi]

/-- `uper_put_nsnnwn` refuses negative numbers and everything from 2^24 on ("not a normally small value") -/
theorem putNsnnwn_rejects (n : Int) (h : n < 0 ∨ 2 ^ 24 ≤ n) : putNsnnwn n = none := by
  unfold putNsnnwn
  rcases h with h | h
  · rw [if_pos (by omega), if_pos h]
  · rw [if_neg (by omega), if_neg (by omega), if_neg (by omega), if_neg (by omega)]

/-- C01 (finding F29 repaired): `uper_get_nsnnwn` inverts `uper_put_nsnnwn` for every number the writer
    accepts (`n < 2^24`), whatever follows on the wire -/
theorem getNsnnwn_putNsnnwn (n : Nat) (rest : Bits) (h : n < 2 ^ 24) :
    (putNsnnwn n).bind (fun b => getNsnnwn (b ++ rest)) = some (n, rest) := by
  by_cases h63 : n ≤ 63
  · rw [putNsnnwn_small n h63]
    simp only [Option.bind_some]
    exact getNsnnwn_small n rest h63
  · obtain ⟨k, hb, hlo, hhi, e⟩ := putNsnnwn_large n (by omega) h
    rw [e]
    simp only [Option.bind_some]
    rw [getNsnnwn_large _ n rest hb, Nat.mod_eq_of_lt (by rwa [Nat.pow_mul])]

/-- the former F29 witness: 64 is now written as `1 00000001 01000000` (X.691 §10.6.2) and read back as 64
    (the unrepaired code wrote `01 40` and read 0) -/
theorem putNsnnwn_64_repaired :
    putNsnnwn 64 = some (true :: bytesToBits [0x01, 0x40]) ∧
    Spec.Per.normallySmall 64 = true :: bytesToBits [0x01, 0x40] ∧
    getNsnnwn (true :: bytesToBits [0x01, 0x40]) = some (64, []) := by
  have hp : putNsnnwn ((64 : Nat) : Int) = some (true :: bytesToBits [0x01, 0x40]) := by decide
  refine ⟨hp, ?_, by decide⟩
  have := putNsnnwn_eq_spec 64 (by decide)
  rw [hp] at this
  exact (Option.some.inj this).symm

/-- C03/C02: the reader accepts the X.691 §10.6 encoding of every `n < 2^24` -/
theorem getNsnnwn_spec (n : Nat) (rest : Bits) (h : n < 2 ^ 24) :
    getNsnnwn (Spec.Per.normallySmall n ++ rest) = some (n, rest) := by
  have h1 := putNsnnwn_eq_spec n h
  have h2 := getNsnnwn_putNsnnwn n rest h
  rw [h1] at h2
  simpa using h2

/-- C04: `uper_get_nsnnwn` stays inside its input -/
theorem getNsnnwn_in_bounds (bs r : Bits) (v : Nat) (h : getNsnnwn bs = some (v, r)) : r <:+ bs :=
  getNsnnwn_suffix bs v r h

/-! ## per_support.c: normally small length (X.691 §10.9.3.4) -/

/-- C02 (finding F64 repaired): `uper_put_nslength` writes exactly X.691 §10.9.3.4 for every `1 ≤ n < 16384`:
    `0` + 6 bits of `n - 1` up to 64, the bit `1` followed by the general length determinant above -/
theorem putNslength_eq_spec (n : Nat) (h1 : 1 ≤ n) (h : n < 16384) :
    putNslength n = some (Spec.Per.normallySmallLength n) := by
  unfold putNslength Spec.Per.normallySmallLength
  by_cases h64 : n ≤ 64
  · rw [if_pos h64, if_pos h64, if_neg (by omega), putFewBits_eq _ _ (by omega), Spec.Per.nnbi,
      natBits_succ_lt (k := 6) (by omega)]
  · rw [if_neg h64, if_neg h64, putLength_small n h, show putFewBits 1 1 = some [true] from rfl]
    simp

/-- `uper_put_nslength` rejects 0 and everything from 16K on -/
theorem putNslength_rejects (n : Nat) (h : n = 0 ∨ 16384 ≤ n) : putNslength n = none := by
  rcases h with rfl | h
  · rfl
  · -- from 16K on `uper_put_length` covers only a part, or asks for an end-of-message determinant
    unfold putNslength
    rw [if_neg (by omega), putLength_frag n h, show putFewBits 1 1 = some [true] from rfl]
    simp only
    rw [if_pos]
    by_cases c : n = min (n / 16384) 4 * 16384
    · exact Or.inr (decide_eq_true c)
    · exact Or.inl (Ne.symm c)

/-- the reader accepts the X.691 §10.9.3.4 encoding of every `1 ≤ n < 16384` -/
theorem getNslength_spec (n : Nat) (rest : Bits) (h1 : 1 ≤ n) (h : n < 16384) :
    getNslength (Spec.Per.normallySmallLength n ++ rest) = some (n, rest) := by
  by_cases h64 : n ≤ 64
  · rw [Spec.Per.normallySmallLength, if_pos h64, Spec.Per.nnbi, ← natBits_succ_lt (k := 6) (by omega)]
    exact getNslength_small n rest h1 h64
  · unfold Spec.Per.normallySmallLength
    rw [if_neg h64]
    unfold getNslength
    rw [show true :: Spec.Per.lengthDetSmall n ++ rest = natBits 1 1 ++ (Spec.Per.lengthDetSmall n ++ rest) from rfl,
      getFewBits_natBits 1 1 _ (by omega)]
    simp only
    rw [if_neg (by decide), getLength_lengthDetSmall n rest h]

/-- C01 (finding F64 repaired): `uper_get_nslength` inverts `uper_put_nslength` for every length the writer
    accepts (`1 ≤ n < 16384`), whatever follows on the wire -/
theorem getNslength_putNslength (n : Nat) (rest : Bits) (h1 : 1 ≤ n) (h : n < 16384) :
    (putNslength n).bind (fun b => getNslength (b ++ rest)) = some (n, rest) := by
  rw [putNslength_eq_spec n h1 h]
  simp only [Option.bind_some]
  exact getNslength_spec n rest h1 h

/-- the former F64 witness: 65 is now written as `1 01000001` (X.691 §10.9.3.4) and read back as 65
    (the unrepaired code wrote `01000001`, read back as 33) -/
theorem putNslength_65_repaired :
    putNslength 65 = some [true, false, true, false, false, false, false, false, true] ∧
    Spec.Per.normallySmallLength 65 = [true, false, true, false, false, false, false, false, true] ∧
    getNslength [true, false, true, false, false, false, false, false, true] = some (65, []) := by
  decide

/-- C04: `uper_get_nslength` stays inside its input -/
theorem getNslength_in_bounds (bs r : Bits) (v : Nat) (h : getNslength bs = some (v, r)) : r <:+ bs :=
  getNslength_suffix bs v r h

/-! ## per_support.c: constrained whole numbers (X.691 §10.5) -/

/-- C02: `uper_put_constrained_whole_number_u(v, nbits)` writes the `nbits`-bit non-negative-binary-integer
    of `v` for every width (the 31-bit split of values wider than 31 bits is invisible on the wire) -/
theorem putCwnU_spec (v nbits : Nat) : putCwnU v nbits = some (Spec.Per.nnbi nbits v) :=
  putCwnU_eq v nbits

/-- C01: `uper_get_constrained_whole_number` inverts `uper_put_constrained_whole_number_u` for every
    width up to 64 bits, including the 31/32-bit split and the 62/63-bit double split -/
theorem getCwn_putCwnU (nbits v : Nat) (rest : Bits) (hn : nbits ≤ 64) (hv : v < 2 ^ nbits) :
    (putCwnU v nbits).bind (fun b => getCwn nbits (b ++ rest)) = some (v, rest) := by
  rw [putCwnU_eq]
  simp only [Option.bind_some]
  rw [getCwn_natBits nbits v rest hn, Nat.mod_eq_of_lt hv]

/-- the reader refuses more than 64 bits -/
theorem getCwn_wide (nbits : Nat) (bs : Bits) (h : 64 < nbits) : getCwn nbits bs = none := by
  rw [getCwn, if_neg (by omega), if_pos h]

/-- C04: a successful `uper_get_constrained_whole_number` consumed exactly `nbits ≤ 64` bits of the input -/
theorem getCwn_in_bounds (nbits : Nat) (bs r : Bits) (v : Nat) (h : getCwn nbits bs = some (v, r)) :
    nbits ≤ 64 ∧ v < 2 ^ nbits ∧ bs = Spec.Per.nnbi nbits v ++ r :=
  getCwn_some h

/-- `per_long_range_rebase` is `v - lb` exactly on `lb ≤ v ≤ ub`, an error elsewhere -/
theorem rebase_spec (v lb ub : Int) (hl : isLong lb) (hu : isLong ub) :
    rebase v lb ub = if lb ≤ v ∧ v ≤ ub then some (v - lb).toNat else none := by
  by_cases c : lb ≤ v ∧ v ≤ ub
  · rw [if_pos c, rebase_eq v lb ub hl hu c.1 c.2]
  · rw [if_neg c, rebase_out_of_range v lb ub (by omega)]

/-- `per_long_range_unrebase` is `inp + lb` exactly when `inp ≤ ub - lb` (values that fit the bit field but
    exceed the range are rejected), on the full `long` range -/
theorem unrebase_spec (inp : Nat) (lb ub : Int) (hl : isLong lb) (hu : isLong ub) (h : lb ≤ ub) :
    unrebase inp lb ub = if (inp : Int) ≤ ub - lb then some (inp + lb) else none := by
  have hr := longRange_eq lb ub hl hu h
  unfold isLong longMin longMax at hl hu
  unfold unrebase
  rw [hr]
  simp only
  by_cases c : (inp : Int) ≤ ub - lb
  · rw [if_pos c, if_neg (by omega)]
    unfold longMax
    split
    · rfl
    · have e : lb + (2 ^ 63 - 1) + 1 + ((inp : Int) - (2 ^ 63 - 1) - 1) = inp + lb := by omega
      rw [e]
  · rw [if_neg c, if_pos (by omega)]

/-- rebase and unrebase are mutually inverse -/
theorem unrebase_rebase (v lb ub : Int) (hl : isLong lb) (hu : isLong ub) (h1 : lb ≤ v) (h2 : v ≤ ub) :
    (rebase v lb ub).bind (fun u => unrebase u lb ub) = some v := by
  rw [rebase_eq v lb ub hl hu h1 h2]
  simp only [Option.bind_some]
  rw [unrebase_spec _ lb ub hl hu (by omega), if_pos (by omega)]
  congr 1; omega

/-- C02: the constrained INTEGER path `per_long_range_rebase` + `uper_put_constrained_whole_number_u` with
    `range_bits` = the X.691 §10.5.7.1 width of the range emits exactly X.691 §10.5.6, on the full `long` range -/
theorem rebase_putCwnU_eq_spec (v lb ub : Int) (hl : isLong lb) (hu : isLong ub) (h1 : lb ≤ v) (h2 : v ≤ ub) :
    (rebase v lb ub).bind (fun u => putCwnU u (Spec.Per.bitWidth (ub - lb + 1).toNat))
      = some (Spec.Per.constrainedWholeNumber lb ub v) := by
  rw [rebase_eq v lb ub hl hu h1 h2]
  simp only [Option.bind_some]
  rw [putCwnU_eq]
  rfl

/-- the value always fits the X.691 width: `v - lb < 2 ^ bitWidth (ub - lb + 1)` -/
theorem lt_two_pow_bitWidth (r x : Nat) (h : x < r) : x < 2 ^ Spec.Per.bitWidth r :=
  Asn1c.Proofs.PerSupport.lt_two_pow_bitWidth r x h

/-- C01: constrained INTEGER round trip through rebase / put / get / unrebase, on the full `long` range
    (`lb = LONG_MIN`, `ub = LONG_MAX` included: 64 bits, split 31 + 31 + 2) -/
theorem constrained_roundtrip (v lb ub : Int) (rest : Bits) (hl : isLong lb) (hu : isLong ub) (h1 : lb ≤ v) (h2 : v ≤ ub) :
    ((rebase v lb ub).bind (fun u => putCwnU u (Spec.Per.bitWidth (ub - lb + 1).toNat))).bind
      (fun b => (getCwn (Spec.Per.bitWidth (ub - lb + 1).toNat) (b ++ rest)).bind
        (fun p => (unrebase p.1 lb ub).map (fun x => (x, p.2)))) = some (v, rest) := by
  have hw : Spec.Per.bitWidth (ub - lb + 1).toNat ≤ 64 := by
    unfold isLong longMin longMax at hl hu
    unfold Spec.Per.bitWidth
    split
    · omega
    · have : (ub - lb + 1).toNat - 1 < 2 ^ 64 := by omega
      have := (Nat.log2_lt (by omega)).2 this
      omega
  have hx : (v - lb).toNat < 2 ^ Spec.Per.bitWidth (ub - lb + 1).toNat :=
    lt_two_pow_bitWidth _ _ (by omega)
  rw [rebase_eq v lb ub hl hu h1 h2]
  simp only [Option.bind_some]
  rw [putCwnU_eq]
  simp only [Option.bind_some]
  rw [getCwn_natBits _ _ _ hw, Nat.mod_eq_of_lt hx]
  simp only [Option.bind_some]
  rw [unrebase_spec _ lb ub hl hu (by omega), if_pos (by omega)]
  simp only [Option.map_some]
  congr 2
  omega

/-! ## oer_support.c: length determinant (X.696 §8.6) -/

/-- C02: `oer_serialize_length` emits the canonical X.696 §8.6 length determinant for every `size_t` -/
theorem oer_serialize_length_eq_spec (n : Nat) (h : n < 2 ^ 64) : serializeLength n = Spec.Oer.length n :=
  serializeLength_eq_spec n h

/-- C01: `oer_fetch_length` inverts `oer_serialize_length` (every length up to `RSIZE_MAX`), whatever follows -/
theorem oer_fetch_serialize (n : Nat) (rest : Bytes) (hn : n ≤ 2 ^ 63 - 1) :
    fetchLength (serializeLength n ++ rest) = .ok n (serializeLength n).length :=
  fetchLength_serialize n rest hn

/-- C04: on an arbitrary octet string `oer_fetch_length` returns ok / more / fail, never reads outside the
    `size` octets it was given, and never reports more octets consumed than available -/
theorem oer_fetch_length_in_bounds (buf : Bytes) :
    fetchLength buf ≠ .oob ∧ ∀ len used, fetchLength buf = .ok len used → 1 ≤ used ∧ used ≤ buf.length :=
  fetchLength_in_bounds buf

/-! ## INTEGER_oer.c: the integer width logic (X.696 §10), `(width, positive)` as emitted by the compiler -/

/-- C02: signed shapes.  `width = 0`: length determinant + minimal two's complement octets (§10.4 b);
    `width ∈ {1,2,4,8}`: exactly `width` octets of two's complement (§10.3), or failure when the value does not fit -/
theorem INTEGER_encode_oer_signed (width : Nat) (st : Bytes) (h : st.wf) (hne : st ≠ []) (hlen : st.length < 2 ^ 64) :
    (width = 0 → ∃ out, intEncodeOer 0 false st = some out ∧ Spec.Oer.IsVarSigned (Spec.twosVal st) out) ∧
    (width ≠ 0 → (Asn1c.Impl.Integer.strip st).length ≤ width →
      ∃ out, intEncodeOer width false st = some out ∧ Spec.Oer.IsFixedSigned width (Spec.twosVal st) out) ∧
    (width ≠ 0 → width < (Asn1c.Impl.Integer.strip st).length → intEncodeOer width false st = none) := by
  open Asn1c.Impl.Integer Asn1c.Spec Asn1c.Proofs.Integer in
  match st, hne with
  | b0 :: rest, _ =>
    have hsl := strip_length_le (b0 :: rest)
    have hsw := strip_wf (b0 :: rest) h
    have e := fun w => intEncodeOer_eq w false b0 rest (strip (b0 :: rest)) rfl
    refine ⟨fun _ => ?_, fun hw hle => ?_, fun hw hlt => ?_⟩
    · -- the body is what the strip loop leaves
      exact ⟨_, by rw [e, if_neg (by simp), if_pos rfl], strip (b0 :: rest), hsw, strip_ne_nil _ (by simp),
        strip_minimal _, strip_val _ h, by rw [serializeLength_eq_spec _ (by omega)]⟩
    · -- the same octets behind their sign extension: well formed, `width` long, same value
      exact ⟨_, by rw [e, if_neg (by simp), if_neg hw, if_neg (Nat.not_lt.2 hle)],
        Proofs.Integer.wf_append (Proofs.Integer.wf_replicate _ _ (by split <;> omega)) hsw,
        by rw [List.length_append, List.length_replicate]; exact Nat.sub_add_cancel hle,
        padded_val false b0 rest h (by simp) _ _ rfl⟩
    · rw [e, if_neg (by simp), if_neg hw, if_pos hlt]

/-- C02: unsigned shapes.  A negative value is refused; `width = 0`: length + minimal unsigned octets (§10.4 a);
    fixed `width`: exactly `width` octets (§10.2), or failure when the value does not fit -/
theorem INTEGER_encode_oer_unsigned (width : Nat) (st : Bytes) (h : st.wf) (hne : st ≠ []) (hlen : st.length < 2 ^ 64) :
    (Spec.twosVal st < 0 → intEncodeOer width true st = none) ∧
    (0 ≤ Spec.twosVal st → width = 0 →
      ∃ out, intEncodeOer 0 true st = some out ∧ Spec.Oer.IsVarUnsigned (Spec.twosVal st) out) ∧
    (0 ≤ Spec.twosVal st → width ≠ 0 → (stripZeros st).length ≤ width →
      ∃ out, intEncodeOer width true st = some out ∧ Spec.Oer.IsFixedUnsigned width (Spec.twosVal st) out) ∧
    (0 ≤ Spec.twosVal st → width ≠ 0 → width < (stripZeros st).length → intEncodeOer width true st = none) := by
  open Asn1c.Impl.Integer Asn1c.Spec Asn1c.Proofs.Integer in
  match st, hne with
  | b0 :: rest, _ =>
    obtain ⟨z1, z2, z3, z4⟩ := stripZeros_spec (b0 :: rest) h
    have hsign : twosVal (b0 :: rest) < 0 ↔ b0 ≥ 128 := by
      rw [← isNegative_iff _ h]; simp [isNegative]
    -- a non-negative value passes the sign test
    have hpos : 0 ≤ twosVal (b0 :: rest) → ¬ (true = true ∧ b0 ≥ 128) := fun hnn hh => by
      have := hsign.2 hh.2; omega
    have e := fun w => intEncodeOer_eq w true b0 rest (stripZeros (b0 :: rest)) rfl
    refine ⟨fun hneg => ?_, fun hnn _ => ?_, fun hnn hw hle => ?_, fun hnn hw hlt => ?_⟩
    · rw [e, if_pos ⟨rfl, hsign.1 hneg⟩]
    · -- the body is the octets without their leading zeros; read as unsigned they denote the value
      exact ⟨_, by rw [e, if_neg (hpos hnn), if_pos rfl], stripZeros (b0 :: rest), z1,
        stripZeros_ne_nil _ (List.cons_ne_nil _ _), z2, by rw [z3, twosVal_nonneg _ h hnn],
        by rw [serializeLength_eq_spec _ (by omega)]⟩
    · -- the same octets behind zeros: well formed, `width` long, same value
      exact ⟨_, by rw [e, if_neg (hpos hnn), if_neg hw, if_neg (Nat.not_lt.2 hle)],
        Proofs.Integer.wf_append (Proofs.Integer.wf_replicate _ _ (by split <;> omega)) z1,
        by rw [List.length_append, List.length_replicate]; exact Nat.sub_add_cancel hle,
        padded_val true b0 rest h (hpos hnn) _ _ rfl⟩
    · rw [e, if_neg (hpos hnn), if_neg hw, if_pos hlt]

/-- C01: `INTEGER_decode_oer` reads back what `INTEGER_encode_oer` wrote under the same `(width, positive)`:
    exactly the produced octets are consumed, whatever follows, and the INTEGER obtained holds the *canonical
    contents* of the encoded one (`strip st`: X.690 §8.3.2 minimal form, same value) — the fixed-width padding /
    sign extension is not kept (finding F36 repaired), so `INTEGER_compare`, which compares minimal forms, sees
    the same INTEGER as after `asn_long2INTEGER` or a DER decode -/
theorem INTEGER_oer_roundtrip (width : Nat) (positive : Bool) (st out rest : Bytes) (h : st.wf)
    (hlen : st.length ≤ 2 ^ 63 - 1) (he : intEncodeOer width positive st = some out) :
    intDecodeOer width positive (out ++ rest) = .ok (Asn1c.Impl.Integer.strip st) out.length ∧
    Spec.MinimalTwos (Asn1c.Impl.Integer.strip st) ∧
    Spec.twosVal (Asn1c.Impl.Integer.strip st) = Spec.twosVal st :=
  ⟨intDecodeOer_intEncodeOer width positive st out rest h hlen he, Asn1c.Proofs.Integer.strip_minimal st,
    Asn1c.Proofs.Integer.strip_val st h⟩

/-- C01 (F36 repaired): whatever octets `INTEGER_decode_oer` accepts, canonical or not, the contents it stores are
    non-empty octets in the minimal form of X.690 §8.3.2 -/
theorem INTEGER_decode_oer_minimal (width : Nat) (positive : Bool) (buf c : Bytes) (used : Nat) (hb : buf.wf)
    (h : intDecodeOer width positive buf = .ok c used) : c ≠ [] ∧ Spec.MinimalTwos c ∧ c.wf :=
  intDecodeOer_elim (P := fun r => r = .ok c used → _) width positive buf nofun nofun
    (fun _ _ h0 h => decodeBody_ok hb h0 h) h

/-- the former F36 witness: `INTEGER (-2147483648..4294967294)` (8 octets, signed) holding -2147483648 is stored as
    `80000000`, the contents `asn_long2INTEGER` produces, and `INTEGER_compare` answers 0 -/
theorem INTEGER_decode_oer_F36_witness :
    intDecodeOer 8 false [0xff, 0xff, 0xff, 0xff, 0x80, 0x00, 0x00, 0x00] = .ok [0x80, 0x00, 0x00, 0x00] 8 ∧
    Asn1c.Impl.Integer.compare [0x80, 0x00, 0x00, 0x00] (Asn1c.Impl.Integer.imax2INTEGER (-2147483648)) = some 0 := by
  decide

/-- C04: `INTEGER_decode_oer` never reads outside its input, for every constraint and every octet string
    (finding F5 repaired: the zero length determinant of a variable-size integer is rejected before the `msb`
    probe of `ptr[0]`) -/
theorem INTEGER_decode_oer_no_oob (width : Nat) (positive : Bool) (buf : Bytes) :
    intDecodeOer width positive buf ≠ .oob :=
  intDecodeOer_elim (P := (· ≠ .oob)) width positive buf nofun nofun fun req off _ => by
    unfold decodeBody; split <;> nofun

/-- the former F5 witness, `INTEGER (0..MAX)` with OER input `00`, is rejected -/
theorem INTEGER_decode_oer_zero_length_fails : intDecodeOer 0 true [0x00] = .fail := by
  decide

end Asn1c.Props.L1Per
