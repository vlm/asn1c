import Asn1cModel.Proofs.Native
import Asn1cModel.Proofs.NativeSemi
import Asn1cModel.Props.C16
import Batteries.Data.List.Basic
import Mathlib.Algebra.Group.Int.Defs
/-
  C13 — code-generation options never change the wire format.
  Each `native_*_eq_wide` composes a statement about the native codec ("the cell's octets / text denote
  `nativeValue`": `nativeToINTEGER_spec`, `native_decode_of_val`, `native_xer_spec`) with one about the wide codec
  ("a function of `twosVal`": `strip_eq_of_val`, `INTEGER_encode_uper_eq_of_val`, `wide_xer_spec`).  The lemmas about
  cells and octets are in Proofs/Native.lean, Proofs/NativeSemi.lean and Proofs/Integer.lean; the conversions
  between `INTEGER_t` and C integers are cited from Props/C16.lean.

  The only codec code paths that depend on a *representation* option are
  (a) -fwide-types: `long`/`unsigned long` + NativeInteger/NativeEnumerated codecs versus
      `INTEGER_t`/`ENUMERATED_t` + INTEGER/ENUMERATED codecs (Impl/Native.lean, tied to the C code by
      the `c13_driver` correspondence), REAL likewise (not modelled here: observed by the P leg);
  (b) -findirect-choice: the ATF_POINTER flag of CHOICE members (`Slot`);
  (c) -fcompound-names / -fincludes-quoted / -fno-include-deps: C identifiers and #include lines,
      which no codec reads.
  The statements below say: for every value the native representation can hold, (a) gives the
  same octets/bits and the same decoded abstract value, (b) and (c) are invisible to a codec.
  What the *compiler* emits under each option (tags, constraint tables, member order, `optional`
  counts, tag2el) is not modelled: the P leg compares the descriptor dumps of real builds.
-/
namespace Asn1c.Props.C13
open Asn1c Asn1c.Impl.Integer Asn1c.Impl.BerTlv Asn1c.Impl.Native Asn1c.Spec
open Asn1c.Proofs.Integer Asn1c.Proofs.Native Asn1c.Proofs.NativeSemi

/-! ### DER / BER: INTEGER and ENUMERATED (`asn_OP_NativeEnumerated` and `asn_OP_ENUMERATED` use the
    same `NativeInteger_encode_der` / `INTEGER_encode_der` / decoders) -/

/-- **-fwide-types does not change DER**: for every `long` value `v`, the DER encoding produced by
    `NativeInteger_encode_der` from the native cell equals the one `INTEGER_encode_der` produces from
    *any* `INTEGER_t` (minimal or padded, any length) denoting `v`. -/
theorem native_der_eq_wide (t : Tag) (v : Int) (hv : fitsS64 v) (bs : Bytes) (hw : Bytes.wf bs)
    (hne : bs ≠ []) (hbs : twosVal bs = v) :
    NativeInteger_encode_der false t (wordOfLong v) = INTEGER_encode_der t bs := by
  unfold NativeInteger_encode_der INTEGER_encode_der INTEGER_der_content
  rw [nativeFakeINTEGER_signed, nativeOctets_wordOfLong, strip_eq_imax2INTEGER bs hw hne v hbs hv]
  rfl

/-- the contents octets the native encoder emits are the X.690 §8.3 canonical form of `v` -/
theorem native_der_content_canonical (v : Int) (hv : fitsS64 v) :
    NativeInteger_der_content false (wordOfLong v) ≠ [] ∧ Bytes.wf (NativeInteger_der_content false (wordOfLong v)) ∧
    MinimalTwos (NativeInteger_der_content false (wordOfLong v)) ∧
    twosVal (NativeInteger_der_content false (wordOfLong v)) = v := by
  unfold NativeInteger_der_content INTEGER_der_content
  rw [nativeFakeINTEGER_signed, nativeOctets_wordOfLong]
  exact Asn1c.Props.C16.imax2INTEGER_spec v hv

/-- **unsigned native** (`field_unsigned`, e.g. `INTEGER (0..MAX)`): same DER as the wide type for *every*
    `unsigned long` value `u < 2^64` and any `INTEGER_t` denoting `u` (finding F20 repaired: values from 2^63
    up used to get a negative DER encoding). -/
theorem native_der_unsigned_eq_wide (t : Tag) (u : Nat) (hu : u < 2 ^ 64) (bs : Bytes)
    (hw : Bytes.wf bs) (hne : bs ≠ []) (hbs : twosVal bs = u) :
    NativeInteger_encode_der true t u = INTEGER_encode_der t bs := by
  obtain ⟨n1, n2, n3⟩ := nativeFakeINTEGER_unsigned_spec u hu
  unfold NativeInteger_encode_der INTEGER_encode_der INTEGER_der_content
  rw [strip_eq_of_val _ bs n2 hw n1 hne (by rw [n3, hbs])]

/-- … and its contents octets are the X.690 §8.3 canonical form of `u`, over the whole unsigned range -/
theorem native_der_unsigned_content_canonical (u : Nat) (hu : u < 2 ^ 64) :
    NativeInteger_der_content true u ≠ [] ∧ Bytes.wf (NativeInteger_der_content true u) ∧
    MinimalTwos (NativeInteger_der_content true u) ∧ twosVal (NativeInteger_der_content true u) = u := by
  obtain ⟨n1, n2, n3⟩ := nativeFakeINTEGER_unsigned_spec u hu
  unfold NativeInteger_der_content INTEGER_der_content
  exact ⟨strip_ne_nil _ n1, strip_wf _ n2, strip_minimal _, by rw [strip_val _ n2, n3]⟩

/-- the former F20 witness: the `unsigned long` 2^63 is now DER-encoded by the native type as
    `00 80 00 00 00 00 00 00 00` (= 2^63), exactly what the wide type holding 2^63 emits;
    2^64 − 1 likewise (`00 FF FF FF FF FF FF FF FF`). -/
theorem native_der_unsigned_witness :
    NativeInteger_der_content true (2 ^ 63) = [0, 0x80, 0, 0, 0, 0, 0, 0, 0] ∧
    twosVal (NativeInteger_der_content true (2 ^ 63)) = 2 ^ 63 ∧
    INTEGER_der_content [0, 0x80, 0, 0, 0, 0, 0, 0, 0] = NativeInteger_der_content true (2 ^ 63) ∧
    NativeInteger_der_content true (2 ^ 64 - 1) = [0, 255, 255, 255, 255, 255, 255, 255, 255] := by decide

theorem native_decode_of_val (uns : Bool) (w : Nat) (hw : w < 2 ^ 64) (c : Bytes) (hc : Bytes.wf c)
    (h : twosVal c = nativeValue uns w) : NativeInteger_decode_ber_content uns c = .ok w := by
  unfold NativeInteger_decode_ber_content
  cases uns
  · have h : twosVal c = toSigned64 w := h
    rw [if_neg Bool.false_ne_true, Asn1c.Props.C16.INTEGER2long_spec c hc, h, if_pos (fitsS64_toSigned64 w)]
    exact congrArg Conv.ok (wordOfLong_toSigned64 w hw)
  · have h : twosVal c = (w : Int) := h
    rw [if_pos rfl, INTEGER2ulong_fits c hc (by rw [h]; exact ⟨Int.natCast_nonneg w, by omega⟩), h]
    rfl

/-- **decoding the same contents octets gives the same abstract value** when the native type can
    hold it: the native BER decoder succeeds and its cell denotes the value of the octets the wide
    decoder keeps verbatim (any contents octets, minimal or not, any length). -/
theorem native_decode_eq_wide (c : Bytes) (hw : Bytes.wf c) (hf : fitsS64 (twosVal c)) :
    ∃ w, NativeInteger_decode_ber_content false c = .ok w ∧
      nativeValue false w = twosVal (INTEGER_decode_ber_content c) :=
  have hv : nativeValue false (wordOfLong (twosVal c)) = twosVal c := nativeValue_wordOfLong false _ hf nofun
  ⟨wordOfLong (twosVal c), native_decode_of_val false _ (wordOfLong_lt _) c hw hv.symm, hv⟩

/-- … and when it cannot, the native decoder fails (RC_FAIL) instead of storing a wrong value. -/
theorem native_decode_out_of_range_fails (c : Bytes) (hw : Bytes.wf c) (hf : ¬ fitsS64 (twosVal c)) :
    NativeInteger_decode_ber_content false c = .erange := by
  unfold NativeInteger_decode_ber_content
  rw [Asn1c.Props.C16.INTEGER2long_spec c hw, if_neg hf]; rfl

/-- unsigned native decoder: exact for all contents denoting 0 ≤ v < 2^64 (any length, minimal or not) -/
theorem native_decode_unsigned_eq_wide (c : Bytes) (hw : Bytes.wf c) (hf : fitsU64 (twosVal c)) :
    ∃ w, NativeInteger_decode_ber_content true c = .ok w ∧
      nativeValue true w = twosVal (INTEGER_decode_ber_content c) :=
  have hv : nativeValue true (twosVal c).toNat = twosVal c := Int.toNat_of_nonneg hf.1
  have hlt : (twosVal c).toNat < 2 ^ 64 := by have : twosVal c < 2 ^ 64 := hf.2; omega
  ⟨(twosVal c).toNat, native_decode_of_val true _ hlt c hw hv.symm, hv⟩

/-- … and every other contents, in particular every *negative* INTEGER, makes it fail (RC_FAIL)
    instead of storing a wrapped value (finding F3 repaired on this path: `FF` used to decode to 255). -/
theorem native_decode_unsigned_out_of_range_fails (c : Bytes) (hw : Bytes.wf c) (hf : ¬ fitsU64 (twosVal c)) :
    NativeInteger_decode_ber_content true c = .erange := by
  unfold NativeInteger_decode_ber_content
  simp only [if_true]
  rw [Asn1c.Props.C16.INTEGER2ulong_spec c hw, if_neg hf]

/-- the former F3 witness through `NativeInteger_decode_ber`: contents `FF` (−1), and the former F20
    output `80 00 00 00 00 00 00 00` (−2^63), are rejected by an unsigned native. -/
theorem native_decode_unsigned_negative_witness :
    twosVal [255] = -1 ∧ NativeInteger_decode_ber_content true [255] = .erange ∧
    NativeInteger_decode_ber_content true [0x80, 0, 0, 0, 0, 0, 0, 0] = .erange := by decide

/-- **cross decoding, DER**: each representation decodes the other's DER contents to `v`. -/
theorem cross_decode_der (v : Int) (hv : fitsS64 v) (bs : Bytes) (hw : Bytes.wf bs)
    (hbs : twosVal bs = v) :
    (∃ w, NativeInteger_decode_ber_content false (INTEGER_der_content bs) = .ok w ∧ nativeValue false w = v) ∧
    twosVal (INTEGER_decode_ber_content (NativeInteger_der_content false (wordOfLong v))) = v := by
  have hc : nativeValue false (wordOfLong v) = v := nativeValue_wordOfLong false v hv nofun
  have hs : twosVal (strip bs) = nativeValue false (wordOfLong v) := by rw [strip_val bs hw, hbs, hc]
  exact ⟨⟨wordOfLong v, native_decode_of_val false _ (wordOfLong_lt v) (strip bs) (strip_wf bs hw) hs, hc⟩,
    (native_der_content_canonical v hv).2.2.2⟩

/-- **cross decoding, DER, unsigned native**: likewise over the whole `unsigned long` range, and the
    native decoder reads back its own encoder's output (the F20/F3 pair no longer has to cancel). -/
theorem cross_decode_der_unsigned (u : Nat) (hu : u < 2 ^ 64) (bs : Bytes) (hw : Bytes.wf bs)
    (hbs : twosVal bs = u) :
    (∃ w, NativeInteger_decode_ber_content true (INTEGER_der_content bs) = .ok w ∧ nativeValue true w = u) ∧
    twosVal (INTEGER_decode_ber_content (NativeInteger_der_content true u)) = u ∧
    NativeInteger_decode_ber_content true (NativeInteger_der_content true u) = .ok u := by
  obtain ⟨_, c2, _, c4⟩ := native_der_unsigned_content_canonical u hu
  have hs : twosVal (strip bs) = nativeValue true u := (strip_val bs hw).trans hbs
  exact ⟨⟨u, native_decode_of_val true u hu (strip bs) (strip_wf bs hw) hs, rfl⟩, c4,
    native_decode_of_val true u hu _ c2 c4⟩

/-! ### OER / UPER / XER of INTEGER: the native codecs build a temporary INTEGER and delegate -/

theorem nativeToINTEGER_spec (uns : Bool) (w : Nat) (hw : w < 2 ^ 64) :
    nativeToINTEGER uns w ≠ [] ∧ Bytes.wf (nativeToINTEGER uns w) ∧ MinimalTwos (nativeToINTEGER uns w) ∧
    twosVal (nativeToINTEGER uns w) = nativeValue uns w := by
  cases uns
  · exact Asn1c.Props.C16.imax2INTEGER_spec _ (fitsS64_toSigned64 w)
  · exact Asn1c.Props.C16.ulong2INTEGER_spec w hw

/-- the temporary INTEGER built by `NativeInteger_encode_oer/_uper` is *the* canonical INTEGER of
    the value: it equals every minimal `INTEGER_t` denoting the same value (a `field_unsigned`
    native cell holds a non-negative value: `hun`). -/
theorem nativeToINTEGER_eq_wide (unsigned : Bool) (v : Int) (hv : fitsS64 v) (bs : Bytes)
    (hw : Bytes.wf bs) (hne : bs ≠ []) (hm : MinimalTwos bs) (hbs : twosVal bs = v)
    (hun : unsigned = true → 0 ≤ v) :
    nativeToINTEGER unsigned (wordOfLong v) = bs := by
  obtain ⟨n1, n2, n3, n4⟩ := nativeToINTEGER_spec unsigned _ (wordOfLong_lt v)
  exact minimal_unique _ _ n2 hw n1 hne n3 hm (by rw [n4, nativeValue_wordOfLong unsigned v hv hun, hbs])

/-- … for a `field_unsigned` cell over the whole `unsigned long` range (`asn_ulong2INTEGER`, F2 repaired) -/
theorem nativeToINTEGER_unsigned_eq_wide (u : Nat) (hu : u < 2 ^ 64) (bs : Bytes)
    (hw : Bytes.wf bs) (hne : bs ≠ []) (hm : MinimalTwos bs) (hbs : twosVal bs = u) :
    nativeToINTEGER true u = bs := by
  obtain ⟨n1, n2, n3, n4⟩ := nativeToINTEGER_spec true u hu
  exact minimal_unique _ _ n2 hw n1 hne n3 hm (n4.trans hbs.symm)

/-- **-fwide-types does not change OER**: same octets (or the same failure) from the native cell and
    from the minimal `INTEGER_t` of the same value, for every OER constraint `{width, positive}`. -/
theorem native_oer_eq_wide (width : Nat) (positive unsigned : Bool) (v : Int) (hv : fitsS64 v) (bs : Bytes)
    (hw : Bytes.wf bs) (hne : bs ≠ []) (hm : MinimalTwos bs) (hbs : twosVal bs = v)
    (hun : unsigned = true → 0 ≤ v) :
    NativeInteger_encode_oer width positive unsigned (wordOfLong v) = INTEGER_encode_oer width positive bs := by
  unfold NativeInteger_encode_oer
  rw [nativeToINTEGER_eq_wide unsigned v hv bs hw hne hm hbs hun]

/-- … unsigned native cell, whole `unsigned long` range -/
theorem native_oer_unsigned_eq_wide (width : Nat) (positive : Bool) (u : Nat) (hu : u < 2 ^ 64) (bs : Bytes)
    (hw : Bytes.wf bs) (hne : bs ≠ []) (hm : MinimalTwos bs) (hbs : twosVal bs = u) :
    NativeInteger_encode_oer width positive true u = INTEGER_encode_oer width positive bs := by
  unfold NativeInteger_encode_oer
  rw [nativeToINTEGER_unsigned_eq_wide u hu bs hw hne hm hbs]

/-- `INTEGER_encode_uper` does not depend on `field_unsigned` for non-negative `long` values and
    non-negative bounds (the wide build of an EXTENSIBLE unsigned range `INTEGER (0..MAX, ...)` has no specifics, the
    native one has `field_unsigned = 1`; for `INTEGER (lb..MAX)` both descriptors have the flag since the repair of
    F172 / F173: `native_uper_unsigned_eq_wide`).  Values in 2^63 .. 2^64-1: `INTEGER_encode_uper_unsigned_relevant_cex`. -/
theorem INTEGER_encode_uper_unsigned_irrelevant (ct : Option PerCt) (bs : Bytes) (hw : Bytes.wf bs)
    (h0 : 0 ≤ twosVal bs) (h1 : twosVal bs < 2 ^ 63)
    (hct : ∀ c, ct = some c → 0 ≤ c.lb ∧ c.lb < 2 ^ 63 ∧ 0 ≤ c.ub ∧ c.ub < 2 ^ 63) :
    INTEGER_encode_uper true ct bs = INTEGER_encode_uper false ct bs := by
  unfold INTEGER_encode_uper
  cases ct with
  | none => rfl
  | some c =>
    obtain ⟨l0, l1, u0, u1⟩ := hct c rfl
    -- value and bounds are natural numbers below 2^63: the two conversions give the same number, the cells of the
    -- bounds are the bounds, and the two range tests compare the same numbers
    obtain ⟨n, hn⟩ := Int.eq_ofNat_of_zero_le h0
    obtain ⟨l, hl⟩ := Int.eq_ofNat_of_zero_le l0
    obtain ⟨u, hu⟩ := Int.eq_ofNat_of_zero_le u0
    rw [hn] at h1; rw [hl] at l1; rw [hu] at u1
    have e1 : INTEGER2ulong bs = .ok n := by
      rw [INTEGER2ulong_fits bs hw ⟨h0, by omega⟩, hn]; rfl
    have e2 : INTEGER2long bs = .ok (n : Int) := by
      rw [Asn1c.Props.C16.INTEGER2long_spec bs hw, if_pos ⟨by omega, by omega⟩, hn]
    simp only [e1, e2, hl, hu, wordOfLong_nat l (by omega), wordOfLong_nat u (by omega),
      toSigned64_small n (by omega), Int.ofNat_lt, gt_iff_lt, ite_self]

/-- beyond `LONG_MAX` the `field_unsigned` flag is *not* irrelevant: for a semi-constrained range with lower bound 0
    holding 2^63 a descriptor with `field_unsigned` encodes `08 80 00 …` (X.691 10.7.4, F110 repaired), while a
    descriptor without it goes through `asn_INTEGER2long` and fails.  This was finding F172 - the -fwide-types descriptor
    of `INTEGER (0..MAX)` had no specifics -, repaired: asn1c emits `field_unsigned` for the `INTEGER_t` of a (lb..MAX)
    range as well (`ref_F172_witness`).  It still describes the extensible range `INTEGER (0..MAX, ...)` under
    -fwide-types (proposed finding F174). -/
theorem INTEGER_encode_uper_unsigned_relevant_cex :
    twosVal [0, 0x80, 0, 0, 0, 0, 0, 0, 0] = 2 ^ 63 ∧
    NativeInteger_encode_uper true (some ⟨false, true, -1, 0, 0⟩) (2 ^ 63) =
      some (natBits 8 8 ++ bytesToBits [0x80, 0, 0, 0, 0, 0, 0, 0]) ∧
    INTEGER_encode_uper false (some ⟨false, true, -1, 0, 0⟩) [0, 0x80, 0, 0, 0, 0, 0, 0, 0] = none := by decide

/-- the former witness of finding F172, `U ::= INTEGER (0..MAX)` holding 2^63 (and 2^64-1): with `field_unsigned` in
    the -fwide-types descriptor too, `INTEGER_encode_uper` on the `INTEGER_t` gives the bits of the native encoder,
    `08 80 00 00 00 00 00 00 00` (it was an encoding failure) -/
theorem ref_F172_witness :
    INTEGER_encode_uper true (some ⟨false, true, -1, 0, 0⟩) [0, 0x80, 0, 0, 0, 0, 0, 0, 0] =
      NativeInteger_encode_uper true (some ⟨false, true, -1, 0, 0⟩) (2 ^ 63) ∧
    INTEGER_encode_uper true (some ⟨false, true, -1, 0, 0⟩) [0, 0x80, 0, 0, 0, 0, 0, 0, 0] =
      some (bytesToBits [0x08, 0x80, 0, 0, 0, 0, 0, 0, 0]) ∧
    INTEGER_encode_uper true (some ⟨false, true, -1, 0, 0⟩) [0, 0xff, 0xff, 0xff, 0xff, 0xff, 0xff, 0xff, 0xff] =
      NativeInteger_encode_uper true (some ⟨false, true, -1, 0, 0⟩) (2 ^ 64 - 1) := by decide

/-- `INTEGER_encode_uper` reads the stored octets through `asn_INTEGER2long` / `asn_INTEGER2ulong` and the
    leading-octet strip loop only, and each of these is a function of the value denoted -/
theorem INTEGER_encode_uper_eq_of_val (uns : Bool) (ct : Option PerCt) (a b : Bytes)
    (ha : Bytes.wf a) (hb : Bytes.wf b) (hane : a ≠ []) (hbne : b ≠ []) (h : twosVal a = twosVal b) :
    INTEGER_encode_uper uns ct a = INTEGER_encode_uper uns ct b := by
  have hl : INTEGER2long a = INTEGER2long b := by
    rw [Asn1c.Props.C16.INTEGER2long_spec a ha, Asn1c.Props.C16.INTEGER2long_spec b hb, h]
  have hu : INTEGER2ulong a = INTEGER2ulong b := by
    rw [Asn1c.Props.C16.INTEGER2ulong_spec a ha, Asn1c.Props.C16.INTEGER2ulong_spec b hb, h]
  unfold INTEGER_encode_uper INTEGER_uper_body
  rw [if_neg hane, if_neg hbne, hl, hu, strip_eq_of_val a b ha hb hane hbne h]

/-- C06 (finding F18 repaired): `INTEGER_encode_uper` sees the stored octets only through the leading-octet
    strip loop: redundant leading `00` / `FF` octets never reach the wire.  (`hu` is not used: `asn_INTEGER2ulong`
    rejects negative INTEGERs, so both sides fail alike outside the unsigned range.) -/
theorem INTEGER_encode_uper_strip (uns : Bool) (ct : Option PerCt) (bs : Bytes) (hw : Bytes.wf bs) (hne : bs ≠ [])
    (hu : uns = true → 0 ≤ twosVal bs ∧ twosVal bs < 2 ^ 64) :
    INTEGER_encode_uper uns ct (strip bs) = INTEGER_encode_uper uns ct bs := by
  have _ := hu
  exact INTEGER_encode_uper_eq_of_val uns ct _ bs (strip_wf bs hw) hw (strip_ne_nil bs hne) hne (strip_val bs hw)

/-- C06 (finding F18 repaired): two `INTEGER_t` representations of one value (any number of redundant leading
    octets) have the same UPER encoding (or the same failure), under every PER value constraint (`hu` is not used
    here either) -/
theorem INTEGER_encode_uper_repr_invariant (uns : Bool) (ct : Option PerCt) (a b : Bytes)
    (ha : Bytes.wf a) (hb : Bytes.wf b) (hane : a ≠ []) (hbne : b ≠ []) (h : twosVal a = twosVal b)
    (hu : uns = true → 0 ≤ twosVal a ∧ twosVal a < 2 ^ 64) :
    INTEGER_encode_uper uns ct a = INTEGER_encode_uper uns ct b := by
  have _ := hu
  exact INTEGER_encode_uper_eq_of_val uns ct a b ha hb hane hbne h

/-- the former F18 witness: `00 00 05` of an unconstrained INTEGER is written as `01 05` (was `03 00 00 05`) -/
theorem INTEGER_encode_uper_padded_witness :
    INTEGER_encode_uper false none [0, 0, 5] = some (bytesToBits [0x01, 0x05]) ∧
    INTEGER_encode_uper false none [5] = some (bytesToBits [0x01, 0x05]) := by decide

/-- C02 (findings F42 / F110 repaired): for a semi-constrained `INTEGER (lb..MAX)` (any lower bound, also
    negative or non-zero) and every value `lb ≤ v` of the `long` range, `INTEGER_encode_uper` emits exactly the
    semi-constrained whole number of X.691 §10.7: the length octet and the minimal non-negative octets of `v - lb`
    (no sign octet: 128 of `INTEGER (0..MAX)` is `01 80`) -/
theorem INTEGER_encode_uper_semi_eq_spec (lb ub v : Int) (bs : Bytes) (hw : Bytes.wf bs) (hv : twosVal bs = v)
    (hne : bs ≠ []) (hfv : fitsS64 v) (hfl : fitsS64 lb) (h : lb ≤ v) :
    INTEGER_encode_uper false (some ⟨false, true, -1, lb, ub⟩) bs = some (Spec.Per.semiConstrainedWholeNumber lb v) := by
  unfold fitsS64 at hfv hfl
  unfold INTEGER_encode_uper
  simp only [hne, if_false, Bool.false_eq_true]
  rw [Asn1c.Props.C16.INTEGER2long_spec bs hw, hv, if_pos (by unfold fitsS64; exact hfv)]
  simp only [if_true]
  rw [show decide (v < lb) = false by simp; omega]
  simp only [Bool.false_eq_true, if_false]
  unfold INTEGER_uper_body
  simp only
  rw [if_neg (by omega), if_pos trivial]
  have hmod : ((v - lb) % 2 ^ 64).toNat = (v - lb).toNat := by omega
  rw [hmod, uperLenOctets_short _ (Nat.le_trans (offsetOctets_length _) (by decide)), offsetOctets_eq _ (by omega)]
  rfl

/-- the former witnesses: `INTEGER (5..MAX)`, value 5 → `01 00` (F42: was an encoding failure);
    `INTEGER (0..MAX)`, value 128 → `01 80` (F110: was `02 00 80`) -/
theorem INTEGER_encode_uper_semi_witnesses :
    INTEGER_encode_uper false (some ⟨false, true, -1, 5, 0⟩) [5] = some (bytesToBits [0x01, 0x00]) ∧
    INTEGER_encode_uper false (some ⟨false, true, -1, 0, 0⟩) [0, 128] = some (bytesToBits [0x01, 0x80]) := by decide

/-- **-fwide-types does not change UPER**: same bits (or the same failure) from the native cell and
    from **any** `INTEGER_t` representation of the same value (redundant leading octets included: finding F18
    repaired), for every PER value constraint; `unsN`/`unsW` are the `field_unsigned` flags of the two descriptors
    (they differ for `INTEGER (0..MAX, ...)`, see `INTEGER_encode_uper_unsigned_irrelevant`), which is only allowed
    for a non-negative value and non-negative bounds. -/
theorem native_uper_eq_wide (unsN unsW : Bool) (ct : Option PerCt) (v : Int) (hv : fitsS64 v) (bs : Bytes)
    (hw : Bytes.wf bs) (hne : bs ≠ []) (hbs : twosVal bs = v)
    (hflag : unsN ≠ unsW → 0 ≤ v ∧ ∀ c, ct = some c → 0 ≤ c.lb ∧ c.lb < 2 ^ 63 ∧ 0 ≤ c.ub ∧ c.ub < 2 ^ 63)
    (hun : unsN = true → 0 ≤ v) :
    NativeInteger_encode_uper unsN ct (wordOfLong v) = INTEGER_encode_uper unsW ct bs := by
  obtain ⟨n1, n2, _, n4⟩ := nativeToINTEGER_spec unsN _ (wordOfLong_lt v)
  unfold NativeInteger_encode_uper
  rw [INTEGER_encode_uper_eq_of_val unsN ct _ bs n2 hw n1 hne
    (by rw [n4, nativeValue_wordOfLong unsN v hv hun, hbs])]
  by_cases hf : unsN = unsW
  · rw [hf]
  · obtain ⟨h0, hct⟩ := hflag hf
    have hirr : INTEGER_encode_uper true ct bs = INTEGER_encode_uper false ct bs :=
      INTEGER_encode_uper_unsigned_irrelevant ct bs hw (hbs ▸ h0) (hbs ▸ hv.2) hct
    rw [Bool.eq_not_of_ne hf]
    cases unsW
    · exact hirr
    · exact hirr.symm

/-- … unsigned native cell against a wide descriptor that also has `field_unsigned`: whole
    `unsigned long` range, every PER value constraint -/
theorem native_uper_unsigned_eq_wide (ct : Option PerCt) (u : Nat) (hu : u < 2 ^ 64) (bs : Bytes)
    (hw : Bytes.wf bs) (hne : bs ≠ []) (hm : MinimalTwos bs) (hbs : twosVal bs = u) :
    NativeInteger_encode_uper true ct u = INTEGER_encode_uper true ct bs := by
  unfold NativeInteger_encode_uper
  rw [nativeToINTEGER_unsigned_eq_wide u hu bs hw hne hm hbs]

theorem native_xer_spec (sp : Option IntSpecs) (w : Nat) :
    NativeInteger_encode_xer sp w = some (asciiOf (toString (nativeValue (sp.any IntSpecs.unsigned) w))) := by
  unfold NativeInteger_encode_xer nativeValue
  rw [apply_ite toString]
  cases sp <;> rfl

/-- `INTEGER_encode_xer` without named values and not strict prints the decimal numeral of the value denoted, when
    `asn_INTEGER2umax` / `asn_INTEGER2imax` (chosen by `field_unsigned`) can convert it -/
theorem wide_xer_spec (s : IntSpecs) (bs : Bytes) (hw : Bytes.wf bs) (hm : s.map = []) (hs : s.strict = false)
    (hf : if s.unsigned then fitsU64 (twosVal bs) else fitsS64 (twosVal bs)) :
    INTEGER_encode_xer (some s) bs = some (asciiOf (toString (twosVal bs))) := by
  unfold INTEGER_encode_xer
  simp only [value2enum, hm, hs, List.find?_nil, Option.map_none, ite_self]
  by_cases hu : s.unsigned = true
  · rw [if_pos hu] at hf
    obtain ⟨n, hn⟩ := Int.eq_ofNat_of_zero_le hf.1
    rw [hn] at hf
    have hlt : n < 2 ^ 64 := by have : (n : Int) < 2 ^ 64 := hf.2; omega
    simp only [hu, if_true, Asn1c.Props.C16.INTEGER2umax_spec bs hw, if_pos hf, hn, Int.toNat_natCast,
      wordOfLong_toSigned64 n hlt, Bool.false_eq_true, if_false]
    rfl
  · rw [if_neg hu] at hf
    simp only [hu, if_false, Asn1c.Props.C16.INTEGER2imax_spec bs hw, if_pos hf, Bool.false_eq_true]

/-- **-fwide-types does not change XER** (text between the tags): the native `%ld`/`%lu` text equals
    what `INTEGER__dump` prints for any `INTEGER_t` denoting the same value, when the value has no
    entry in the named-value map (asn1c emits a map only for ENUMERATED) and the descriptor is not
    a strict enumeration; `spN`/`spW` are the specifics of the two descriptors. -/
theorem native_xer_eq_wide (spN spW : Option IntSpecs) (v : Int) (hv : fitsS64 v) (bs : Bytes)
    (hw : Bytes.wf bs) (hbs : twosVal bs = v)
    (hN : ∀ s, spN = some s → s.unsigned = true → 0 ≤ v)
    (hW : spW = none ∨ ∃ s, spW = some s ∧ s.map = [] ∧ s.strict = false ∧ (s.unsigned = true → 0 ≤ v)) :
    NativeInteger_encode_xer spN (wordOfLong v) = INTEGER_encode_xer spW bs := by
  subst hbs
  have hL : NativeInteger_encode_xer spN (wordOfLong (twosVal bs)) = some (asciiOf (toString (twosVal bs))) := by
    rw [native_xer_spec, nativeValue_wordOfLong _ _ hv]
    cases spN with
    | none => exact nofun
    | some s => exact hN s rfl
  rw [hL]
  -- absent specifics behave as specifics with no map and no flag
  rcases hW with rfl | ⟨s, rfl, hm, hs, hun⟩
  · exact (wide_xer_spec ⟨[], 0, false, false⟩ bs hw rfl rfl hv).symm
  · refine (wide_xer_spec s bs hw hm hs ?_).symm
    split
    · exact ⟨hun ‹_›, by have : twosVal bs < 2 ^ 63 := hv.2; omega⟩
    · exact hv

/-- … unsigned native cell against a wide descriptor that also has `field_unsigned` (`%lu` versus
    `INTEGER__dump`'s `asn_INTEGER2umax` + `PRIuMAX`): the same decimal text over the whole
    `unsigned long` range -/
theorem native_xer_unsigned_eq_wide (sN sW : IntSpecs) (hN : sN.unsigned = true) (hW : sW.unsigned = true)
    (hmap : sW.map = []) (hstrict : sW.strict = false) (u : Nat) (hu : u < 2 ^ 64) (bs : Bytes)
    (hw : Bytes.wf bs) (hbs : twosVal bs = u) :
    NativeInteger_encode_xer (some sN) u = INTEGER_encode_xer (some sW) bs := by
  rw [native_xer_spec, wide_xer_spec sW bs hw hmap hstrict (by rw [hW, hbs]; exact ⟨by omega, by omega⟩), hbs]
  simp only [Option.any, hN, nativeValue, if_true]

/-- the former witness of finding F173, `U ::= INTEGER (0..MAX)` holding 2^63: with `field_unsigned` in the
    -fwide-types descriptor too, `INTEGER__dump` prints the decimal numeral the native `%lu` prints (without the flag
    `asn_INTEGER2imax` fails and the long form `00:80:..` was printed - outside this model: `none`) -/
theorem ref_F173_witness :
    INTEGER_encode_xer (some ⟨[], 0, false, true⟩) [0, 0x80, 0, 0, 0, 0, 0, 0, 0] = some (asciiOf "9223372036854775808") ∧
    NativeInteger_encode_xer (some ⟨[], 0, false, true⟩) (2 ^ 63) = some (asciiOf "9223372036854775808") ∧
    INTEGER_encode_xer none [0, 0x80, 0, 0, 0, 0, 0, 0, 0] = none := by decide

/-! ### ENUMERATED: the wide codecs convert with `asn_INTEGER2long` and call the native ones -/

/-- **ENUMERATED, OER**: the wide encoder on any `ENUMERATED_t` denoting `v` gives exactly what the
    native encoder gives on the cell holding `v`. -/
theorem enum_oer_wide_eq_native (bs : Bytes) (hw : Bytes.wf bs) (hf : fitsS64 (twosVal bs)) :
    ENUMERATED_encode_oer bs = NativeEnumerated_encode_oer (wordOfLong (twosVal bs)) := by
  unfold ENUMERATED_encode_oer
  rw [Asn1c.Props.C16.INTEGER2long_spec bs hw, if_pos hf]

/-- **ENUMERATED, UPER**: likewise, for every enumeration map and PER constraint. -/
theorem enum_uper_wide_eq_native (sp : Option IntSpecs) (ct : Option PerCt) (bs : Bytes) (hw : Bytes.wf bs)
    (hf : fitsS64 (twosVal bs)) :
    ENUMERATED_encode_uper sp ct bs = NativeEnumerated_encode_uper sp ct (wordOfLong (twosVal bs)) := by
  unfold ENUMERATED_encode_uper
  rw [Asn1c.Props.C16.INTEGER2long_spec bs hw, if_pos hf]

/-- **ENUMERATED, XER**: for a strict, signed enumeration descriptor (what asn1c emits for every
    ENUMERATED) `INTEGER_encode_xer` on the wide value and `NativeEnumerated_encode_xer` on the native
    cell print the same `<identifier/>`, or both fail when the value has no identifier. -/
theorem enum_xer_wide_eq_native (s : IntSpecs) (hs : s.strict = true) (hu : s.unsigned = false) (bs : Bytes)
    (hw : Bytes.wf bs) (hf : fitsS64 (twosVal bs)) :
    INTEGER_encode_xer (some s) bs = NativeEnumerated_encode_xer (some s) (wordOfLong (twosVal bs)) := by
  unfold INTEGER_encode_xer NativeEnumerated_encode_xer
  rw [toSigned64_wordOfLong _ hf]
  simp only [hu, hs, Bool.false_eq_true, if_false]
  rw [Asn1c.Props.C16.INTEGER2imax_spec bs hw, if_pos hf]
  simp only [or_true, if_true]

/-! ### -findirect-choice (ATF_POINTER) and the naming options -/

/-- **where a member lives is irrelevant**: the constructed encoders reach a member only through
    `memb_ptr`; two structures whose members have the same `memb_ptr` views (inline `v` versus a
    non-NULL pointer to `v`) encode identically, whatever the member encoders are. -/
theorem pointer_flag_irrelevant {α β : Type} (ms ms' : List (Member α β))
    (h : List.Forall₂ (fun m m' => m.enc = m'.enc ∧ m.optional = m'.optional ∧ m.slot.membPtr = m'.slot.membPtr) ms ms') :
    encodeMembers ms = encodeMembers ms' := by
  induction h with
  | nil => rfl
  | cons hm _ ih =>
    obtain ⟨h1, h2, h3⟩ := hm
    simp only [encodeMembers, encodeMember, h1, h2, h3, ih]

/-- the instance -findirect-choice creates: an inline member and a pointer member holding the same value -/
theorem pointer_flag_irrelevant_single {α β : Type} (enc : α → Option β) (opt : Bool) (v : α) :
    encodeMember ⟨enc, opt, .inline v⟩ = encodeMember ⟨enc, opt, .pointer (some v)⟩ := rfl

/-- **names**: of the three names attached to a generated type only `xml_tag` (the ASN.1 identifier,
    the same under every option) reaches an encoder, and only the XER one; the C identifier that
    -fcompound-names changes is not an input of any modelled codec.  (A structural remark about the
    model: none of the encoders in Impl/Native.lean takes a `TypeNames` except `xerElement`.) -/
theorem names_irrelevant (n n' : TypeNames) (h : n.xmlTag = n'.xmlTag) (body : Bytes) :
    xerElement n body = xerElement n' body := by
  unfold xerElement; rw [h]

/-! ### the hypotheses are satisfiable -/

example : fitsS64 (-129) ∧ Bytes.wf [255, 255, 127] ∧ twosVal [255, 255, 127] = -129 ∧
    NativeInteger_encode_der false ⟨0, 2⟩ (wordOfLong (-129)) = [2, 2, 255, 127] ∧
    INTEGER_encode_der ⟨0, 2⟩ [255, 255, 127] = [2, 2, 255, 127] := by decide
example : NativeInteger_encode_oer 0 false false (wordOfLong (-129)) = some [2, 255, 127] ∧
    INTEGER_encode_oer 0 false [255, 127] = some [2, 255, 127] ∧
    NativeInteger_encode_oer 2 true true 300 = some [1, 44] := by decide
example : NativeInteger_encode_uper true (some ⟨false, true, -1, 0, 0⟩) 5 =
    INTEGER_encode_uper false (some ⟨false, true, -1, 0, 0⟩) [5] := by decide

end Asn1c.Props.C13
