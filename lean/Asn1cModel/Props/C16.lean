import Asn1cModel.Proofs.Integer
import Asn1cModel.Proofs.Strtox
import Asn1cModel.Proofs.Real
import Mathlib.Algebra.Group.Nat.Defs
/-
  C16 — INTEGER and REAL conversion helpers are exact and produce canonical contents.
  Property theorems only (helper lemmas: Proofs/Integer.lean, Proofs/Strtox.lean, Proofs/Real.lean).
  Impl = model of skeletons/INTEGER.c, tied to the C code by the `prim_driver` correspondence.
  `Mathlib.Algebra.Group.Nat.Defs` is imported because the statements here read their `2 ^ 64`, `2 ^ 53` through
  Mathlib's `Monoid ℕ` (DESIGN.md II.8).
-/
namespace Asn1c.Props.C16
open Asn1c Asn1c.Impl.Integer Asn1c.Spec Asn1c.Proofs.Integer

/-- **asn_imax2INTEGER / asn_long2INTEGER**: for every 64-bit signed v the stored octets are
    non-empty, are octets, satisfy X.690 §8.3.2 (minimal) and denote v. -/
theorem imax2INTEGER_spec (v : Int) (h : fitsS64 v) :
    imax2INTEGER v ≠ [] ∧ Bytes.wf (imax2INTEGER v) ∧ MinimalTwos (imax2INTEGER v) ∧
    twosVal (imax2INTEGER v) = v :=
  Asn1c.Proofs.Integer.imax2INTEGER_spec v h

/-- **asn_INTEGER2imax** on any octet string (non-minimal forms of any length included):
    returns the denoted value exactly when it fits `intmax_t`, otherwise ERANGE. -/
theorem INTEGER2imax_spec (bs : Bytes) (h : Bytes.wf bs) :
    INTEGER2imax bs = if fitsS64 (twosVal bs) then .ok (twosVal bs) else .erange :=
  Asn1c.Proofs.Integer.INTEGER2imax_spec bs h

/-- `asn_INTEGER2long`: the `long` instance of `INTEGER2imax_spec` (`long` = `intmax_t` on LP64), used by Props/C13.lean -/
theorem INTEGER2long_spec (bs : Bytes) (h : Bytes.wf bs) :
    INTEGER2long bs = if fitsS64 (twosVal bs) then .ok (twosVal bs) else .erange :=
  Asn1c.Proofs.Integer.INTEGER2long_spec bs h

/-- round trip for every `intmax_t` / `long` -/
theorem INTEGER2imax_imax2INTEGER (v : Int) (h : fitsS64 v) : INTEGER2imax (imax2INTEGER v) = .ok v := by
  obtain ⟨_, hw, _, hv⟩ := imax2INTEGER_spec v h
  rw [INTEGER2imax_spec _ hw, hv, if_pos h]

theorem INTEGER2long_long2INTEGER (v : Int) (h : fitsS64 v) : INTEGER2long (imax2INTEGER v) = .ok v := by
  obtain ⟨_, hw, _, hv⟩ := imax2INTEGER_spec v h
  rw [INTEGER2long_spec _ hw, hv, if_pos h]

/-- **asn_umax2INTEGER**: canonical octets for every `uintmax_t` -/
theorem umax2INTEGER_spec (v : Nat) (h : v < 2 ^ 64) :
    umax2INTEGER v ≠ [] ∧ Bytes.wf (umax2INTEGER v) ∧ MinimalTwos (umax2INTEGER v) ∧
    twosVal (umax2INTEGER v) = v := by
  unfold umax2INTEGER
  split
  · exact imax2INTEGER_spec v (by unfold fitsS64; omega)
  · -- above `INTMAX_MAX`: a 00 octet in front of the 8 octets, the first of which has its top bit set
    have hhd : ¬ v / 256 ^ 7 % 256 < 128 := by omega
    refine ⟨List.cons_ne_nil _ _, wf_cons (by decide) (toBEn_wf 8 v), hhd, ?_⟩
    rw [twosVal_zero_cons, unsVal, ofBE_toBEn_lt (by omega)]

/-- **asn_INTEGER2umax** on any octet string (non-minimal forms of any length included): returns the
    denoted value exactly when it fits `uintmax_t` (0 ≤ value < 2^64), otherwise ERANGE; in particular
    every negative INTEGER is a range error (finding F3 repaired). -/
theorem INTEGER2umax_spec (bs : Bytes) (h : Bytes.wf bs) :
    INTEGER2umax bs = if fitsU64 (twosVal bs) then .ok (twosVal bs).toNat else .erange :=
  Asn1c.Proofs.Integer.INTEGER2umax_spec bs h

/-- **asn_INTEGER2ulong** (`unsigned long` = `uintmax_t` on LP64): likewise -/
theorem INTEGER2ulong_spec (bs : Bytes) (h : Bytes.wf bs) :
    INTEGER2ulong bs = if fitsU64 (twosVal bs) then .ok (twosVal bs).toNat else .erange :=
  Asn1c.Proofs.Integer.INTEGER2ulong_spec bs h

/-- round trip for every `uintmax_t` -/
theorem INTEGER2umax_umax2INTEGER (v : Nat) (h : v < 2 ^ 64) : INTEGER2umax (umax2INTEGER v) = .ok v := by
  obtain ⟨_, hw, _, hv⟩ := umax2INTEGER_spec v h
  rw [INTEGER2umax_spec _ hw, hv, if_pos (by unfold fitsU64; omega)]
  simp

/-- the former F3 witness: the INTEGER −1 (`FF`) is now a range error, and so is every negative INTEGER -/
theorem INTEGER2umax_negative_erange (bs : Bytes) (h : Bytes.wf bs) (hneg : twosVal bs < 0) :
    INTEGER2umax bs = .erange ∧ INTEGER2ulong bs = .erange := by
  rw [INTEGER2umax_spec bs h, INTEGER2ulong_spec bs h, if_neg (by unfold fitsU64; omega)]
  exact ⟨rfl, rfl⟩

example : twosVal [255] = -1 ∧ INTEGER2umax [255] = .erange ∧ INTEGER2ulong [255] = .erange := by decide

/-- **asn_ulong2INTEGER**: canonical octets for every `unsigned long` (finding F2 repaired: the value no longer
    passes through `intmax_t`). -/
theorem ulong2INTEGER_spec (v : Nat) (h : v < 2 ^ 64) :
    ulong2INTEGER v ≠ [] ∧ Bytes.wf (ulong2INTEGER v) ∧ MinimalTwos (ulong2INTEGER v) ∧
    twosVal (ulong2INTEGER v) = v := by
  unfold ulong2INTEGER
  exact umax2INTEGER_spec v h

/-- the former F2 witness: 2^63 is stored as the positive INTEGER 00 80 00 00 00 00 00 00 00 -/
example : ulong2INTEGER (2 ^ 63) = [0, 128, 0, 0, 0, 0, 0, 0, 0] := by decide

open Asn1c.Proofs.Strtox

/-! ### decimal parsers `asn_strtoimax_lim`, `asn_strtoumax_lim`, `asn_strtol_lim`, `asn_strtoul_lim`

  "The parsers accept exactly the in-range numerals."  `numeral? signed s` (Spec/Numeral.lean) is
  `some v` iff the *whole* byte string `s` is `['+' | '-'] digit+` (ASCII, leading zeros allowed,
  '-' only when `signed`) and denotes `v`.  Bytes are arbitrary `Nat`s.  `.ok` = ASN_STRTOX_OK;
  `endPos` = offset of `*end`, `val` = the value stored through the out-pointer. -/

/-- `numeral?` spelled out: `s = sign ++ digits`, sign empty, "+" or (signed only) "-",
    one or more ASCII digits, value = ± the decimal value of the digits. -/
theorem numeral?_spelled_out (signed : Bool) (s : List Nat) (v : Int) :
    numeral? signed s = some v ↔
      ∃ sign digits, s = sign ++ digits ∧
        (sign = [] ∨ sign = [0x2b] ∨ (signed = true ∧ sign = [0x2d])) ∧
        digits ≠ [] ∧ allDigits digits ∧
        v = (if sign = [0x2d] then -1 else 1) * (digitsVal 0 digits : Int) := by
  constructor
  · intro h
    revert h
    fun_cases numeral? signed s <;> intro h
    case case1 | case3 => cases h
    case case2 cs hs =>
      obtain ⟨n, hn, rfl⟩ := Option.map_eq_some_iff.mp h
      obtain ⟨hne, hd, rfl⟩ := digits?_eq_some_iff.mp hn
      exact ⟨[0x2d], cs, rfl, .inr (.inr ⟨hs, rfl⟩), hne, hd, by simp⟩
    case case4 cs _ =>
      obtain ⟨n, hn, rfl⟩ := Option.map_eq_some_iff.mp h
      obtain ⟨hne, hd, rfl⟩ := digits?_eq_some_iff.mp hn
      exact ⟨[0x2b], cs, rfl, .inr (.inl rfl), hne, hd, by simp⟩
    case case5 c cs _ _ =>
      obtain ⟨n, hn, rfl⟩ := Option.map_eq_some_iff.mp h
      obtain ⟨hne, hd, rfl⟩ := digits?_eq_some_iff.mp hn
      exact ⟨[], c :: cs, rfl, .inl rfl, hne, hd, by simp⟩
  · rintro ⟨sign, digits, rfl, hs, hne, hd, rfl⟩
    rcases hs with rfl | rfl | ⟨rfl, rfl⟩
    · cases digits with
      | nil => exact absurd rfl hne
      | cons c cs =>
        have hc : 0x30 ≤ c ∧ c ≤ 0x39 := (isDigit_iff c).mp ((allDigits_cons c cs).mp hd).1
        have h1 : c ≠ 0x2d := by omega
        have h2 : c ≠ 0x2b := by omega
        simp [numeral?, h1, h2, digits?, hd]
    · simp [numeral?, digits?, hne, hd]
    · simp [numeral?, digits?, hne, hd]

/-- **asn_strtoimax_lim** returns ASN_STRTOX_OK exactly on the numerals that fit `intmax_t`
    (every other byte string: some other result code). -/
theorem strtoimax_accepts_iff (s : List Nat) :
    (strtoimax s).res = .ok ↔ ∃ v, numeral? true s = some v ∧ fitsS64 v :=
  ⟨(strtoimax_char s).2, fun ⟨v, hv, hf⟩ => by rw [(strtoimax_char s).1 v hv hf]⟩

/-- **asn_strtoimax_lim** on an in-range numeral: OK, `*end` at the end of the input,
    the exact value stored. -/
theorem strtoimax_ok_value (s : List Nat) (v : Int) (hv : numeral? true s = some v) (hf : fitsS64 v) :
    strtoimax s = ⟨.ok, s.length, some v⟩ :=
  (strtoimax_char s).1 v hv hf

/-- `strtoimax_accepts_iff` + `strtoimax_ok_value` in one explicit statement (no `numeral?`). -/
theorem strtoimax_explicit (s : List Nat) :
    (strtoimax s).res = .ok ↔
      ∃ sign digits, s = sign ++ digits ∧ (sign = [] ∨ sign = [0x2b] ∨ sign = [0x2d]) ∧
        digits ≠ [] ∧ allDigits digits ∧
        fitsS64 ((if sign = [0x2d] then -1 else 1) * (digitsVal 0 digits : Int)) ∧
        strtoimax s = ⟨.ok, s.length,
          some ((if sign = [0x2d] then -1 else 1) * (digitsVal 0 digits : Int))⟩ := by
  constructor
  · intro h
    obtain ⟨v, hv, hf⟩ := (strtoimax_accepts_iff s).mp h
    obtain ⟨sign, digits, hs, hsg, hne, hd, rfl⟩ := (numeral?_spelled_out true s v).mp hv
    refine ⟨sign, digits, hs, ?_, hne, hd, hf, strtoimax_ok_value s _ hv hf⟩
    rcases hsg with h | h | ⟨_, h⟩ <;> simp [h]
  · rintro ⟨_, _, _, _, _, _, _, h⟩; rw [h]

/-- **asn_strtoumax_lim** returns ASN_STRTOX_OK exactly on the unsigned numerals (optional '+',
    no '-') that fit `uintmax_t`. -/
theorem strtoumax_accepts_iff (s : List Nat) :
    (strtoumax s).res = .ok ↔ ∃ v, numeral? false s = some v ∧ fitsU64 v :=
  ⟨(strtoumax_char s).2, fun ⟨v, hv, hf⟩ => by rw [(strtoumax_char s).1 v hv hf]⟩

/-- **asn_strtoumax_lim** on an in-range numeral: OK, `*end` at the end, the exact value. -/
theorem strtoumax_ok_value (s : List Nat) (v : Int) (hv : numeral? false s = some v) (hf : fitsU64 v) :
    strtoumax s = ⟨.ok, s.length, some v⟩ :=
  (strtoumax_char s).1 v hv hf

/-- explicit form for **asn_strtoumax_lim** (no `numeral?`) -/
theorem strtoumax_explicit (s : List Nat) :
    (strtoumax s).res = .ok ↔
      ∃ sign digits, s = sign ++ digits ∧ (sign = [] ∨ sign = [0x2b]) ∧
        digits ≠ [] ∧ allDigits digits ∧ digitsVal 0 digits < 2 ^ 64 ∧
        strtoumax s = ⟨.ok, s.length, some (digitsVal 0 digits : Int)⟩ := by
  constructor
  · intro h
    obtain ⟨v, hv, hf⟩ := (strtoumax_accepts_iff s).mp h
    obtain ⟨sign, digits, hs, hsg, hne, hd, hval⟩ := (numeral?_spelled_out false s v).mp hv
    -- no "-" for the unsigned parser, so the value is that of the digits
    have hsg' : sign = [] ∨ sign = [0x2b] := by simpa using hsg
    have hv2 : v = (digitsVal 0 digits : Int) := by
      rcases hsg' with rfl | rfl <;> simpa using hval
    subst hv2
    exact ⟨sign, digits, hs, hsg', hne, hd, by exact_mod_cast hf.2, strtoumax_ok_value s _ hv hf⟩
  · rintro ⟨_, _, _, _, _, _, _, h⟩; rw [h]

/-- **asn_strtol_lim** (LP64: `long` = 64 bit): OK exactly on the numerals that fit `long`. -/
theorem strtol_accepts_iff (s : List Nat) :
    (strtol s).res = .ok ↔ ∃ v, numeral? true s = some v ∧ fitsS64 v :=
  ⟨(strtol_char s).2, fun ⟨v, hv, hf⟩ => by rw [(strtol_char s).1 v hv hf]⟩

/-- **asn_strtol_lim** on an in-range numeral: OK, `*end` at the end, the exact value. -/
theorem strtol_ok_value (s : List Nat) (v : Int) (hv : numeral? true s = some v) (hf : fitsS64 v) :
    strtol s = ⟨.ok, s.length, some v⟩ :=
  (strtol_char s).1 v hv hf

/-- **asn_strtoul_lim** (LP64): OK exactly on the unsigned numerals that fit `unsigned long`. -/
theorem strtoul_accepts_iff (s : List Nat) :
    (strtoul s).res = .ok ↔ ∃ v, numeral? false s = some v ∧ fitsU64 v :=
  ⟨(strtoul_char s).2, fun ⟨v, hv, hf⟩ => by rw [(strtoul_char s).1 v hv hf]⟩

/-- **asn_strtoul_lim** on an in-range numeral: OK, `*end` at the end, the exact value. -/
theorem strtoul_ok_value (s : List Nat) (v : Int) (hv : numeral? false s = some v) (hf : fitsU64 v) :
    strtoul s = ⟨.ok, s.length, some v⟩ :=
  (strtoul_char s).1 v hv hf

/-- "9223372036854775807" (INTMAX_MAX) is accepted with its value -/
example : strtoimax [0x39,0x32,0x32,0x33,0x33,0x37,0x32,0x30,0x33,0x36,0x38,0x35,0x34,0x37,0x37,0x35,0x38,0x30,0x37]
    = ⟨.ok, 19, some 9223372036854775807⟩ := by decide
/-- "9223372036854775808" is rejected with ASN_STRTOX_ERROR_RANGE -/
example : (strtoimax [0x39,0x32,0x32,0x33,0x33,0x37,0x32,0x30,0x33,0x36,0x38,0x35,0x34,0x37,0x37,0x35,0x38,0x30,0x38]).res
    = .range := by decide
/-- "-9223372036854775808" (INTMAX_MIN) is accepted with its value -/
example : strtoimax [0x2d,0x39,0x32,0x32,0x33,0x33,0x37,0x32,0x30,0x33,0x36,0x38,0x35,0x34,0x37,0x37,0x35,0x38,0x30,0x38]
    = ⟨.ok, 20, some (-9223372036854775808)⟩ := by decide
/-- "+18446744073709551615" (UINTMAX_MAX) accepted, "18446744073709551616" → RANGE, "-1" → INVAL,
    "12x" → EXTRA_DATA (unsigned parser) -/
example : strtoumax [0x2b,0x31,0x38,0x34,0x34,0x36,0x37,0x34,0x34,0x30,0x37,0x33,0x37,0x30,0x39,0x35,0x35,0x31,0x36,0x31,0x35]
      = ⟨.ok, 21, some 18446744073709551615⟩ ∧
    (strtoumax [0x31,0x38,0x34,0x34,0x36,0x37,0x34,0x34,0x30,0x37,0x33,0x37,0x30,0x39,0x35,0x35,0x31,0x36,0x31,0x36]).res
      = .range ∧
    (strtoumax [0x2d,0x31]).res = .inval ∧ (strtoumax [0x31,0x32,0x78]).res = .extra := by decide
/-- the spec side on the same strings -/
example : numeral? true [0x2d,0x30,0x30,0x37] = some (-7) ∧ numeral? false [0x2d,0x37] = none ∧
    numeral? true [0x2b] = none ∧ numeral? true [0x31,0x20] = none := by decide

/-! ### REAL: `asn_double2REAL` / `asn_REAL2double` (Impl/Real.lean, Spec/Real.lean)

  A double is its IEEE-754 bit pattern `b < 2^64`.  `derReal b` is the X.690 §8.5/§11.3 DER
  contents (base 2, odd mantissa, fewest exponent and mantissa octets, specials, +0 = empty).
  `t = ctz (f64Mant b)` is the number of trailing zero bits of the 53-bit significand. -/

section Real
open Asn1c.Impl.Real Asn1c.Proofs.Real

/-- **asn_double2REAL, special values**: NaN (every payload, either sign), ±∞ and ±0 are stored
    exactly as X.690 §8.5.9 / §8.5.3 prescribe (42, 40/41, empty contents / 43). -/
theorem double2REAL_special_eq_derReal (b : Nat) (h : f64IsNaN b ∨ f64IsInf b ∨ f64IsZero b) :
    double2REAL b = derReal b :=
  -- a case of `double2REAL_eq_derReal` below; `h` is applied to only so that it is used
  (fun _ => Asn1c.Proofs.Real.double2REAL_eq_derReal b) h

/-- **asn_double2REAL = DER, every double** (all bit patterns: normal, subnormal, ±0, ±∞, NaN):
    the stored octets are exactly the X.690 DER contents `derReal` (§8.5 + §11.3.1: base 2, odd
    mantissa, exponent and mantissa each in the fewest octets; see `derReal_canonical`).
    Before the repair of F1 (subnormals got a hidden bit) and F31 (a redundant leading 00 mantissa
    octet after a shift by 5..7 bits) this held only for part of the normal doubles. -/
theorem double2REAL_eq_derReal (b : Nat) : double2REAL b = derReal b :=
  Asn1c.Proofs.Real.double2REAL_eq_derReal b

/-- former F31 witness: `asn_double2REAL(1.0078125)` stored `80 F9 00 81`; it now stores the DER
    contents `80 F9 81` (X.690 §11.3.1: mantissa in the fewest octets). -/
theorem double2REAL_leading_zero_witness :
    f64IsNormal 0x3ff0200000000000 ∧ double2REAL 0x3ff0200000000000 = [0x80, 0xf9, 0x81] ∧
    derReal 0x3ff0200000000000 = [0x80, 0xf9, 0x81] := by decide +kernel

set_option exponentiation.threshold 2000 in
/-- former F1 witness: the subnormal double with bit pattern 3 (3·2^-1074) was stored with a hidden
    bit as (2^52+3)·2^-1125 and decoded back as the bit pattern 2; it is now stored in the DER form
    `81 FB CE 03` and comes back bit for bit (as do the smallest and the largest subnormal). -/
theorem double2REAL_subnormal_witness :
    f64IsSubnormal 3 ∧ double2REAL 3 = [0x81, 0xfb, 0xce, 0x03] ∧
    derReal 3 = [0x81, 0xfb, 0xce, 0x03] ∧ REAL2double (double2REAL 3) = .ok 3 ∧
    double2REAL 1 = [0x81, 0xfb, 0xce, 0x01] ∧
    double2REAL 0x000fffffffffffff = [0x81, 0xfb, 0xce, 0x0f, 0xff, 0xff, 0xff, 0xff, 0xff, 0xff] ∧
    REAL2double (double2REAL 0x800fffffffffffff) = .ok 0x800fffffffffffff := by decide +kernel

/-- **asn_REAL2double, binary encodings** (X.690 §8.5.7) with base 2, 8 or 16 (`base` = 0, 1, 2),
    scaling factor `F`, sign `s`, the exponent in 1–3 octets (`eo`, any two's-complement octets,
    minimal or not) and a mantissa `N < 2^53` (any octets, leading zeros allowed): the result is
    the correctly rounded (nearest-even) double of `(-1)^s · N · 2^F · B^E`, ERANGE iff that
    rounds to infinity.  (For wider mantissas the C code rounds at every accumulation step.) -/
theorem REAL2double_binary_spec (s base F : Nat) (hs : s ≤ 1) (hb : base ≤ 2) (hF : F ≤ 3)
    (eo : Bytes) (hel : 1 ≤ eo.length ∧ eo.length ≤ 3) (mant : Bytes) (hm : ofBE 0 mant < 2 ^ 53) :
    REAL2double ((128 + 64 * s + 16 * base + 4 * F + (eo.length - 1)) :: (eo ++ mant)) =
      (let r := roundToDouble (ofBE 0 mant)
                  (expValue eo * ((if base = 0 then 1 else if base = 1 then 3 else 4 : Nat) : Int) + (F : Nat))
       if r ≥ posInf then .erange else .ok (s * signBit + r)) :=
  Asn1c.Proofs.Real.REAL2double_binary_spec s base F hs hb hF eo hel mant hm

/-- instance: base 16, F = 2, negative, E = −1, N = 3: −(3·2²·16⁻¹) = −0.75 -/
example : REAL2double [0xE8, 0xff, 0x03] = .ok 0xBFE8000000000000 := by decide +kernel

/-- **asn_REAL2double decodes the DER contents of every finite or infinite double exactly**
    (subnormals included). -/
theorem REAL2double_derReal (b : Nat) (hb : b < 2 ^ 64) (hnan : ¬ f64IsNaN b) :
    REAL2double (derReal b) = .ok b :=
  Asn1c.Proofs.Real.REAL2double_derReal b hb hnan

/-- **round trip, every double**: `asn_REAL2double(asn_double2REAL(d)) = d` bit for bit for every
    double that is not a NaN — normal, subnormal, ±0, ±∞ (a NaN comes back as a NaN:
    `REAL2double_double2REAL_special`). -/
theorem REAL2double_double2REAL (b : Nat) (hb : b < 2 ^ 64) (hnan : ¬ f64IsNaN b) :
    REAL2double (double2REAL b) = .ok b :=
  Asn1c.Proofs.Real.REAL2double_double2REAL b hb hnan

/-- **round trip, special values**: ±0 and ±∞ come back bit for bit; every NaN comes back as a NaN
    (the C code returns the `NAN` macro, so the payload is not preserved). -/
theorem REAL2double_double2REAL_special (b : Nat) (hb : b < 2 ^ 64) :
    ((f64IsZero b ∨ f64IsInf b) → REAL2double (double2REAL b) = .ok b) ∧
    (f64IsNaN b → ∃ r, REAL2double (double2REAL b) = .ok r ∧ f64IsNaN r) := by
  refine ⟨fun h => REAL2double_double2REAL b hb ?_, ?_⟩
  · unfold f64IsNaN; unfold f64IsZero f64IsInf at h; omega
  · rintro ⟨h1, h2⟩
    refine ⟨nanBits, ?_, by decide⟩
    -- a NaN is stored as the one octet 42, which reads back as the `NAN` macro
    rw [double2REAL_eq_derReal, derReal, if_pos h1, if_pos h2]
    rfl

/-- **the Spec is canonical** (sanity of `derReal`, X.690 §11.3.1): for every finite non-zero double
    the mantissa `n` is odd, `n · 2^e` is exactly the value of the double, the exponent octets are the
    minimal two's-complement form of `e`, and the mantissa octets are the minimal base-256 form of `n`. -/
theorem derReal_canonical (b : Nat) (hf : f64Exp b ≠ 2047) (h0 : f64Mant b ≠ 0) :
    let t := ctz (f64Mant b)
    let n := f64Mant b / 2 ^ t
    let e : Int := f64Pow b + (t : Nat)
    derReal b = (0x80 + 0x40 * f64Sign b + ((realExpOctets e).length - 1)) :: (realExpOctets e ++ toBE n) ∧
    n % 2 = 1 ∧ n * 2 ^ t = f64Mant b ∧
    MinimalTwos (realExpOctets e) ∧ twosVal (realExpOctets e) = e ∧
    ofBE 0 (toBE n) = n ∧ (∀ x l, toBE n = x :: l → x ≠ 0) := by
  intro t n e
  obtain ⟨_, ht, hp1, hp2⟩ := f64_bounds b h0
  obtain ⟨p1, p2⟩ := ctz_props (f64Mant b) h0
  have h1 : -32768 ≤ e := by omega
  have h2 : e < 32768 := by omega
  refine ⟨?_, p2, Nat.div_mul_cancel (Nat.dvd_of_mod_eq_zero p1), realExpOctets_minimal e h1 h2,
    twosVal_realExpOctets e h1 h2, ofBE_toBE n, toBE_head_ne_zero n⟩
  unfold derReal; rw [if_neg hf, if_neg h0]

/-- **asn_REAL2double, reserved forms** (X.690 §8.5.6/§8.5.7.2): first octets 00, 04..3F (reserved
    decimal forms), 44..7F (reserved special values) and binary encodings with base bits 11 are
    rejected with EINVAL, whatever follows. -/
theorem REAL2double_reserved_einval (o : Nat) (ho : o < 256) (tl : Bytes)
    (h : o = 0 ∨ (4 ≤ o ∧ o < 0x40) ∨ (0x44 ≤ o ∧ o < 0x80) ∨ (0x80 ≤ o ∧ o / 16 % 4 = 3)) :
    REAL2double (o :: tl) = .einval := by
  unfold REAL2double
  simp only []
  rcases h with h | h | h | h
  · subst h; simp
  · rw [if_neg (by omega), if_pos (by omega), if_pos (Or.inr (by omega))]
  · rw [if_pos (by omega), if_neg (by omega), if_neg (by omega), if_neg (by omega), if_neg (by omega)]
  · rw [if_neg (by omega), if_neg (by omega), h.2]; rfl

end Real

end Asn1c.Props.C16
