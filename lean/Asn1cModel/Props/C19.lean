import Asn1cModel.Impl.Reentrancy
import Asn1cModel.Generated.Globals
/-
C19 — "Codecs are reentrant: concurrent use equals sequential use, without data races".

First, abstract non-interference (`Impl/Reentrancy.lean`): for step functions obeying the
footprint discipline `Framed` – write only what the calling thread owns, depend only on what it owns
and on the read-only shared part – EVERY schedule (all interleavings, any granularity, any number of
threads) gives each thread exactly the results, and leaves its private memory exactly as, its own
script run alone; the read-only shared part is never changed.  Without the discipline (one `static`
scratch buffer) the statement is false (`shared_scratch_breaks_sequential`).

Then the absence of writable shared state on the codec paths: `Generated/Globals.lean` is rewritten by
the translator `vlib/trans_globals.py` on every check run from the *current* skeleton sources
(`nm` on freshly compiled -O0 and -O2 objects + source scan).  The theorems below are closed by `decide`
over the complete generated lists, so a new `static char scratch[]` in a codec, a new call of a debug
helper outside `ASN_DEBUG`, or a new `localtime()`/`setenv()` breaks the build of this file.

What is NOT proved here (level "partial"): that the C functions really obey `Framed` – that is the
tie, observed at run time by the TSan thread driver (`harness/thread_driver.c`): no race report, and
every job's digest equal to the digest of the same job run alone, under many randomised schedules.
-/
namespace Asn1c.Props.C19
open Asn1c.Impl.Reentrancy

theorem agreeOn_refl (L : Layout) (i : Tid) (m : Mem) : AgreeOn L i m m := fun _ _ => rfl

theorem scriptOf_cons {In : Type} (i j : Tid) (x : In) (s : Schedule In) :
    scriptOf i ((j, x) :: s) = if j = i then (j, x) :: scriptOf i s else scriptOf i s := by
  simp [scriptOf, List.filter_cons]

theorem outputsOf_cons {Out : Type} (i j : Tid) (y : Out) (t : List (Tid × Out)) :
    outputsOf i ((j, y) :: t) = if j = i then y :: outputsOf i t else outputsOf i t := by
  by_cases h : j = i <;> simp [outputsOf, h]

/-- `writes_own` for a location whose owner is given by an equation, as `Visible` gives it -/
theorem _root_.Asn1c.Impl.Reentrancy.Framed.not_own {In Out : Type} {L : Layout} {f : Step In Out}
    (hf : Framed L f) (j : Tid) (x : In) (m : Mem) {l : Loc} {o : Owner} (hl : L l = o)
    (ho : o ≠ .thread j) : (f j x m).1 l = m l :=
  hf.writes_own j x m l (hl ▸ ho)

/-- Frame lemma, generalised over the two memories so that the induction goes through. -/
theorem run_frame {In Out : Type} {L : Layout} {f : Step In Out} (hf : Framed L f) (i : Tid) :
    ∀ (s : Schedule In) (m m' : Mem), AgreeOn L i m m' →
      outputsOf i (run f s m).2 = outputsOf i (run f (scriptOf i s) m').2 ∧
      AgreeOn L i (run f s m).1 (run f (scriptOf i s) m').1 := by
  intro s
  induction s with
  | nil => intro m m' h; exact ⟨rfl, h⟩
  | cons e s ih =>
    intro m m' h
    obtain ⟨j, x⟩ := e
    by_cases hji : j = i
    · -- a step of `i` itself: taken in both runs, with the same result and the same own writes
      subst hji
      obtain ⟨hout, hown⟩ := hf.reads_visible j x m m' h
      have hag : AgreeOn L j (f j x m).1 (f j x m').1 := by
        intro l hl
        cases hl with
        | inl hl => exact hown l hl
        | inr hl =>
          rw [hf.not_own j x m hl nofun, hf.not_own j x m' hl nofun]
          exact h l (Or.inr hl)
      obtain ⟨ih1, ih2⟩ := ih _ _ hag
      simp only [scriptOf_cons, run, outputsOf_cons, if_true, hout, ih1]
      exact ⟨trivial, ih2⟩
    · -- a step of another thread: absent from the script, and invisible to `i`
      have hag : AgreeOn L i (f j x m).1 m' := by
        intro l hl
        cases hl with
        | inl hl' =>
          rw [hf.not_own j x m hl' (fun hc => hji (Owner.thread.inj hc).symm)]
          exact h l (Or.inl hl')
        | inr hl' =>
          rw [hf.not_own j x m hl' nofun]
          exact h l (Or.inr hl')
      simp only [scriptOf_cons, run, outputsOf_cons, if_neg hji]
      exact ih _ _ hag

/-- **interleaving_eq_sequential.**  For every schedule `s` of any number of threads, every initial
memory and every thread `i`: the results thread `i` observes under `s` are the results of its own
script run alone from the same memory; its private memory ends up the same; the read-only shared part
is unchanged. -/
theorem interleaving_eq_sequential {In Out : Type} {L : Layout} {f : Step In Out} (hf : Framed L f)
    (s : Schedule In) (m0 : Mem) (i : Tid) :
    outputsOf i (run f s m0).2 = outputsOf i (run f (scriptOf i s) m0).2 ∧
    (∀ l, L l = Owner.thread i → (run f s m0).1 l = (run f (scriptOf i s) m0).1 l) ∧
    (∀ l, L l = Owner.sharedRO → (run f s m0).1 l = m0 l) := by
  have h := run_frame hf i s m0 m0 (agreeOn_refl L i m0)
  refine ⟨h.1, fun l hl => h.2 l (Or.inl hl), ?_⟩
  -- the read-only part: by induction on the schedule, nobody owns it
  intro l hl
  have key : ∀ (s : Schedule In) (m : Mem), (run f s m).1 l = m l := by
    intro s
    induction s with
    | nil => intro m; rfl
    | cons e s ih =>
      intro m
      simp only [run]
      rw [ih, hf.not_own e.1 e.2 m hl nofun]
  exact key s m0

/-- the alone-run of a script produces outputs of that thread only, so `outputsOf i` loses nothing -/
theorem outputs_of_own_script {In Out : Type} (f : Step In Out) (i : Tid) :
    ∀ (s : Schedule In) (m : Mem),
      outputsOf i (run f (scriptOf i s) m).2 = (run f (scriptOf i s) m).2.map (·.2) := by
  intro s
  induction s with
  | nil => intro m; rfl
  | cons e s ih =>
    intro m
    obtain ⟨j, x⟩ := e
    by_cases hji : j = i
    · subst hji
      simp only [scriptOf_cons, run, outputsOf_cons, if_true, ih, List.map_cons]
    · rw [scriptOf_cons, if_neg hji]
      exact ih m

/-- **schedule_independent.**  Two schedules that give every thread the same script are
indistinguishable for every thread: what a job returns is a function of the job alone.  (This is the
statement the thread driver samples: per-job digests are compared across randomised schedules.) -/
theorem schedule_independent {In Out : Type} {L : Layout} {f : Step In Out} (hf : Framed L f)
    (s s' : Schedule In) (m0 : Mem) (i : Tid) (hsame : scriptOf i s = scriptOf i s') :
    outputsOf i (run f s m0).2 = outputsOf i (run f s' m0).2 := by
  rw [(interleaving_eq_sequential hf s m0 i).1, (interleaving_eq_sequential hf s' m0 i).1, hsame]

/-- Non-vacuity: the shape assumed by the design – private states, one read-only shared value,
operations (shared, stateᵢ, input) ↦ (stateᵢ', output) – obeys the discipline, whatever `op` is. -/
theorem shape_is_framed {In Out : Type} (op : Nat → Nat → In → Nat × Out) :
    Framed shapeLayout (shapeStep op) := by
  have hown : ∀ i : Nat, shapeLayout (2 * i + 1) = Owner.thread i := by
    intro i
    simp only [shapeLayout]
    rw [if_neg (by omega : ¬ 2 * i + 1 = 0), if_pos (by omega : (2 * i + 1) % 2 = 1),
      show (2 * i + 1) / 2 = i by omega]
  constructor
  · intro i x m l hne
    have hl : l ≠ 2 * i + 1 := fun hl => hne (hl ▸ hown i)
    simp only [shapeStep, if_neg hl]
  · intro i x m m' h
    have e0 : m 0 = m' 0 := h 0 (Or.inr rfl)
    have e1 : m (2 * i + 1) = m' (2 * i + 1) := h _ (Or.inl (hown i))
    simp only [shapeStep, e0, e1, true_and]
    intro l hl
    split
    · rfl
    · exact h l (Or.inl hl)

/-- Instance of the main theorem for the design's shape (results of thread `i` = its script alone). -/
theorem shape_interleaving_eq_sequential {In Out : Type} (op : Nat → Nat → In → Nat × Out)
    (s : Schedule In) (m0 : Mem) (i : Tid) :
    outputsOf i (run (shapeStep op) s m0).2 = (run (shapeStep op) (scriptOf i s) m0).2.map (·.2) := by
  rw [(interleaving_eq_sequential (shape_is_framed op) s m0 i).1, outputs_of_own_script]

/-- **Counter-example without the discipline**: with one writable shared scratch location, thread 0
running `put 1; get` obtains 1 alone but 2 under the schedule in which thread 1's `put 2` falls between
its two steps.  Hence `Framed` cannot be dropped, and a `static` scratch buffer on a codec path is a
genuine violation of the property. -/
theorem shared_scratch_breaks_sequential :
    let s : Schedule ScratchIn := [(0, .put 1), (1, .put 2), (0, .get), (1, .get)]
    outputsOf 0 (run scratchStep s (fun _ => 0)).2 = [0, 2] ∧
    outputsOf 0 (run scratchStep (scriptOf 0 s) (fun _ => 0)).2 = [0, 1] := by
  decide

/-- … and the scratch step function is indeed outside `Framed` (it writes a location nobody owns). -/
theorem scratch_not_framed : ¬ Framed scratchLayout scratchStep := by
  intro h
  have := h.writes_own 0 (.put 1) (fun _ => 0) 0 (by decide)
  simp [scratchStep] at this

open Asn1c.Generated

/-- Functions whose static buffers exist for debug output only.  `ber_tlv_tag_string` and
`asn_bit_data_string` format into a `static char buf[]` and return it; every call site in the
skeletons is an argument of `ASN_DEBUG(...)`, which expands to `do{}while(0)` unless the library is
built with `-DASN_EMIT_DEBUG=1` (then the trace output itself is unsynchronised; outside the
property).  That no compiled object references them is `debug_helpers_unreferenced`. -/
def debugOnlyFunctions : List String := ["ber_tlv_tag_string", "asn_bit_data_string"]

/-- mutable statics owned by the debug-only helpers -/
def allowedDebugOnly : List (String × String) := [
  ("ber_tlv_tag.c", "ber_tlv_tag_string::buf"),
  ("asn_bit_data.c", "asn_bit_data_string::buf"),
  ("asn_bit_data.c", "asn_bit_data_string::n")]

/-- mutable-section objects that are on a codec path (or in inactive platform code) but are never
written: * `BIT_STRING_encode_oer::zeros` (`static uint8_t zeros[16]`, .bss, missing `const`): only
`sizeof(zeros)` and `cb(zeros, n, app_key)` – the callback takes `const void *`; it is the zero padding
emitted for a fixed-size BIT STRING shorter than its constraint.  * `real_zero` in REAL.c
(`static volatile double`, only compiled when the platform lacks NAN/INFINITY; not compiled here and
only ever read).  Their use kinds are fixed by `read_only_globals_never_written`. -/
def allowedReadOnly : List (String × String) := [
  ("BIT_STRING_oer.c", "BIT_STRING_encode_oer::zeros"),
  ("REAL.c", "real_zero")]

/-- use kinds that cannot modify the object (`arg0:cb` = first argument of the
`asn_app_consume_bytes_f` callback, declared `const void *buffer`) -/
def readOnlyUseKinds : List String := ["sizeof", "read", "arg0:cb"]

def knownClasses : List String := ["table", "relro", "unwritten", "mutable"]

/-- sanity: the translator produced only classes this file knows about, and found the library at all -/
theorem inventory_wellformed :
    (∀ g ∈ writableGlobals, g.2.2 ∈ knownClasses) ∧ 50 ≤ writableGlobals.length := by
  decide +kernel

/-- **writable_globals_allowed.**  Every object of the compiled skeletons that lives in a writable
section (or is declared `static` non-`const` anywhere in the source) and is not a descriptor/table,
not `const`-after-relocation and not proved store-free by the compiler, is one of the debug-only
buffers or one of the two never-written objects above.  A new scratch buffer, counter or cache in any
skeleton file breaks this theorem at build time. -/
theorem writable_globals_allowed :
    ∀ g ∈ writableGlobals, g.2.2 = "mutable" → (g.1, g.2.1) ∈ allowedDebugOnly ++ allowedReadOnly := by
  decide +kernel

/-- **debug_helpers_unreferenced.**  No compiled skeleton object imports (and no statement outside
`ASN_DEBUG(...)` in the defining file calls) a debug-only helper: their static buffers are unreachable
from encode/decode/validate/print/free in the library as built. -/
theorem debug_helpers_unreferenced :
    ∀ r ∈ mutableOwnerImporters, r.2 ∉ debugOnlyFunctions := by
  decide +kernel

/-- **read_only_globals_never_written.**  The allowed non-debug objects are used only through
`sizeof`, plain reads, or as the `const void *` argument of the output callback. -/
theorem read_only_globals_never_written :
    ∀ u ∈ mutableGlobalUses, (u.1, u.2.1) ∈ allowedReadOnly → ∀ k ∈ u.2.2, k ∈ readOnlyUseKinds := by
  decide +kernel

/-- cross-check of the two methods: an object the compiler proved store-free (`unwritten`) shows no
syntactic write in the source either -/
theorem unwritten_have_no_source_write :
    ∀ u ∈ mutableGlobalUses, (u.1, u.2.1, "unwritten") ∈ writableGlobals → "write" ∉ u.2.2 := by
  decide +kernel

/-- Non-reentrant libc functions *linked* by the skeletons on this platform, with justification:
* `random` (asn_random_fill.c, `asn_random_between`): test-data generator, not one of
  encode/decode/validate/print/free.
* `strerror` (GeneralizedTime.c / UTCTime.c `*_constraint`): formats the message of a FAILED time
  validation.  POSIX does not require `strerror` to be thread-safe; glibc ≥ 2.32 (this platform: 2.36)
  returns a thread-local buffer, so there is no shared state here.  Recorded as a portability remark. -/
def allowedNonReentrantImports : List (String × String) := [
  ("asn_random_fill.c", "random"),
  ("GeneralizedTime.c", "strerror"),
  ("UTCTime.c", "strerror")]

/-- **no_nonreentrant_calls_in_codecs.**  Among `localtime gmtime ctime asctime strtok setenv putenv
unsetenv tzset rand srand random strerror setlocale …` the compiled skeleton objects import nothing
but the entries justified above.  (The `"source"` entries – `localtime`/`gmtime`/`setenv`/`tzset` in
GeneralizedTime.c – sit in the _WIN32 / Cygwin / `_EMULATE_TIMEGM` branches that are not compiled on
this platform.) -/
theorem no_nonreentrant_calls_in_codecs :
    ∀ c ∈ nonReentrantCalls, c.2.2 = "import" → (c.1, c.2.1) ∈ allowedNonReentrantImports := by
  decide +kernel

/-- functions that modify the process environment / time-zone state -/
def tzWriters : List String := ["setenv", "unsetenv", "putenv", "tzset", "localtime", "gmtime"]

/-- **timegm_variant_is_libc.**  Which GeneralizedTime.c variant is compiled here: the object imports
libc's `timegm`, `mktime`, `gmtime_r`, `localtime_r` (all MT-Safe in glibc) and none of
`setenv/unsetenv/putenv/tzset` – the `setenv("TZ")`-based `timegm` emulation is not compiled. -/
theorem timegm_variant_is_libc :
    ("GeneralizedTime.c", "timegm") ∈ timeImports ∧ ("GeneralizedTime.c", "gmtime_r") ∈ timeImports ∧
    ("GeneralizedTime.c", "localtime_r") ∈ timeImports ∧ ∀ t ∈ timeImports, t.2 ∉ tzWriters := by
  decide +kernel

end Asn1c.Props.C19
