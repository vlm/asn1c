import Asn1cModel.Proofs.L2OerVariants
import Asn1cModel.Proofs.Base128
import Asn1cModel.Props.L1Per
import Mathlib.Algebra.Group.Nat.Defs
import Mathlib.Algebra.Group.Int.Defs
/-
  C02 (OER leg) — the reference canonical-OER codec `L2.Oer.encOER` / `decOER` (written from ITU-T X.696,
  compared byte for byte with the C encoder by `vlib/props/c02_oer.py`) is not an arbitrary oracle:

  * `oer_roundtrip`: its decoder inverts its encoder on every well-formed type and canonical value,
    whatever follows the encoding; hence `encOER_injective` and `encOER_prefix_free` (a value is
    determined by its encoding, no encoding is a proper prefix of another one of the same type).
  * shape theorems tie the building blocks to the text of X.696: §8.6 length determinant
    (= the L1 model of `oer_serialize_length`), §10 INTEGER (the four shapes, stated with the same
    `Spec.Oer.Is…` relations that the L1 theorems prove for `INTEGER_encode_oer`; the fixed-size
    relations determine the octets uniquely), §11 ENUMERATED, §8.7 tags, §16.2 preamble size,
    §16.4 presence bitmap, §17.2 quantity.
-/
namespace Asn1c.Props.C02Oer
open Asn1c Asn1c.Impl.BerTlv Asn1c.L2 Asn1c.L2.Oer Asn1c.Spec
open Asn1c.Proofs.L2Oer Asn1c.Proofs.L2Der Asn1c.Proofs.Integer

/-- **OER round trip**: for every well-formed OER view `t` and canonical value `v` that `t` can encode,
    decoding the encoding followed by arbitrary octets returns `v` and exactly those octets. -/
theorem oer_roundtrip (t : OTy) (hw : OTyWf t) (v : Val) (hc : OCanon t v) (out rest : Bytes)
    (h : encOER t v = some out) : decOER t (out ++ rest) = .ok v rest :=
  -- the canonical encoder is the variant encoder at a selector that varies nothing
  Asn1c.Proofs.L2OerVariants.rtv_all t hw v {} {} out rest (Asn1c.Proofs.L2OerVariants.ucanon_of_ocanon t v hc)
    (by rw [Asn1c.Proofs.L2OerVariants.nv_all t v {} rfl hc, h]; rfl)

/-- the hypotheses are satisfiable: an extensible SEQUENCE with OPTIONAL and DEFAULT components and an
    extension addition that is an extensible CHOICE (preamble 1001 0000: extension bit, absent, default, present) -/
example :
    let t : OTy := .seq [.integer (.fixedU 1), .boolean, .integer .varS, .octets none]
                     [⟨false, none, false⟩, ⟨true, none, false⟩, ⟨true, some (.int 5), false⟩, ⟨true, none, false⟩]
                     true [.choice [⟨2, 0⟩, ⟨2, 200⟩] [.null, .seqOf (.integer .varS)] 1] [⟨true, none, true⟩]
    let v : Val := .seq [.int 7, .absent, .absent, .octets [1, 2], .choice 1 (.list [.int (-129)])]
    OTyWf t ∧ OCanon t v ∧
      encOER t v = some [0x90, 7, 2, 1, 2, 2, 7, 0x80, 9, 0xbf, 0x81, 0x48, 5, 1, 1, 2, 0xff, 0x7f] := by
  decide +kernel

/-- no encoding of a type is a proper prefix of another encoding of the same type (so concatenated
    encodings — SEQUENCE components, SEQUENCE OF elements — parse uniquely) -/
theorem encOER_prefix_free (t : OTy) (hw : OTyWf t) (v₁ v₂ : Val) (h₁ : OCanon t v₁) (h₂ : OCanon t v₂)
    (o₁ o₂ r : Bytes) (e₁ : encOER t v₁ = some o₁) (e₂ : encOER t v₂ = some o₂) (hp : o₂ = o₁ ++ r) :
    v₁ = v₂ ∧ r = [] := by
  have a := oer_roundtrip t hw v₁ h₁ o₁ r e₁
  have b := oer_roundtrip t hw v₂ h₂ o₂ [] e₂
  rw [List.append_nil, hp, a] at b
  injection b with hv hr
  exact ⟨hv, hr⟩

/-- a canonical value is determined by its encoding -/
theorem encOER_injective (t : OTy) (hw : OTyWf t) (v₁ v₂ : Val) (h₁ : OCanon t v₁) (h₂ : OCanon t v₂) (out : Bytes)
    (e₁ : encOER t v₁ = some out) (e₂ : encOER t v₂ = some out) : v₁ = v₂ :=
  (encOER_prefix_free t hw v₁ v₂ h₁ h₂ out out [] e₁ e₂ (List.append_nil out).symm).1

/-- the reference length determinant is what `oer_serialize_length` emits (L1 model, every `size_t`) -/
theorem lenDet_eq_oer_serialize_length (n : Nat) (h : n < 2 ^ 64) :
    lenDet n = Asn1c.Impl.OerSupport.serializeLength n :=
  (Asn1c.Props.L1Per.oer_serialize_length_eq_spec n h).symm

/-- short form below 128, otherwise `0x80 | k` and the `k` octets of the minimal big-endian number -/
theorem lenDet_shape (n : Nat) :
    (n ≤ 127 → lenDet n = [n]) ∧
    (127 < n → ∃ body, lenDet n = (128 + body.length) :: body ∧ Bytes.wf body ∧ ofBE 0 body = n ∧ body.head? ≠ some 0 ∧ body ≠ []) := by
  constructor
  · intro h; simp [lenDet, Asn1c.Spec.Oer.length, h]
  · intro h
    refine ⟨toBE n, by simp [lenDet, Asn1c.Spec.Oer.length]; omega, Proofs.Real.toBE_wf n, Proofs.Real.ofBE_toBE n, ?_, Proofs.Real.toBE_ne_nil n (by omega)⟩
    cases hq : toBE n with
    | nil => simp
    | cons b bs => simp only [List.head?_cons, ne_eq, Option.some.injEq]; exact Proofs.Real.toBE_head_ne_zero n b bs hq

theorem decLen_lenDet (n : Nat) (rest : Bytes) : decLen (lenDet n ++ rest) = .ok n rest :=
  Asn1c.Proofs.L2Oer.decLen_lenDet n rest

/-- §10.2: a fixed-size unsigned INTEGER is exactly `w` octets holding the value as an unsigned number;
    values outside `0 .. 256^w − 1` are not encodable -/
theorem encInt_fixedU (w : Nat) (z : Int) :
    (0 ≤ z ∧ z < 256 ^ w → ∃ out, encInt (.fixedU w) z = some out ∧ Spec.Oer.IsFixedUnsigned w z out) ∧
    (¬ (0 ≤ z ∧ z < 256 ^ w) → encInt (.fixedU w) z = none) := by
  constructor
  · intro hc
    exact ⟨toBEn w z.toNat, by simp [encInt, hc], Proofs.Integer.toBEn_wf _ _, toBEn_length _ _, unsVal_toBEn w z hc.1 hc.2⟩
  · intro hc; simp [encInt, hc]

/-- §10.3: a fixed-size signed INTEGER is exactly `w` octets of two's complement -/
theorem encInt_fixedS (w : Nat) (hw : w ≠ 0) (z : Int) :
    (-(256 ^ w / 2 : Int) ≤ z ∧ z < (256 ^ w / 2 : Int) →
      ∃ out, encInt (.fixedS w) z = some out ∧ Spec.Oer.IsFixedSigned w z out) ∧
    (¬ (-(256 ^ w / 2 : Int) ≤ z ∧ z < (256 ^ w / 2 : Int)) → encInt (.fixedS w) z = none) := by
  have _ := hw
  constructor
  · intro hc
    exact ⟨_, by simp only [encInt]; rw [if_pos hc], Proofs.Integer.toBEn_wf _ _, toBEn_length _ _, twosVal_toBEn w z hc.1 hc.2⟩
  · intro hc; simp only [encInt]; rw [if_neg hc]

/-- §10.4 a: length determinant + the minimal unsigned octets -/
theorem encInt_varU (z : Int) :
    (0 ≤ z → ∃ out, encInt .varU z = some out ∧ Spec.Oer.IsVarUnsigned z out) ∧ (z < 0 → encInt .varU z = none) :=
  ⟨fun hz => ⟨_, by simp only [encInt]; rw [if_pos hz], unsOctets z.toNat, unsOctets_wf _, unsOctets_ne_nil _,
      unsOctets_minimal _, by rw [unsVal_unsOctets, Int.toNat_of_nonneg hz], rfl⟩,
    fun hz => by simp only [encInt]; rw [if_neg (by omega)]⟩

/-- §10.4 b: length determinant + the minimal two's complement octets -/
theorem encInt_varS (z : Int) : ∃ out, encInt .varS z = some out ∧ Spec.Oer.IsVarSigned z out :=
  ⟨_, rfl, intOctets z, intOctets_wf z, intOctets_ne_nil z, intOctets_minimal z, twosVal_intOctets z, rfl⟩

/-- the §10.2 relation determines the octets: whatever satisfies it (the C encoder by
    `L1Per.INTEGER_encode_oer_unsigned`, the reference by `encInt_fixedU`) is the same octet string -/
theorem isFixedUnsigned_unique (w : Nat) (z : Int) (a b : Bytes)
    (ha : Spec.Oer.IsFixedUnsigned w z a) (hb : Spec.Oer.IsFixedUnsigned w z b) : a = b := by
  obtain ⟨wa, la, va⟩ := ha
  obtain ⟨wb, lb, vb⟩ := hb
  apply Asn1c.Proofs.Integer.ofBE_inj a b wa wb (by omega)
  have : (unsVal a : Int) = (unsVal b : Int) := by rw [va, vb]
  exact_mod_cast this

/-- X.696 §10.2–10.4: the shape is selected by the effective bounds exactly as the standard's table says -/
theorem intShape_table (lb ub : Option Int) :
    intShape lb ub =
      match lb, ub with
      | some l, some u =>
        if 0 ≤ l then
          (if u ≤ 255 then .fixedU 1 else if u ≤ 65535 then .fixedU 2 else if u ≤ 4294967295 then .fixedU 4
           else if u ≤ 18446744073709551615 then .fixedU 8 else .varU)
        else
          (if -128 ≤ l ∧ u ≤ 127 then .fixedS 1 else if -32768 ≤ l ∧ u ≤ 32767 then .fixedS 2
           else if -2147483648 ≤ l ∧ u ≤ 2147483647 then .fixedS 4
           else if -9223372036854775808 ≤ l ∧ u ≤ 9223372036854775807 then .fixedS 8 else .varS)
      | some l, none => if 0 ≤ l then .varU else .varS
      | none, _ => .varS := by
  cases lb <;> cases ub <;> simp [intShape]

/-- every shape chosen by `intShape` is well-formed (a signed fixed size is 1, 2, 4 or 8) -/
theorem intShape_wf (lb ub : Option Int) : OTyWf (.integer (intShape lb ub)) := by
  show shapeOk (intShape lb ub) = true
  unfold intShape
  -- `shapeOk` goes through the decision tree to its leaves, and is `true` at each of them
  cases lb <;> cases ub <;> simp only [apply_ite shapeOk] <;> simp only [shapeOk, Nat.reduceBNe, ite_self]

theorem decInt_encInt (sh : IntShape) (hw : OTyWf (.integer sh)) (z : Int) (out rest : Bytes)
    (h : encInt sh z = some out) : decInt sh (out ++ rest) = .ok z rest :=
  have _ := hw
  Asn1c.Proofs.L2Oer.decInt_encInt sh z out rest h

/-- §11.2/§11.3: one octet for 0..127; otherwise `0x80 | n` and `n` octets of minimal two's complement -/
theorem encEnum_shape (z : Int) :
    (0 ≤ z ∧ z ≤ 127 → encEnum z = some [z.toNat]) ∧
    (¬ (0 ≤ z ∧ z ≤ 127) → (intOctets z).length ≤ 127 →
      ∃ body, encEnum z = some ((128 + body.length) :: body) ∧ Bytes.wf body ∧ MinimalTwos body ∧ twosVal body = z ∧ body ≠ []) := by
  constructor
  · intro h; simp [encEnum, h]
  · intro h hl
    exact ⟨intOctets z, by simp [encEnum, h, hl], intOctets_wf z, intOctets_minimal z, twosVal_intOctets z, intOctets_ne_nil z⟩

theorem decEnum_encEnum (z : Int) (out rest : Bytes) (h : encEnum z = some out) : decEnum (out ++ rest) = .ok z rest :=
  Asn1c.Proofs.L2Oer.decEnum_encEnum z out rest h

/-- tag numbers below 63 take one octet: class in bits 8–7, number in bits 6–1 -/
theorem tagOctets_short (t : Tag) (h : t.num < 63) : Oer.tagOctets t = [t.cls * 64 + t.num] := by
  simp [Oer.tagOctets, h]

/-- larger tag numbers: `class·64 + 63`, then base-128 digits, bit 8 set in all but the last octet,
    and the first of them is not 0x80 (fewest octets) -/
theorem tagOctets_long (t : Tag) (h : 63 ≤ t.num) :
    ∃ hi, Oer.tagOctets t = (t.cls * 64 + 63) :: (hi ++ [t.num % 128]) ∧ (∀ b ∈ hi, 128 ≤ b ∧ b < 256) ∧ hi.head? ≠ some 128 := by
  refine ⟨b128hi (t.num / 128), by simp [Oer.tagOctets]; omega, ?_⟩
  rw [Asn1c.Proofs.L2Oer.b128hi_eq]
  exact ⟨Asn1c.Proofs.Oid.base128hi_allHi _, Asn1c.Proofs.Oid.base128hi_head _⟩

theorem decTag_tagOctets (t : Tag) (rest : Bytes) : decTag (Oer.tagOctets t ++ rest) = .ok t rest :=
  Asn1c.Proofs.L2Oer.decTag_tagOctets t rest

theorem encRoot_bits_length (ms : List OTy) : ∀ (as : List Attr) (vs : List Val) (bits : Bits) (body : Bytes),
    encRoot ms as vs = some (bits, body) → bits.length = (as.filter (·.optional)).length := by
  induction ms with
  | nil =>
    intro as vs bits body h
    cases as <;> cases vs <;> simp [encRoot] at h
    simp [h.1]
  | cons m ms ih =>
    intro as vs bits body
    generalize hM : m :: ms = M
    -- the two ways in which `encRoot` succeeds: the rest was encoded, and the component adds a bit iff it is optional
    fun_cases encRoot M as vs
    case case1 => cases hM
    case case3 | case5 | case6 | case7 => intro h; cases h
    case case2 _ _ a as v vs _ x bits' body' h2 _ =>
      intro h
      cases hM; cases h
      cases ho : a.optional <;> simp [ho, ih as vs _ _ h2]
    case case4 _ _ a as v vs _ ho bits' body' h2 =>
      intro h
      cases hM; cases h
      simp [ho, ih as vs _ _ h2]

/-- §16.2: every SEQUENCE encoding starts with the preamble — the extension bit (if the type is
    extensible; set iff an extension addition is encoded) and one presence bit per OPTIONAL/DEFAULT
    root component, zero-padded to ⌈(ext + #optional) / 8⌉ octets (no preamble octet at all when the
    type is not extensible and has no optional root component) -/
theorem seq_preamble (root : List OTy) (rattrs : List Attr) (ext : Bool) (adds : List OTy) (aattrs : List Attr)
    (vs : List Val) (out : Bytes) (h : encOER (.seq root rattrs ext adds aattrs) (.seq vs) = some out) :
    ∃ (rbits abits : Bits) (rbody abody : Bytes),
      encRoot root rattrs (vs.take root.length) = some (rbits, rbody) ∧
      encAdds adds aattrs (vs.drop root.length) = some (abits, abody) ∧
      rbits.length = (rattrs.filter (·.optional)).length ∧
      out = bitsToBytes ((if ext then [abits.any id] else []) ++ rbits) ++ rbody
              ++ (if abits.any id then bitmapField abits ++ abody else []) ∧
      (bitsToBytes ((if ext then [abits.any id] else []) ++ rbits)).length
        = ((if ext then 1 else 0) + (rattrs.filter (·.optional)).length + 7) / 8 := by
  simp only [encOER] at h
  split at h
  · rename_i rbits rbody abits abody h1 h2
    split at h <;> cases h
    have hl := encRoot_bits_length root rattrs _ rbits rbody h1
    refine ⟨rbits, abits, rbody, abody, h1, h2, hl, rfl, ?_⟩
    rw [Proofs.PerSupport.bitsToBytes_length]
    cases ext <;> simp [hl, Nat.add_comm]
  · cases h

/-- §16.4: the presence bitmap is a length determinant, the count of unused bits (0..7) and the bits
    themselves padded with zero bits; the bits are recovered exactly -/
theorem bitmapField_shape (bits : Bits) :
    bitmapField bits = lenDet (1 + (bits.length + 7) / 8) ++ [padBits bits.length] ++ bitsToBytes bits ∧
    padBits bits.length ≤ 7 ∧ (bitsToBytes bits).length = (bits.length + 7) / 8 ∧
    bytesToBits (bitsToBytes bits) = bits ++ List.replicate (padBits bits.length) false := by
  refine ⟨by simp [bitmapField, Proofs.PerSupport.bitsToBytes_length], padBits_le _, Proofs.PerSupport.bitsToBytes_length _, bytesToBits_bitsToBytes _⟩

/-- the quantity field is the encoding of the count as an INTEGER (0..MAX) (X.696 §17.2 → §10.4 a) -/
theorem quantity_eq_encInt (n : Nat) : encInt .varU (n : Int) = some (quantity n) := by
  simp [encInt, quantity]

theorem decOpen_openType (d : Bytes → PRes Val) (x : Bytes) (v : Val) (rest : Bytes) (hd : d x = .ok v []) :
    decOpen d (openType x ++ rest) = .ok v rest :=
  Asn1c.Proofs.L2Oer.decOpen_openType d x v rest hd

/-! ## worked examples (X.696 text) -/

example : encOER (.integer (.fixedU 2)) (.int 258) = some [1, 2] := by decide +kernel
example : encOER (.integer (.fixedS 1)) (.int (-128)) = some [0x80] := by decide +kernel
example : encOER (.integer .varS) (.int (-129)) = some [2, 0xff, 0x7f] := by decide +kernel
example : encOER (.integer .varU) (.int 255) = some [1, 0xff] := by decide +kernel
example : encOER .enumerated (.int 128) = some [0x82, 0, 0x80] := by decide +kernel
example : encOER .enumerated (.int (-1)) = some [0x81, 0xff] := by decide +kernel
example : encOER (.choice [⟨2, 128⟩] [.null] 1) (.choice 0 .null) = some [0xbf, 0x81, 0x00] := by decide +kernel
example : encOER (.seqOf .boolean) (.list [.bool true, .bool false]) = some [1, 2, 0xff, 0] := by decide +kernel
example : encOER (.setOf (.integer .varS)) (.list [.int 2, .int 1]) = some [1, 2, 1, 1, 1, 2] := by decide +kernel
example : encOER (.bits (some 9)) (.bits [0xff, 0x80] 7) = some [0xff, 0x80] := by decide +kernel
example : encOER (.seq [] [] true [] []) (.seq []) = some [0] := by decide +kernel

/-! ## SET OF: the canonical order (X.696 §19 = X.690 §11.6) makes the encoding independent of the storage order
    (finding F55, repaired: `SET_OF_encode_oer` sorts the element encodings, so C = this reference on SET OF) -/

/-- **canonical OER SET OF**: the encoding does not depend on the order in which the elements are stored -/
theorem encOER_setOf_perm (e : OTy) (vs₁ vs₂ : List Val) (hp : vs₁.Perm vs₂) :
    encOER (.setOf e) (.list vs₁) = encOER (.setOf e) (.list vs₂) := by
  simp only [encOER, mapEnc_eq, hp.all_eq, hp.length_eq]
  by_cases h : (vs₂.all fun v => (encOER e v).isSome) = true
  · simp only [h, if_true]
    rw [sortBy_perm_eq bytesLe bytesLe_total bytesLe_trans bytesLe_antisymm _ _ (hp.filterMap (encOER e))]
  · rw [if_neg h, if_neg h]

/-- the former witness of finding F55, `T ::= SET OF INTEGER`: {2, 1} and {1, 2} both encode as 01 02 01 01 01 02 -/
theorem ref_F55_witness :
    encOER (.setOf (.integer .varS)) (.list [.int 2, .int 1]) = some [1, 2, 1, 1, 1, 2] ∧
    encOER (.setOf (.integer .varS)) (.list [.int 1, .int 2]) = some [1, 2, 1, 1, 1, 2] := by
  decide +kernel

end Asn1c.Props.C02Oer
