import Asn1cModel.Props.C01
import Asn1cModel.Props.L1Per
import Asn1cModel.Props.C20
/-
  C04 — decoding arbitrary bytes is memory-safe, terminates and reports consistently.
  Audited theorems (lean/props/C04.json): the in-bounds / never-`oob` theorems of the L1 readers
  (bit reader at byte level, PER length / nsnnwn / nslength / constrained whole number readers,
  OER length, OER INTEGER incl. the F5 counter-example), the BER TL readers and the main loop of the unber model
  (`fetch_in_bounds`, `unber_no_oob`, `pd_accounting`), totality of the TLV parser (every model decoder is a total
  Lean function: termination is checked by the kernel) and `parseTlv` on a valid encoding and on its proper prefixes
  (`parseTlv_rest_is_suffix`, `C01.parseTlv_prefix_more`).
-/
namespace Asn1c.Props.C04
open Asn1c Asn1c.L2

/-- the generic BER TLV parser never "consumes" more than it was given: the unconsumed rest is a suffix -/
theorem parseTlv_rest_is_suffix (x : Tlv) (hx : x.Wf) (fuel : Nat) (hf : x.size ≤ fuel) (rest : Bytes) :
    ∃ r, parseTlv fuel (x.enc ++ rest) = .ok x r ∧ r = rest :=
  ⟨rest, Asn1c.Props.C01.parseTlv_enc_any_form x hx fuel hf rest, rfl⟩

end Asn1c.Props.C04
