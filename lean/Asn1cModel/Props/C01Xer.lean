import Asn1cModel.L2.Xer
import Asn1cModel.Proofs.L2Xer
/-
  C01 (XER part) — encode-then-decode returns the same value in BASIC-XER and CANONICAL-XER.

  Subject: `L2.Xer.encXER` / `L2.Xer.decXER`, the Lean model of asn1c's XER codec
  (xer_encoder.c / xer_decoder.c / xer_support.c and the `*_encode_xer` / `*_decode_xer` functions of the
  skeletons), tied to the C code by the K leg `vlib/c01_xer.py` (same bytes out of the encoder, same
  acceptance / value / consumed count out of the decoder on the C encodings and on thousands of variants).

  * `xer_roundtrip` (+ `_consumed`): for the types of `rtTy` - BOOLEAN, NULL, INTEGER, ENUMERATED, OCTET STRING,
    BIT STRING, the UTF-8 written character strings (UTF8String, IA5String, VisibleString, PrintableString,
    NumericString, GeneralizedTime, UTCTime: escaping of & < > and of the control characters), BMPString and
    UniversalString (finding F150 repaired: the same escaping; code points below 2^31), SEQUENCE (OPTIONAL /
    DEFAULT / extension components), CHOICE, SEQUENCE OF with tag-wrapped elements, with a BOOLEAN / ENUMERATED /
    NULL value list or with unwrapped CHOICE elements, nested arbitrarily - and the values of `rtVal`, decoding
    what the encoder wrote returns the value, in both variants.  The identifiers of the components are arbitrary
    tag names (finding F153 repaired: a component may be called like a value tag of its type, `<red><red/></red>`).
    Outside: REAL, OBJECT IDENTIFIER, SET, SET OF (CANONICAL-XER reorders the elements).  BASIC-XER leaves the
    final newline unconsumed (finding F30), CANONICAL-XER consumes everything.
  * `xer_basic_canonical_same_value`: the BASIC and the CANONICAL rendering of a value decode alike.
  * `cxer_setOf_perm`: the CANONICAL-XER encoding of a SET OF does not depend on the order of the elements.
  * `cxer_seq_default_indep` / `cxer_set_default_indep` (finding F56, repaired): the CANONICAL-XER encoding of a
    SEQUENCE / SET does not depend on whether a component that holds its DEFAULT value is stored or left absent
    (`dropDefaults` = every such component made absent); `ref_F56_witness` is the former witness.  The domain
    of the round trip (`rtVal c`) follows: BASIC-XER writes the default value of an absent DEFAULT component,
    so it returns the value with that component stored; CANONICAL-XER writes neither form, so it returns the
    value with that component absent.
  * `tokens_render`: the tokenizer (model of `pxml_parse` / `xer_next_token`) inverts the rendering of
    well-formed token lists.
  * repaired findings, each with a general statement and its former witness: `xer_value_tag_named_like_element`
    / `ref_F153_witness` (F153), `xer_boolean_white_space` / `ref_F59_witness` (F59: white space between the tags
    of a BOOLEAN element and its value), `xer_roundtrip_bmpstring` / `xer_roundtrip_universalstring` /
    `ref_F150_witness` (F150), `ref_F152_witness` (F152: `&#;` `&#x;` `&#0;` are a decoding error).
-/
namespace Asn1c.Props.C01Xer
open Asn1c Asn1c.L2 Asn1c.L2.Xer Asn1c.Proofs.L2Xer

/-- the XER-relevant well-formedness of a top-level type: its name is a tag name and the type is in the supported
    subset -/
def topOk (t : XTop) : Bool := nameOk t.name && rtTy t.ty

/-- **C01 for XER**: decoding the BASIC-XER / CANONICAL-XER encoding of a value returns the value;
    the decoder consumes everything but the final newline of BASIC-XER (finding F30) -/
theorem xer_roundtrip_consumed (c : Bool) (t : XTop) (v : Val) (bs : Bytes) (ht : topOk t = true)
    (hv : rtVal c t.ty v = true) (he : encXER c t v = some bs) :
    decXERc t bs = some (v, if c then bs.length else bs.length - 1) := by
  simp only [topOk, Bool.and_eq_true] at ht
  obtain ⟨hn, hty⟩ := ht
  simp only [encXER, Option.map_eq_some_iff] at he
  obtain ⟨body, hb, rfl⟩ := he
  have h := rt_all t.ty hty c t.name 1 v body (if c = true then [] else [10])
    ((openTag t.name ++ body ++ closeTag t.name ++ if c = true then [] else [10]).length + 2) hn hv hb
    (by simp only [List.length_append, openTag_length, closeTag_length]; omega)
  unfold decXERc
  rw [h]
  cases c <;> rfl

theorem xer_roundtrip (c : Bool) (t : XTop) (v : Val) (bs : Bytes) (ht : topOk t = true)
    (hv : rtVal c t.ty v = true) (he : encXER c t v = some bs) : decXER t bs = some v := by
  unfold decXER
  rw [xer_roundtrip_consumed c t v bs ht hv he]; rfl

/-- the same statement for a component / element decoder in its context: arbitrary bytes may follow -/
theorem xer_roundtrip_member (c : Bool) (t : XTy) (name : Bytes) (il : Nat) (v : Val) (body rest : Bytes)
    (ht : rtTy t = true) (hn : nameOk name = true) (hv : rtVal c t v = true)
    (he : encTy c t il v = some body) :
    decTy (body.length + 4) t name (openTag name ++ body ++ closeTag name ++ rest) = some (v, rest) :=
  rt_all t ht c name il v body rest _ hn hv he (Nat.le_refl _)

/-- BASIC-XER and CANONICAL-XER are two renderings of one value: both decode to it (for a value in the domain
    of both round trips: a DEFAULT component, if stored, holds another value than the default - the two
    variants return the two representations of a default-valued component, see `rtVal`) -/
theorem xer_basic_canonical_same_value (t : XTop) (v : Val) (b₁ b₂ : Bytes) (ht : topOk t = true)
    (hv₁ : rtVal false t.ty v = true) (hv₂ : rtVal true t.ty v = true)
    (h₁ : encXER false t v = some b₁) (h₂ : encXER true t v = some b₂) :
    decXER t b₁ = decXER t b₂ := by
  rw [xer_roundtrip false t v b₁ ht hv₁ h₁, xer_roundtrip true t v b₂ ht hv₂ h₂]

/-- **CANONICAL-XER SET OF**: the encoding does not depend on the order in which the elements are stored
    (SET_OF_encode_xer sorts the element encodings) -/
theorem cxer_setOf_perm (name : Bytes) (mode : Nat) (en : Bytes) (e : XTy) (vs₁ vs₂ : List Val) (hp : vs₁.Perm vs₂) :
    encXER true ⟨name, .setOf mode en e⟩ (.list vs₁) = encXER true ⟨name, .setOf mode en e⟩ (.list vs₂) := by
  unfold encXER
  rw [encTy_setOf_perm mode en e 1 vs₁ vs₂ hp]

/-- ... also as a component at any depth of indentation -/
theorem cxer_setOf_perm_member (mode : Nat) (en : Bytes) (e : XTy) (il : Nat) (vs₁ vs₂ : List Val) (hp : vs₁.Perm vs₂) :
    encTy true (.setOf mode en e) il (.list vs₁) = encTy true (.setOf mode en e) il (.list vs₂) :=
  encTy_setOf_perm mode en e il vs₁ vs₂ hp

theorem encXER_boolean (c : Bool) (n : Bytes) (b : Bool) :
    encXER c ⟨n, .boolean⟩ (.bool b) =
      some (openTag n ++ (if b then litTrueTag else litFalseTag) ++ closeTag n ++ if c then [] else [10]) := rfl

theorem encXER_null (c : Bool) (n : Bytes) :
    encXER c ⟨n, .null⟩ .null = some (openTag n ++ closeTag n ++ if c then [] else [10]) := by
  simp [encXER, encTy]

/-- INTEGER: `%ld` -/
theorem encXER_integer (c : Bool) (n : Bytes) (z : Int) (hz : -(2 ^ 63) ≤ z ∧ z < 2 ^ 63) :
    encXER c ⟨n, .integer .long⟩ (.int z) = some (openTag n ++ intDec z ++ closeTag n ++ if c then [] else [10]) := by
  simp only [encXER, encTy, encInt]
  rw [if_pos hz]; rfl

/-- INTEGER stored as `unsigned long` (`INTEGER (0..MAX)`): `%lu`, a decimal numeral over the whole range -/
theorem encXER_integer_unsigned (c : Bool) (n : Bytes) (z : Int) (hz : 0 ≤ z ∧ z < 2 ^ 64) :
    encXER c ⟨n, .integer .ulong⟩ (.int z) = some (openTag n ++ intDec z ++ closeTag n ++ if c then [] else [10]) := by
  simp only [encXER, encTy, encInt]
  rw [if_pos hz]; rfl

/-- **F125 (repaired)**: an `unsigned long` INTEGER round-trips over its whole range 0 .. 2^64-1 (the XER body
    parser read the numeral with asn_strtoimax_lim only: 2^63 and above were encoded but did not decode) -/
theorem xer_roundtrip_unsigned_long (c : Bool) (n : Bytes) (z : Int) (hn : nameOk n = true) (hz : 0 ≤ z ∧ z < 2 ^ 64) :
    ∃ bs, encXER c ⟨n, .integer .ulong⟩ (.int z) = some bs ∧ decXER ⟨n, .integer .ulong⟩ bs = some (.int z) := by
  have hv : rtVal c (.integer .ulong) (.int z) = true := decide_eq_true (intRange_ulong.mpr hz)
  exact ⟨_, encXER_integer_unsigned c n z hz, xer_roundtrip c ⟨n, .integer .ulong⟩ (.int z) _
    (by simp [topOk, hn, rtTy]) hv (encXER_integer_unsigned c n z hz)⟩

/-- the INTEGER a decoder result holds (`Val` has no decidable equality) -/
def intOfResult : Option Val → Option Int
  | some (.int z) => some z
  | _ => none

/-- the former witness of finding F125, `T ::= INTEGER (0..MAX)` holding 2^63: written as
    `<T>9223372036854775808</T>`, which now decodes to 2^63 (it was RC_FAIL, consumed 0); so does 2^64-1; 2^64 is
    beyond `unsigned long`, and a signed `long` still ends at 2^63-1 -/
theorem ref_F125_witness :
    encXER true ⟨[84], .integer .ulong⟩ (.int (2 ^ 63)) = some (Xer.strBytes "<T>9223372036854775808</T>") ∧
    intOfResult (decXER ⟨[84], .integer .ulong⟩ (Xer.strBytes "<T>9223372036854775808</T>")) = some (2 ^ 63) ∧
    intOfResult (decXER ⟨[84], .integer .ulong⟩ (Xer.strBytes "<T>18446744073709551615</T>")) = some (2 ^ 64 - 1) ∧
    (decXER ⟨[84], .integer .ulong⟩ (Xer.strBytes "<T>18446744073709551616</T>")).isNone = true ∧
    (decXER ⟨[84], .integer .long⟩ (Xer.strBytes "<T>9223372036854775808</T>")).isNone = true := by
  refine ⟨by decide +kernel, by decide +kernel, by decide +kernel, by decide +kernel, by decide +kernel⟩

/-- the decimal numeral written for an INTEGER reads back as the number -/
theorem numeral_roundtrip (z : Int) : numeralVal (intDec z) = z := numeralVal_intDec z

/-- ENUMERATED: the identifier as an empty-element tag -/
theorem encXER_enumerated (c : Bool) (n : Bytes) (ns : List Bytes) (vs : List Int) (z : Int) (x : Bytes)
    (h : lookupName ns vs z = some x) :
    encXER c ⟨n, .enumerated ns vs⟩ (.int z) = some (openTag n ++ emptyTag x ++ closeTag n ++ if c then [] else [10]) := by
  simp [encXER, encTy, h]

/-- CANONICAL-XER of a SEQUENCE is the concatenation of its present components that do not hold their DEFAULT
    value, each wrapped in its identifier -/
theorem encCXER_seq_cons (n : Bytes) (ns : List Bytes) (m : XTy) (ms : List XTy) (a : Attr) (as : List Attr) (il : Nat)
    (v : Val) (vs : List Val) (b r : Bytes) (hv : rtVal true m v = true) (hd : isDefault a v = false)
    (hb : encTy true m (il + 1) v = some b) (hr : encMembers true ns ms as il vs = some r) :
    encMembers true (n :: ns) (m :: ms) (a :: as) il (v :: vs) = some (openTag n ++ b ++ closeTag n ++ r) := by
  rw [encMembers_cons, memberVal_of_ne (ne_absent_of_rtVal hv), hd, hr]
  simp [hb]

/-- component by component, `vs` and `ws` hold what SEQUENCE_encode_xer / SET_encode_xer treat alike (`memberVal`);
    every DEFAULT statement below is an instance -/
inductive SameVals (c : Bool) : List Attr → List Val → List Val → Prop
  | refl (as vs) : SameVals c as vs vs
  | cons {a as v w vs ws} : memberVal c a v = memberVal c a w → SameVals c as vs ws →
      SameVals c (a :: as) (v :: vs) (w :: ws)

theorem SameVals.encMembers {c as vs ws} (h : SameVals c as vs ws) (il : Nat) :
    ∀ ns ms, encMembers c ns ms as il vs = encMembers c ns ms as il ws := by
  induction h with
  | refl => intros; rfl
  | cons hm _ ih =>
    intro ns ms
    match ns, ms with
    | n :: ns, m :: ms => rw [encMembers_cons, encMembers_cons, hm, ih]
    | [], _ => simp [Xer.encMembers]
    | _ :: _, [] => simp [Xer.encMembers]

theorem SameVals.encNth {c as vs ws} (h : SameVals c as vs ws) (il : Nat) :
    ∀ ns ms k, encNth c ns ms as il vs k = encNth c ns ms as il ws k := by
  induction h with
  | refl => intros; rfl
  | cons hm _ ih =>
    intro ns ms k
    match ns, ms, k with
    | n :: ns, m :: ms, 0 => rw [encNth_zero, encNth_zero, hm]
    | n :: ns, m :: ms, k + 1 => rw [Xer.encNth, Xer.encNth, ih]
    | [], _, _ => simp [Xer.encNth]
    | _ :: _, [], _ => simp [Xer.encNth]

/-- BASIC-XER: an absent DEFAULT component is written with its default value (the SEQUENCE encoder materialises
    the default: an encoder's option of X.693 8) -/
theorem encMembers_default_absent (n : Bytes) (ns : List Bytes) (m : XTy) (ms : List XTy) (a : Attr)
    (as : List Attr) (il : Nat) (vs : List Val) (d : Val) (hd : dfltVal a = some d) (hne : rtVal false m d = true) :
    encMembers false (n :: ns) (m :: ms) (a :: as) il (.absent :: vs) =
      encMembers false (n :: ns) (m :: ms) (a :: as) il (d :: vs) :=
  have h : memberVal false a .absent = some (some d) := by simp [memberVal, hd]
  (SameVals.cons (h.trans (memberVal_of_ne (ne_absent_of_rtVal hne) false a).symm) (.refl as vs)).encMembers il _ _

/-- every component that is stored with its DEFAULT value made absent -/
def dropDefaults : List Attr → List Val → List Val
  | a :: as, v :: vs => (if isDefault a v then .absent else v) :: dropDefaults as vs
  | _, vs => vs

/-- a component with a DEFAULT value may be omitted (`elements[i].optional` counts it; the resolver flags it) -/
def dfltOmitable (attrs : List Attr) : Prop := ∀ a ∈ attrs, a.dflt.isSome = true → omitable a = true

theorem isDefault_absent (a : Attr) : isDefault a .absent = false := by
  unfold isDefault
  cases a.dflt with
  | none => rfl
  | some d => cases d <;> rfl

theorem memberVal_isDefault {a : Attr} {v : Val} (hd : isDefault a v = true) : memberVal true a v = some none := by
  have hv : v ≠ .absent := by rintro rfl; rw [isDefault_absent] at hd; cases hd
  rw [memberVal_of_ne hv, hd]; rfl

/-- CANONICAL-XER, SEQUENCE: a component holding its DEFAULT value is written like an absent one: not at all -/
theorem encCXER_default_omitted (n : Bytes) (ns : List Bytes) (m : XTy) (ms : List XTy) (a : Attr) (as : List Attr)
    (il : Nat) (v : Val) (vs : List Val) (hd : isDefault a v = true) (ho : omitable a = true) :
    encMembers true (n :: ns) (m :: ms) (a :: as) il (v :: vs) =
      encMembers true (n :: ns) (m :: ms) (a :: as) il (.absent :: vs) :=
  (SameVals.cons ((memberVal_isDefault hd).trans (memberVal_absent rfl ho).symm) (.refl as vs)).encMembers il _ _

theorem memberVal_dropDefault (a : Attr) (v : Val) (ho : a.dflt.isSome = true → omitable a = true) :
    memberVal true a (if isDefault a v then .absent else v) = memberVal true a v := by
  by_cases hd : isDefault a v = true
  · rw [if_pos hd, memberVal_isDefault hd, memberVal_absent rfl (ho (Asn1c.Proofs.L2Der.isDefault_dflt hd))]
  · rw [if_neg hd]

theorem sameVals_dropDefaults (as : List Attr) (vs : List Val) (ho : dfltOmitable as) :
    SameVals true as (dropDefaults as vs) vs := by
  induction as, vs using dropDefaults.induct with
  | case1 a as v vs ih =>
    exact .cons (memberVal_dropDefault a v (ho a (by simp))) (ih fun x hx => ho x (by simp [hx]))
  | case2 as vs h =>
    rw [dropDefaults]
    · exact .refl _ _
    · exact h

/-- **CANONICAL-XER SEQUENCE** (C06 for default materialisation): the encoding does not depend on whether the
    components that hold their DEFAULT value are stored or absent -/
theorem cxer_seq_default_indep (name : Bytes) (names : List Bytes) (ms : List XTy) (attrs : List Attr) (fe : Option Nat)
    (vs : List Val) (ho : dfltOmitable attrs) :
    encXER true ⟨name, .seq names ms attrs fe⟩ (.seq (dropDefaults attrs vs)) =
      encXER true ⟨name, .seq names ms attrs fe⟩ (.seq vs) := by
  simp only [encXER, encTy, (sameVals_dropDefaults attrs vs ho).encMembers]

/-- **CANONICAL-XER SET**: likewise (SET_encode_xer) -/
theorem cxer_set_default_indep (name : Bytes) (names : List Bytes) (ms : List XTy) (attrs : List Attr) (order : List Nat)
    (fe : Bool) (vs : List Val) (ho : dfltOmitable attrs) :
    encXER true ⟨name, .set names ms attrs order fe⟩ (.seq (dropDefaults attrs vs)) =
      encXER true ⟨name, .set names ms attrs order fe⟩ (.seq vs) := by
  simp only [encXER, encTy, (sameVals_dropDefaults attrs vs ho).encNth]

/-- ... also as a component at any depth of indentation -/
theorem cxer_seq_default_indep_member (names : List Bytes) (ms : List XTy) (attrs : List Attr) (fe : Option Nat) (il : Nat)
    (vs : List Val) (ho : dfltOmitable attrs) :
    encTy true (.seq names ms attrs fe) il (.seq (dropDefaults attrs vs)) = encTy true (.seq names ms attrs fe) il (.seq vs) := by
  simp only [encTy, (sameVals_dropDefaults attrs vs ho).encMembers]

/-- every absent component for which BASIC-XER substitutes the default value (`default_value_set`) made explicit -/
def fillDefaults : List Attr → List Val → List Val
  | a :: as, v :: vs =>
    (match v, dfltVal a with
     | .absent, some d => d
     | v, _ => v) :: fillDefaults as vs
  | _, vs => vs

theorem memberVal_fillDefault (a : Attr) (v : Val) :
    memberVal false a (match v, dfltVal a with | .absent, some d => d | v, _ => v) = memberVal false a v := by
  cases v with
  | absent =>
    cases hd : dfltVal a with
    | none => rfl
    | some d =>
      have hne : d ≠ .absent := by
        unfold dfltVal at hd
        split at hd <;> cases hd <;> exact Val.noConfusion
      rw [memberVal_of_ne hne]
      simp [memberVal, hd]
  | _ => rfl

theorem sameVals_fillDefaults (as : List Attr) (vs : List Val) : SameVals false as (fillDefaults as vs) vs := by
  induction as, vs using fillDefaults.induct with
  | case1 a as v vs ih => exact .cons (memberVal_fillDefault a v) ih
  | case2 as vs h =>
    rw [fillDefaults]
    · exact .refl _ _
    · exact h

theorem encNth_fillDefaults (ns : List Bytes) (ms : List XTy) (as : List Attr) (il : Nat) (vs : List Val) (k : Nat) :
    encNth false ns ms as il (fillDefaults as vs) k = encNth false ns ms as il vs k :=
  (sameVals_fillDefaults as vs).encNth il ns ms k

/-- **BASIC-XER SET** (C13 for DEFAULT members, F76 repaired): the encoding does not depend on whether a DEFAULT
    component is absent - a NULL pointer, the -fwide-types representation of `DEFAULT 0` - or stored with its default
    value - the inline native representation -: SET_encode_xer writes the default value in both cases, like
    SEQUENCE_encode_xer (`encMembers_default_absent`) -/
theorem xer_set_default_indep (name : Bytes) (names : List Bytes) (ms : List XTy) (attrs : List Attr) (order : List Nat)
    (fe : Bool) (vs : List Val) :
    encXER false ⟨name, .set names ms attrs order fe⟩ (.seq (fillDefaults attrs vs)) =
      encXER false ⟨name, .set names ms attrs order fe⟩ (.seq vs) := by
  simp only [encXER, encTy, encNth_fillDefaults names ms attrs 1 vs _]

/-- the former witness of finding F76, `T ::= SET { i INTEGER, e ENUMERATED { m, n } DEFAULT m }`: { i 1 } with `e`
    absent (the -fwide-types structure) and with `e` holding `m` (the native structure) have one BASIC-XER encoding,
    the one with `<e><m/></e>` (the absent form used to be written without it) -/
def exF76 : XTop :=
  ⟨[84], .set [[105], [101]] [.integer .long, .enumerated [[109], [110]] [0, 1]]
    [⟨false, none, false⟩, ⟨true, some (.int 0), false⟩] [0, 1] false⟩

theorem ref_F76_witness :
    encXER false exF76 (.seq [.int 1, .absent]) = some (Xer.strBytes "<T>\n    <i>1</i>\n    <e><m/></e>\n</T>\n") ∧
    encXER false exF76 (.seq [.int 1, .int 0]) = some (Xer.strBytes "<T>\n    <i>1</i>\n    <e><m/></e>\n</T>\n") ∧
    encXER true exF76 (.seq [.int 1, .absent]) = some (Xer.strBytes "<T><i>1</i></T>") ∧
    encXER true exF76 (.seq [.int 1, .int 0]) = some (Xer.strBytes "<T><i>1</i></T>") := by
  refine ⟨by decide +kernel, by decide +kernel, by decide +kernel, by decide +kernel⟩

/-- the former witness of finding F56, `T ::= SEQUENCE { a INTEGER DEFAULT 5, b BOOLEAN }`: { a 5, b TRUE } and
    { b TRUE } have one CANONICAL-XER encoding, `<T><b><true/></b></T>`; BASIC-XER writes `<a>5</a>` for both -/
def exF56 : XTop := ⟨[84], .seq [[97], [98]] [.integer .long, .boolean] [⟨true, some (.int 5), false⟩, ⟨false, none, false⟩] none⟩

theorem ref_F56_witness :
    encXER true exF56 (.seq [.int 5, .bool true]) = some (Xer.strBytes "<T><b><true/></b></T>") ∧
    encXER true exF56 (.seq [.absent, .bool true]) = some (Xer.strBytes "<T><b><true/></b></T>") ∧
    encXER false exF56 (.seq [.int 5, .bool true]) = encXER false exF56 (.seq [.absent, .bool true]) ∧
    decXER exF56 [60, 84, 62, 60, 98, 62, 60, 116, 114, 117, 101, 47, 62, 60, 47, 98, 62, 60, 47, 84, 62] = some (.seq [.absent, .bool true]) := by
  refine ⟨by decide +kernel, by decide +kernel, by decide +kernel, rfl⟩

/-- rendered XML tokens: character data and the three tag forms the encoder writes -/
inductive Tok where
  | text (bs : Bytes)
  | opening (n : Bytes)
  | closing (n : Bytes)
  | empty (n : Bytes)

def Tok.render : Tok → Bytes
  | .text bs => bs
  | .opening n => openTag n
  | .closing n => closeTag n
  | .empty n => emptyTag n

def Tok.kind : Tok → TK
  | .text _ => .text
  | _ => .tag

/-- character data is not empty and has no '<'; names are tag names -/
def Tok.wf : Tok → Prop
  | .text bs => bs ≠ [] ∧ ∀ c ∈ bs, c ≠ cLT
  | .opening n | .closing n | .empty n => nameOk n = true

def Tok.isText : Tok → Bool
  | .text _ => true
  | _ => false

/-- no two adjacent pieces of character data, and the list ends with a tag -/
def chainOk : List Tok → Prop
  | [] => True
  | [t] => t.isText = false
  | t :: u :: r => (t.isText = true → u.isText = false) ∧ chainOk (u :: r)

def renderAll (ts : List Tok) : Bytes := (ts.map Tok.render).flatten

/-- repeated `xer_next_token` -/
def tokens : Nat → Bytes → List (TK × Bytes)
  | 0, _ => []
  | f + 1, bs =>
    match nextTok bs with
    | some (k, chunk, rest) => (k, chunk) :: tokens f rest
    | none => []

theorem render_tag_head (t : Tok) (ht : t.isText = false) : ∃ r, t.render = cLT :: r := by
  cases t with
  | text _ => cases ht
  | opening n => exact ⟨_, rfl⟩
  | closing n => exact ⟨_, rfl⟩
  | empty n => exact ⟨_, rfl⟩

theorem nextTok_render (t : Tok) (hw : t.wf) (r : Bytes) (hr : t.isText = true → ∃ r', r = cLT :: r') :
    nextTok (t.render ++ r) = some (t.kind, t.render, r) := by
  cases t with
  | text bs =>
    obtain ⟨r', rfl⟩ := hr rfl
    exact nextTok_text bs hw.1 hw.2 _ rfl
  | opening n => exact nextTok_openTag n hw r
  | closing n => exact nextTok_closeTag n hw r
  | empty n => exact nextTok_emptyTag n hw r

theorem chainOk_cons {t : Tok} {ts : List Tok} (hc : chainOk (t :: ts)) :
    chainOk ts ∧ (t.isText = true → ∃ r', renderAll ts = cLT :: r') := by
  cases ts with
  | nil => exact ⟨trivial, fun htx => by simp [chainOk, htx] at hc⟩
  | cons u us =>
    refine ⟨hc.2, fun htx => ?_⟩
    obtain ⟨r, hr⟩ := render_tag_head u (hc.1 htx)
    exact ⟨r ++ renderAll us, by simp [renderAll, hr]⟩

/-- **tokenizer round trip**: tokenizing the rendering of a well-formed token list gives back the tokens -/
theorem tokens_render : ∀ (ts : List Tok) (f : Nat), (∀ t ∈ ts, t.wf) → chainOk ts → ts.length ≤ f →
    tokens f (renderAll ts) = ts.map fun t => (t.kind, t.render) := by
  intro ts
  induction ts with
  | nil => intro f _ _ _; cases f <;> simp [tokens, renderAll, nextTok, scan]
  | cons t ts ih =>
    intro f hw hc hf
    obtain ⟨f', rfl⟩ : ∃ f', f = f' + 1 := ⟨f - 1, by simp at hf; omega⟩
    obtain ⟨hc', hnext⟩ := chainOk_cons hc
    rw [show renderAll (t :: ts) = t.render ++ renderAll ts by simp [renderAll]]
    simp only [tokens, nextTok_render t (hw t (by simp)) _ hnext, List.map_cons]
    rw [ih f' (fun x hx => hw x (by simp [hx])) hc' (by simp at hf; omega)]

/-- **F153 (repaired)**: a value tag may be called like the element that carries it - for every tag name `name`,
    also `true` / `false`, `<name><true/></name>` decodes to TRUE and `<name><false/></name>` to FALSE ... -/
theorem xer_value_tag_named_like_element_boolean (name rest : Bytes) (b : Bool) (hn : nameOk name = true) :
    decTy 12 .boolean name (openTag name ++ (if b then litTrueTag else litFalseTag) ++ closeTag name ++ rest) =
      some (.bool b, rest) :=
  rt_all .boolean rfl true name 1 (.bool b) _ rest 12 hn rfl rfl (by cases b <;> decide)

/-- ... and an ENUMERATED element called like one of its items decodes to that item -/
theorem xer_value_tag_named_like_element (ns : List Bytes) (vs : List Int) (z : Int) (x rest : Bytes)
    (hok : rtTy (.enumerated ns vs) = true) (hx : lookupName ns vs z = some x) :
    decTy ((emptyTag x).length + 4) (.enumerated ns vs) x (openTag x ++ emptyTag x ++ closeTag x ++ rest) =
      some (.int z, rest) := by
  have hok' : enumOkB ns vs = true := by simpa [rtTy] using hok
  have hxn : nameOk x = true := (enumOk_of_B hok').2.2.1 x (lookupName_mem ns vs z x hx).1
  exact rt_all _ hok true x 1 (.int z) (emptyTag x) rest _ hxn (by simp [rtVal, hx]) (by simp [encTy, hx]) (Nat.le_refl _)

/-- `S ::= SEQUENCE { red ENUMERATED { red, green } }` -/
def exEnumClash : XTop :=
  ⟨[83], .seq [[114, 101, 100]] [.enumerated [[114, 101, 100], [103, 114, 101, 101, 110]] [0, 1]] [⟨false, none, false⟩] none⟩

/-- `S ::= SEQUENCE { true BOOLEAN, false BOOLEAN }` -/
def exBoolClash : XTop :=
  ⟨[83], .seq [[116, 114, 117, 101], [102, 97, 108, 115, 101]] [.boolean, .boolean] [⟨false, none, false⟩, ⟨false, none, false⟩] none⟩

example : topOk exEnumClash = true := by decide
example : topOk exBoolClash = true := by decide

/-- the former witness of finding F153: the value `{ red red }` is written as `<S><red><red/></red></S>` and
    decodes to itself (it was rejected: `<red/>` inside `<red>` was taken for the empty element `red`);
    likewise `{ true TRUE, false FALSE }`; the empty element `<red/>` alone remains an error -/
theorem ref_F153_witness :
    Xer.strBytes "<S><red><red/></red></S>" = [60, 83, 62, 60, 114, 101, 100, 62, 60, 114, 101, 100, 47, 62, 60, 47, 114, 101, 100, 62, 60, 47, 83, 62] ∧
    encXER true exEnumClash (.seq [.int 0]) = some [60, 83, 62, 60, 114, 101, 100, 62, 60, 114, 101, 100, 47, 62, 60, 47, 114, 101, 100, 62, 60, 47, 83, 62] ∧
    decXER exEnumClash [60, 83, 62, 60, 114, 101, 100, 62, 60, 114, 101, 100, 47, 62, 60, 47, 114, 101, 100, 62, 60, 47, 83, 62] = some (.seq [.int 0]) ∧
    -- `<S><red><green/></red></S>`, `<S><red/></S>`
    decXER exEnumClash [60, 83, 62, 60, 114, 101, 100, 62, 60, 103, 114, 101, 101, 110, 47, 62, 60, 47, 114, 101, 100, 62, 60, 47, 83, 62] = some (.seq [.int 1]) ∧
    decXER exEnumClash [60, 83, 62, 60, 114, 101, 100, 47, 62, 60, 47, 83, 62] = none ∧
    Xer.strBytes "<S><true><true/></true><false><false/></false></S>" = [60, 83, 62, 60, 116, 114, 117, 101, 62, 60, 116, 114, 117, 101, 47, 62, 60, 47, 116, 114, 117, 101, 62, 60, 102, 97, 108, 115, 101, 62, 60, 102, 97, 108, 115, 101, 47, 62, 60, 47, 102, 97, 108, 115, 101, 62, 60, 47, 83, 62] ∧
    encXER true exBoolClash (.seq [.bool true, .bool false]) = some [60, 83, 62, 60, 116, 114, 117, 101, 62, 60, 116, 114, 117, 101, 47, 62, 60, 47, 116, 114, 117, 101, 62, 60, 102, 97, 108, 115, 101, 62, 60, 102, 97, 108, 115, 101, 47, 62, 60, 47, 102, 97, 108, 115, 101, 62, 60, 47, 83, 62] ∧
    decXER exBoolClash [60, 83, 62, 60, 116, 114, 117, 101, 62, 60, 116, 114, 117, 101, 47, 62, 60, 47, 116, 114, 117, 101, 62, 60, 102, 97, 108, 115, 101, 62, 60, 102, 97, 108, 115, 101, 47, 62, 60, 47, 102, 97, 108, 115, 101, 62, 60, 47, 83, 62] = some (.seq [.bool true, .bool false]) := by
  refine ⟨by decide +kernel, rfl, xer_roundtrip true exEnumClash _ _ (by decide) (by decide) rfl,
    xer_roundtrip true exEnumClash _ _ (by decide) (by decide) rfl, rfl, by decide +kernel, rfl, rfl⟩

/-- white space in the sense of `xer_whitespace_span` (HT, LF, CR, SPACE) -/
def wsOnly (w : Bytes) : Bool := w.all isWsP

theorem wsOnly_noLT {w : Bytes} (h : wsOnly w = true) : ∀ c ∈ w, c ≠ cLT :=
  fun c hc e => absurd (List.all_eq_true.mp h c hc) (e ▸ by decide)

theorem dropWhile_wsOnly {w : Bytes} (h : wsOnly w = true) : w.dropWhile isWsP = [] := by
  simpa using List.dropWhile_append_of_pos (l₂ := []) (List.all_eq_true.mp h)

/-- **F59 (repaired)**: white space between the tags of a BOOLEAN element and its `<true/>` / `<false/>` is
    insignificant: `<b> <true/> </b>` decodes like `<b><true/></b>`, for any white space before and after -/
theorem xer_boolean_white_space (name w₁ w₂ rest : Bytes) (b : Bool) (hn : nameOk name = true)
    (h₁ : wsOnly w₁ = true) (h₂ : wsOnly w₂ = true) :
    decPrim boolBody name (openTag name ++ w₁ ++ (if b then litTrueTag else litFalseTag) ++ w₂ ++ closeTag name ++ rest) =
      some (.bool b, rest) := by
  obtain ⟨x, hxn, -, hxe, hxb⟩ := boolTag b
  -- from the end: the closing tag, the white space in front of it (the value is there), the value tag, the white
  -- space in front of that (an empty chunk is XPBD_NOT_BODY_IGNORE)
  have h2 := dg_skip (primCb boolBody) name (s := some (.bool b))
    (by simp only [primCb, show w₂.all isWsP = true from h₂, if_true]) (wsOnly_noLT h₂) rfl
    (dg_close _ _ hn _ rest)
  have htag := dg_unexp (primCb boolBody) name hn (s := none) hxn (by simp only [primCb, hxb]) h2
  have hign : boolBody [] = .ignore := rfl
  have h1 := dg_skip (primCb boolBody) name (s := none) (by simp [primCb, dropWhile_wsOnly h₁, hign])
    (wsOnly_noLT h₁) rfl htag
  rw [hxe]
  unfold Xer.decPrim
  simp only [List.append_assoc]
  rw [dg_open _ _ hn h1 _ (by simp only [List.length_append, openTag_length, emptyTag_length]; omega)]

/-- `S ::= SEQUENCE { b BOOLEAN }` -/
def exBoolSeq : XTop := ⟨[83], .seq [[98]] [.boolean] [⟨false, none, false⟩] none⟩

/-- the former witness of finding F59: `<S><b> <true/> </b></S>` is accepted (it was rejected) like
    `<S> <b><true/></b> </S>`; an element without a value remains an error -/
theorem ref_F59_witness :
    Xer.strBytes "<S><b> <true/> </b></S>" = [60, 83, 62, 60, 98, 62, 32, 60, 116, 114, 117, 101, 47, 62, 32, 60, 47, 98, 62, 60, 47, 83, 62] ∧
    decXER exBoolSeq [60, 83, 62, 60, 98, 62, 32, 60, 116, 114, 117, 101, 47, 62, 32, 60, 47, 98, 62, 60, 47, 83, 62] = some (.seq [.bool true]) ∧
    -- `<S> <b><true/></b> </S>`, `<S><b> </b></S>`, `<S><b/></S>`
    decXER exBoolSeq [60, 83, 62, 32, 60, 98, 62, 60, 116, 114, 117, 101, 47, 62, 60, 47, 98, 62, 32, 60, 47, 83, 62] = some (.seq [.bool true]) ∧
    decXER exBoolSeq [60, 83, 62, 60, 98, 62, 32, 60, 47, 98, 62, 60, 47, 83, 62] = none ∧
    decXER exBoolSeq [60, 83, 62, 60, 98, 47, 62, 60, 47, 83, 62] = none := by
  refine ⟨by decide +kernel, rfl, rfl, rfl, rfl⟩

/-- **F150 (repaired)**: BMPString round-trips, whatever characters it holds -/
theorem xer_roundtrip_bmpstring (c : Bool) (name bs enc : Bytes) (hn : nameOk name = true) (hb : bmpOk bs = true)
    (he : encXER c ⟨name, .bmpstr⟩ (.octets bs) = some enc) : decXER ⟨name, .bmpstr⟩ enc = some (.octets bs) :=
  xer_roundtrip c ⟨name, .bmpstr⟩ (.octets bs) enc (by simp [topOk, hn, rtTy]) (by simpa [rtVal] using hb) he

/-- ... and so does UniversalString (code points below 2^31: the UTF-8 form of `UniversalString__dump` has 31 bits) -/
theorem xer_roundtrip_universalstring (c : Bool) (name bs enc : Bytes) (hn : nameOk name = true) (hb : uniOk bs = true)
    (he : encXER c ⟨name, .unistr⟩ (.octets bs) = some enc) : decXER ⟨name, .unistr⟩ enc = some (.octets bs) :=
  xer_roundtrip c ⟨name, .unistr⟩ (.octets bs) enc (by simp [topOk, hn, rtTy]) (by simpa [rtVal] using hb) he

/-- the former witness of finding F150: BMPString "a<b" is written as `<T>a&lt;b</T>` (it was `<T>a<b</T>`, which does
    not decode) like the UTF8String "a<b", and decodes to itself; so does the BMPString `&amp;` -/
theorem ref_F150_witness :
    Xer.strBytes "<T>a&lt;b</T>" = [60, 84, 62, 97, 38, 108, 116, 59, 98, 60, 47, 84, 62] ∧
    encXER true ⟨[84], .bmpstr⟩ (.octets [0, 97, 0, 60, 0, 98]) = some [60, 84, 62, 97, 38, 108, 116, 59, 98, 60, 47, 84, 62] ∧
    decXER ⟨[84], .bmpstr⟩ [60, 84, 62, 97, 38, 108, 116, 59, 98, 60, 47, 84, 62] = some (.octets [0, 97, 0, 60, 0, 98]) ∧
    -- the former encoding `<T>a<b</T>`
    decXER ⟨[84], .bmpstr⟩ [60, 84, 62, 97, 60, 98, 60, 47, 84, 62] = none ∧
    encXER true ⟨[84], .utf8str⟩ (.octets [97, 60, 98]) = some [60, 84, 62, 97, 38, 108, 116, 59, 98, 60, 47, 84, 62] ∧
    Xer.strBytes "<T>&amp;amp;<nul/></T>" = [60, 84, 62, 38, 97, 109, 112, 59, 97, 109, 112, 59, 60, 110, 117, 108, 47, 62, 60, 47, 84, 62] ∧
    encXER true ⟨[84], .bmpstr⟩ (.octets [0, 38, 0, 97, 0, 109, 0, 112, 0, 59, 0, 0]) = some [60, 84, 62, 38, 97, 109, 112, 59, 97, 109, 112, 59, 60, 110, 117, 108, 47, 62, 60, 47, 84, 62] ∧
    decXER ⟨[84], .bmpstr⟩ [60, 84, 62, 38, 97, 109, 112, 59, 97, 109, 112, 59, 60, 110, 117, 108, 47, 62, 60, 47, 84, 62] = some (.octets [0, 38, 0, 97, 0, 109, 0, 112, 0, 59, 0, 0]) := by
  refine ⟨by decide +kernel, rfl, rfl, rfl, rfl, by decide +kernel, rfl, rfl⟩

/-- the former witness of finding F152: a numeric character reference without digits or of value zero is a decoding
    error (the C code aborted on `assert(val > 0)`); references to characters are expanded -/
theorem ref_F152_witness :
    Xer.strBytes "<T>&#x;</T>" = [60, 84, 62, 38, 35, 120, 59, 60, 47, 84, 62] ∧
    decXER ⟨[84], .utf8str⟩ [60, 84, 62, 38, 35, 120, 59, 60, 47, 84, 62] = none ∧
    -- `<T>&#;</T>`, `<T>a&#0;</T>`, `<T>&#x41;&#66;</T>`
    decXER ⟨[84], .utf8str⟩ [60, 84, 62, 38, 35, 59, 60, 47, 84, 62] = none ∧
    decXER ⟨[84], .utf8str⟩ [60, 84, 62, 97, 38, 35, 48, 59, 60, 47, 84, 62] = none ∧
    decXER ⟨[84], .utf8str⟩ [60, 84, 62, 38, 35, 120, 52, 49, 59, 38, 35, 54, 54, 59, 60, 47, 84, 62] = some (.octets [65, 66]) := by
  refine ⟨by decide +kernel, rfl, rfl, rfl, rfl⟩

/-- finding F30 on a concrete value: `<T>5</T>\n` is 9 octets, 8 are consumed -/
theorem ref_F30_witness :
    encXER false ⟨[84], .integer .long⟩ (.int 5) = some [60, 84, 62, 53, 60, 47, 84, 62, 10] ∧
    (decXERc ⟨[84], .integer .long⟩ [60, 84, 62, 53, 60, 47, 84, 62, 10]).map (·.2) = some 8 := by
  refine ⟨rfl, by decide +kernel⟩

/-! ### the hypotheses are satisfiable on a non-trivial type -/

/-- `T ::= SEQUENCE { a INTEGER OPTIONAL, c CHOICE { x BOOLEAN, y NULL }, l SEQUENCE OF INTEGER,
      e ENUMERATED { r, g } DEFAULT r, o OCTET STRING, b BIT STRING, u UTF8String, f SEQUENCE OF BOOLEAN,
      k SEQUENCE OF CHOICE { p INTEGER, q NULL } }` -/
def exTy : XTop :=
  ⟨[84], .seq [[97], [99], [108], [101], [111], [98], [117], [102], [107]]
    [.integer .long, .choice [[120], [121]] [.boolean, .null] false, .seqOf 0 [73, 78, 84, 69, 71, 69, 82] (.integer .long),
     .enumerated [[114], [103]] [0, 1], .hexstr, .bitstr, .utf8str, .seqOf 1 [66, 79, 79, 76, 69, 65, 78] .boolean,
     .seqOf 2 [] (.choice [[112], [113]] [.integer .long, .null] false)]
    [⟨true, none, false⟩, ⟨false, none, false⟩, ⟨false, none, false⟩, ⟨true, some (.int 0), false⟩,
     ⟨false, none, false⟩, ⟨false, none, false⟩, ⟨false, none, false⟩, ⟨false, none, false⟩, ⟨false, none, false⟩] none⟩

def exVal : Val :=
  .seq [.absent, .choice 1 .null, .list [.int 1, .int (-2)], .int 1, .octets [1, 255], .bits [160] 4, .octets [97, 60, 0, 38],
        .list [.bool true, .bool false], .list [.choice 0 (.int 7), .choice 1 .null]]

example : topOk exTy = true := by decide
example : rtVal true exTy.ty exVal = true := by decide
example : rtVal false exTy.ty exVal = true := by decide
theorem exTy_encCXER :
    encXER true exTy exVal = some (Xer.strBytes
      "<T><c><y></y></c><l><INTEGER>1</INTEGER><INTEGER>-2</INTEGER></l><e><g/></e><o>01FF</o><b>1010</b><u>a&lt;<nul/>&amp;</u><f><true/><false/></f><k><p>7</p><q></q></k></T>") := by
  decide +kernel

end Asn1c.Props.C01Xer
