import Asn1cModel.Impl.StackGuard
import Asn1cModel.Proofs.StackGuard
/-
  C15 — "Decoding uses bounded stack and heap proportional to the input."

  Level: partial.  The theorems are about `Impl.StackGuard` (a model of the recursion skeleton with
  `ASN__STACK_OVERFLOW_CHECK`, and of the decoders that allocate from length prefixes).  Frame sizes are
  decided by the C compiler and are *parameters* here (every theorem quantifies over them); that the real
  frames are constant per nesting level and that the real allocations are the modelled ones is observed
  on every run by `vlib/props/c15.py` (K leg), which also evaluates the property directly on C (P leg).

  In order: which decoders check (regenerated table, `decide` over the whole table, no exceptions); stack
  (bounded depth, deep input fails, never overflows, in every syntax); heap: a length prefix is compared with the
  input before it sizes an allocation; collections and the zero-width guard; UPER strings (SIZE constraint,
  fragments, zero-width characters); BER OCTET STRING buffer growth and its heap-allocated nesting stack.
-/
namespace Asn1c.Props.C15
open Asn1c Asn1c.Impl.StackGuard Asn1c.Impl.BerTlv Asn1c.Proofs.StackGuard
open Asn1c.Generated.StackGuard

/-- Every decoder through which a recursive type recurses — BER (through `ber_check_tags`), UPER, OER and XER,
    plus `ber_skip_length` — performs an effective `if(ASN__STACK_OVERFLOW_CHECK(..))`; every constructed entry
    point of the table is in this list. -/
theorem all_recursing_decoders_guarded :
    (∀ d ∈ recursingDecoders, isGuarded d = true) ∧
    (∀ d ∈ constructedDecoders, d ∈ recursingDecoders) := by
  decide +kernel

/-- **Every constructed decoder entry is guarded, in every syntax.**  Each row of the regenerated table that is
    an entry point of a constructed type — `SEQUENCE/SET/SET_OF/CHOICE_decode_{ber,uper,oer,xer}`, whichever of
    them exist in the source tree — performs an effective `if(ASN__STACK_OVERFLOW_CHECK(..))` on entry (the BER
    ones through `ber_check_tags`).  No exception list: finding F13 (XER constructed decoders and
    `CHOICE_decode_oer` unguarded) is repaired.  Removing the check from any of them, or adding a constructed
    decoder without it, breaks this theorem at build time. -/
theorem all_constructed_decoders_guarded :
    ∀ d ∈ constructedDecoders, isGuarded d = true :=
  fun d hd => all_recursing_decoders_guarded.1 d (all_recursing_decoders_guarded.2 d hd)

/-- the table has all four syntaxes: 14 constructed entry points (no SET decoder for UPER / OER exists), each
    of them a row of `guardedDecoders` -/
theorem constructed_decoders_inventory :
    constructedDecoders.length = 14 ∧
    (∀ d ∈ constructedDecoders, (guardedDecoders.map (·.1)).contains d = true) := by
  decide +kernel

/-- no decoder calls the check and throws its verdict away (before the repair: the two open-type readers of
    per_opentype.c), and those two now test it -/
theorem no_discarded_checks :
    discardedChecks = [] ∧ (∀ d ∈ formerlyDiscarding, isGuarded d = true) := by
  decide +kernel

theorem guarded_decoders_spelled_out :
    isGuarded "SEQUENCE_decode_ber" = true ∧ isGuarded "SET_decode_ber" = true ∧
    isGuarded "CHOICE_decode_ber" = true ∧ isGuarded "SET_OF_decode_ber" = true ∧
    isGuarded "ber_skip_length" = true ∧ isGuarded "ber_check_tags" = true ∧
    isGuarded "SEQUENCE_decode_uper" = true ∧ isGuarded "CHOICE_decode_uper" = true ∧
    isGuarded "SET_OF_decode_uper" = true ∧
    isGuarded "SEQUENCE_decode_oer" = true ∧ isGuarded "CHOICE_decode_oer" = true ∧
    isGuarded "SET_OF_decode_oer" = true ∧
    isGuarded "SEQUENCE_decode_xer" = true ∧ isGuarded "SET_decode_xer" = true ∧
    isGuarded "CHOICE_decode_xer" = true ∧ isGuarded "SET_OF_decode_xer" = true := by
  -- the recursing decoders one by one, and `ber_check_tags`, which is not one of them
  have h := all_recursing_decoders_guarded.1
  simp only [recursingDecoders, List.forall_mem_cons] at h
  obtain ⟨h1, h2, h3, h4, h5, h6, h7, h8, h9, h10, h11, h12, h13, h14, h15, -⟩ := h
  exact ⟨h1, h2, h3, h4, h5, by decide +kernel, h6, h7, h8, h9, h10, h11, h12, h13, h14, h15⟩

/-- the check is what `nestL` models, a non-zero default limit exists and every top-level wrapper
    (`ber_decode`, `uper_decode`, `oer_decode`, `xer_decode`) installs it when the caller passes no context;
    the default leaves 7 MiB of an 8 MiB stack for the deepest frame -/
theorem default_limit_installed :
    checkComparesUsedWithMax = true ∧
    (∃ m, defaultStackMax = some m ∧ 0 < m ∧ m + 7 * 2 ^ 20 ≤ 8 * 2 ^ 20) ∧
    installsDefaultLimit.all (·.2) = true ∧ installsDefaultLimit.length = 4 := by
  refine ⟨by decide, ⟨30000, by decide, by decide, by decide⟩, by decide, by decide⟩

/-- **depth_bounded.**  A guarded recursion with a limit `max ≠ 0` and frames of at least `δ ≥ 1` bytes each
    starts at most `max/δ + 1` nested decoder invocations (the last one being the one whose check fails),
    whatever nesting the input asks for. -/
theorem depth_bounded_frames (max phys δ : Nat) (frames : List Nat) (hmax : max ≠ 0) (hδ : 1 ≤ δ)
    (hf : ∀ f ∈ frames, δ ≤ f) : (nestL true max phys 0 frames).2 ≤ max / δ + 1 := by
  have h := nestL_started_le max phys δ hmax frames 0 hf (Nat.zero_le _)
  have h2 : ((nestL true max phys 0 frames).2 - 1) * δ ≤ max := by rw [Nat.sub_mul]; omega
  have := (Nat.le_div_iff_mul_le (by omega : 0 < δ)).2 h2
  omega

/-- the same for the constant frame cost `δ` -/
theorem depth_bounded (max phys δ depth : Nat) (hmax : max ≠ 0) (hδ : 1 ≤ δ) :
    maxReachedDepth true max phys δ depth ≤ max / δ + 1 :=
  depth_bounded_frames max phys δ _ hmax hδ fun f hf => (replicate_frames depth δ f hf).1

/-- **deep_input_fails.**  If the limit leaves room for one more frame below the real stack size
    (`max + Δ ≤ phys`, frames between `δ` and `Δ`), an input nested deeper than `max/δ` is answered with
    `fail` — not with `ok`, and never with a stack overflow. -/
theorem deep_input_fails_frames (max phys δ Δ : Nat) (frames : List Nat) (hmax : max ≠ 0) (hδ : 1 ≤ δ)
    (hphys : max + Δ ≤ phys) (hf : ∀ f ∈ frames, δ ≤ f ∧ f ≤ Δ) (hdeep : frames.length > max / δ) :
    (nestL true max phys 0 frames).1 = .fail := by
  apply (nestL_guarded max phys δ Δ hmax hphys frames 0 (fun f h => (hf f h).2) (Nat.zero_le _)).2
    fun f h => (hf f h).1
  have := (Nat.div_lt_iff_lt_mul (by omega : 0 < δ)).1 hdeep
  omega

/-- the same for the constant frame cost `δ` -/
theorem deep_input_fails (max phys δ depth : Nat) (hmax : max ≠ 0) (hδ : 1 ≤ δ)
    (hphys : max + δ ≤ phys) (hdeep : depth > max / δ) :
    (decodeNest true max phys δ depth).1 = .fail :=
  deep_input_fails_frames max phys δ δ _ hmax hδ hphys (replicate_frames depth δ)
    (by rw [List.length_replicate]; exact hdeep)

/-- a guarded recursion never exhausts the stack, at any depth -/
theorem guarded_never_overflows (max phys Δ : Nat) (frames : List Nat) (hmax : max ≠ 0)
    (hphys : max + Δ ≤ phys) (hf : ∀ f ∈ frames, f ≤ Δ) :
    (nestL true max phys 0 frames).1 ≠ .overflow :=
  (nestL_guarded max phys 0 Δ hmax hphys frames 0 hf (Nat.zero_le _)).1

/-- the hypotheses are satisfiable with the real numbers: default limit, 8 MiB stack, 256-byte frames -/
example : (decodeNest true 30000 (8 * 2 ^ 20) 256 100000).1 = .fail :=
  deep_input_fails 30000 (8 * 2 ^ 20) 256 100000 (by decide) (by decide) (by decide) (by decide)

/-- **Why the check is needed** (the mutant without it; also a caller who sets `max_stack_size = 0`, which the
    property excludes): such a decoder follows the input to any depth, and as soon as `depth·δ` exceeds the real
    stack the outcome is `overflow`.  This was finding F13 for the XER constructed decoders and `CHOICE_decode_oer`. -/
theorem unguarded_overflows (g : Bool) (max phys δ depth : Nat) (hg : g = false ∨ max = 0)
    (hdeep : depth * δ > phys) : (decodeNest g max phys δ depth).1 = .overflow := by
  apply nestL_unchecked_overflows g max phys δ hg (List.replicate depth δ) 0
    (fun f hf => (replicate_frames depth δ f hf).1) (Nat.zero_le _)
  rw [List.length_replicate]
  omega

/-- **Deep input fails in every syntax.**  For every decoder `d` through which a type can recurse — any
    constructed kind, BER / UPER / OER / XER — with the guard status *read from the source table*: a limit
    `max ≠ 0` that leaves room for one more frame below the real stack, frames of `δ ≥ 1` bytes, input nested
    deeper than `max/δ` ⇒ the verdict is `fail`; and at no depth is it `overflow`. -/
theorem every_recursing_decoder_deep_input_fails (d : String) (hd : d ∈ recursingDecoders)
    (max phys δ depth : Nat) (hmax : max ≠ 0) (hδ : 1 ≤ δ) (hphys : max + δ ≤ phys) :
    (depth > max / δ → (decodeNest (isGuarded d) max phys δ depth).1 = .fail) ∧
    (decodeNest (isGuarded d) max phys δ depth).1 ≠ .overflow := by
  rw [all_recursing_decoders_guarded.1 d hd]
  exact ⟨deep_input_fails max phys δ depth hmax hδ hphys,
    guarded_never_overflows max phys δ _ hmax hphys fun f hf => (replicate_frames depth δ f hf).2⟩

/-- the same for every constructed entry point of the regenerated table -/
theorem every_constructed_decoder_deep_input_fails (d : String) (hd : d ∈ constructedDecoders)
    (max phys δ depth : Nat) (hmax : max ≠ 0) (hδ : 1 ≤ δ) (hphys : max + δ ≤ phys) :
    (depth > max / δ → (decodeNest (isGuarded d) max phys δ depth).1 = .fail) ∧
    (decodeNest (isGuarded d) max phys δ depth).1 ≠ .overflow :=
  every_recursing_decoder_deep_input_fails d (all_recursing_decoders_guarded.2 d hd) max phys δ depth hmax hδ hphys

/-- **F13 repaired — the former witness.**  The decoders of the former exception list are guarded, and the
    former counter-example (XER / OER-CHOICE nesting 10^5, default limit 30000, 8 MiB stack, 96-byte frames:
    `overflow` while the check was missing) now ends in `fail` for each of them. -/
theorem f13_former_witness_fails :
    ∀ d ∈ formerlyUnguarded, isGuarded d = true ∧
      (decodeNest (isGuarded d) 30000 (8 * 2 ^ 20) 96 100000).1 = .fail := by
  intro d hd
  have hr := (by decide +kernel : ∀ d ∈ formerlyUnguarded, d ∈ recursingDecoders) d hd
  exact ⟨all_recursing_decoders_guarded.1 d hr, (every_recursing_decoder_deep_input_fails d hr
    30000 (8 * 2 ^ 20) 96 100000 (by decide) (by decide) (by decide)).1 (by decide)⟩

/-- what the same input did before the repair (check absent): `overflow` — the guard is the only difference -/
theorem f13_former_witness_unguarded_overflowed : (decodeNest false 30000 (8 * 2 ^ 20) 96 100000).1 = .overflow :=
  unguarded_overflows false 30000 (8 * 2 ^ 20) 96 100000 (Or.inl rfl) (by decide)

/-- **length_checked_before_alloc** (`ber_decode_primitive`): the buffer request is at most the remaining
    input + 1, for every input. -/
theorem length_checked_before_alloc (tag : Tag) (bs : Bytes) (r : Nat)
    (h : (berPrimitive true tag bs).bufReq = some r) :
    r ≤ bs.length + 1 ∧ (berPrimitive true tag bs).rc = .ok :=
  (berPrimitive_requests tag bs).2 r h

/-- whole-ledger form: the decode holds at most `bs.length + 17` bytes -/
theorem ber_primitive_heap_le_input (tag : Tag) (bs : Bytes) :
    (berPrimitive true tag bs).heap.peak ≤ bs.length + 17 := by
  obtain ⟨hs, hb⟩ := berPrimitive_requests tag bs
  cases hr : (berPrimitive true tag bs).bufReq with
  | none => simp [PrimResult.heap, hr, hs, Heap.alloc]
  | some r =>
    have := (hb r hr).1
    simp [PrimResult.heap, hr, hs, Heap.alloc]
    omega

/-- counter-example for the mutant without the test: six octets make it ask for 2 GiB -/
theorem length_unchecked_cex :
    (berPrimitive false ⟨0, 6⟩ [0x06, 0x84, 0x7f, 0xff, 0xff, 0xff]).bufReq = some (2 ^ 31) := by
  decide

/-- `OCTET_STRING_decode_oer`: the request is at most the input + 1 -/
theorem os_oer_length_checked (ssz : Nat) (ct : Option Nat) (unit : Nat) (bs : Bytes) (r : Nat)
    (h : (osOer ssz ct unit bs).bufReq = some r) : r ≤ bs.length + 1 := by
  revert h
  -- each leaf of `osOer` requests nothing, or stands behind the test of `expected` against the input, not taken
  fun_cases osOer ssz ct unit bs <;> intro h <;> cases h <;> omega

/-- the maximal OER length prefix `84 ff ff ff ff` with no data behind it allocates nothing but the structure -/
example : (osOer 40 none 1 [0x84, 0xff, 0xff, 0xff, 0xff]).heap.peak = 40 := by decide

/-- every allocation site of the skeletons that is sized by a length prefix of the input compares the
    length with the remaining input first (translator: regex over the eight function bodies), and the
    length fetchers cap their result at RSSIZE_MAX / RSIZE_MAX as modelled -/
theorem all_length_allocs_checked :
    lengthCheckedSites.all (·.2) = true ∧ lengthCheckedSites.length = 8 ∧
    berLengthLimitedByRssizeMax = true ∧ rssizeMax = some (2 ^ 62 - 1) ∧
    oerLengthLimitedByRsizeMax = true ∧ rsizeMax = some (2 ^ 63 - 1) := by
  decide

/-- the guards are in the source, with the modelled limits -/
theorem zero_width_guard_present :
    zeroWidthLimitUper = some 200 ∧ zeroWidthLimitOer = some 200 := by decide

/-- **zero_width_guard (UPER).**  Elements that consume no bits (NULL, empty SEQUENCE …): whatever counts
    the length determinants announce — 64K·k, fragmented, from a SIZE constraint — at most `max lim 1`
    elements are ever allocated. -/
theorem zero_width_guard (c : SetOfCfg) (lim : Nat) (ct : Option (Nat × Nat)) (bits : Bits)
    (hw : c.w = 0) (hl : c.limit = some lim) (hlim : lim < 16384) :
    (setOfUper c ct bits).2.2.cnt ≤ max lim 1 := by
  have hr := fun fuel first r =>
    roundsUper_cnt_zero c lim hw hl hlim fuel first r { h := ({} : Heap).alloc c.ssz }
  simp only [Nat.zero_add] at hr
  fun_cases setOfUper c ct bits
  · exact hr _ _ _
  · exact Nat.zero_le _
  · exact hr _ _ _

/-- **heap_linear (UPER SET OF / SEQUENCE OF).**  With the guard in place — it compares the stream position
    before and after the element, so nothing is assumed about what the element decoder reports (finding F47
    repaired) — the peak heap of the decode is at most
    `K·n + F` with `K = esz + 16` per input *bit* and `F = ssz + (esz+16)·max lim 1 + 32 + esz`. -/
theorem heap_linear (c : SetOfCfg) (lim : Nat) (ct : Option (Nat × Nat)) (bits : Bits)
    (hl : c.limit = some lim) (hlim : lim < 16384) :
    (setOfUper c ct bits).2.2.h.peak ≤
      (c.esz + 16) * bits.length + (c.ssz + (c.esz + 16) * max lim 1 + 32 + c.esz) := by
  obtain ⟨hinv, hpaid⟩ := setOfUper_inv c ct bits
  exact hinv.peak_linear hpaid fun hw => zero_width_guard c lim ct bits hw hl hlim

/-- **The guard refuses zero-width elements only (finding F47 repaired).**  Elements that take bits
    (`c.w > 0`: constrained INTEGER, ENUMERATED, BOOLEAN, SEQUENCE …): whatever the element decoder reports in
    `rv.consumed`, any announced count `n` — above the limit of the guard too — whose elements are in the input
    is decoded: `n` elements, RC_OK, the bits behind them left. -/
theorem wide_elements_not_refused (c : SetOfCfg) (bits rest : Bits) (n : Nat) (hw : 0 < c.w)
    (hlen : uperGetLength none 0 bits = some (n, false, rest)) (hbits : n * c.w ≤ rest.length) :
    (setOfUper c none bits).1 = .ok ∧ (setOfUper c none bits).2.2.cnt = n ∧
    (setOfUper c none bits).2.1 = rest.drop (n * c.w) := by
  obtain ⟨s', he, hc, -⟩ := elemsUper_complete c n (fun h => by have := h.1; omega) n rest
    { h := ({} : Heap).alloc c.ssz } hbits
  simp only [setOfUper, roundsUper, hlen, he, Bool.false_eq_true, if_false]
  exact ⟨trivial, by simpa using hc, trivial⟩

/-- the former F47 witness: `SEQUENCE OF INTEGER (0..7)`, 201 elements of 3 bits (`80 c9`, then 603 bits).  The
    element decoder reports `rv.consumed = 0` (`rep0 = true`); before the repair the guard answered RC_FAIL. -/
theorem former_F47_witness_decodes (ssz esz : Nat) :
    (setOfUper ⟨ssz, esz, 3, true, zeroWidthLimitUper⟩ none
      (bytesToBits ([0x80, 0xc9] ++ List.replicate 76 0xb6))).1 = .ok ∧
    (setOfUper ⟨ssz, esz, 3, true, zeroWidthLimitUper⟩ none
      (bytesToBits ([0x80, 0xc9] ++ List.replicate 76 0xb6))).2.2.cnt = 201 := by
  have h := wide_elements_not_refused ⟨ssz, esz, 3, true, zeroWidthLimitUper⟩
    (bytesToBits ([0x80, 0xc9] ++ List.replicate 76 0xb6)) (bytesToBits (List.replicate 76 0xb6)) 201
    (by show 0 < 3; decide) (by decide +kernel)
    (by rw [Proofs.PerSupport.bytesToBits_length, List.length_replicate]; exact (by decide : 201 * 3 ≤ 8 * 76))
  exact ⟨h.1, h.2.1⟩

/-- the real configuration: SET OF NULL (48-byte set structure, 4-byte elements), limit from the source.
    Peak ≤ 20 bytes per input bit + 4084, for every input. -/
theorem heap_linear_set_of_null (ct : Option (Nat × Nat)) (bits : Bits) :
    (setOfUper ⟨48, 4, 0, true, zeroWidthLimitUper⟩ ct bits).2.2.h.peak ≤ 20 * bits.length + 4084 := by
  have := heap_linear ⟨48, 4, 0, true, zeroWidthLimitUper⟩ 200 ct bits (by decide) (by decide)
  simpa using this

/-- **Counter-example without the guard**: one octet `c4` (a fragment announcing 64K elements) makes the
    unguarded decoder hold 65536 zero-width elements — for any element size. -/
theorem no_guard_bomb_cex (ssz esz : Nat) :
    65536 * esz ≤ (setOfUper ⟨ssz, esz, 0, true, none⟩ none (bytesToBits [0xc4])).2.2.h.live ∧
    (setOfUper ⟨ssz, esz, 0, true, none⟩ none (bytesToBits [0xc4])).2.2.cnt = 65536 :=
  setOfUper_noguard_fragment ssz esz 65536 (bytesToBits [0xc4]) [] (by decide) (by decide)

/-- with the guard the same octet costs three small allocations -/
example : (setOfUper ⟨48, 4, 0, true, some 200⟩ none (bytesToBits [0xc4])).2.2.h.peak = 84 := by decide

/-- **zero_width_guard (OER)**: the quantity field may say 2^63 − 1, at most `lim + 2` zero-width elements
    are allocated -/
theorem zero_width_guard_oer (c : SetOfCfg) (lim : Nat) (bs : Bytes)
    (hw : c.w = 0) (hr : c.rep0 = true) (hl : c.limit = some lim) :
    (setOfOer c bs).2.2.cnt ≤ lim + 2 := by
  fun_cases setOfOer c bs
  · exact Nat.zero_le _
  · exact Nat.zero_le _
  · next s0 q used _ =>
    have := elemsOer_cnt_zero c lim hw hr hl q 0 (bs.drop used) s0
    simp only [Nat.sub_zero] at this
    exact Nat.le_trans this (by simp only [s0]; omega)

/-- **heap_linear (OER SET OF / SEQUENCE OF)**: `K = esz + 16` per input octet,
    `F = ssz + (esz+16)·(lim+2) + 32 + esz` -/
theorem heap_linear_oer (c : SetOfCfg) (lim : Nat) (bs : Bytes)
    (hz : c.w = 0 → c.rep0 = true) (hl : c.limit = some lim) :
    (setOfOer c bs).2.2.h.peak ≤
      (c.esz + 16) * bs.length + (c.ssz + (c.esz + 16) * (lim + 2) + 32 + c.esz) := by
  obtain ⟨hinv, hpaid⟩ := setOfOer_inv c bs
  exact hinv.peak_linear hpaid fun hw => zero_width_guard_oer c lim bs hw (hz hw) hl

/-- quantity 2^32−1 of NULLs behind a five-octet prefix: 202 elements, then `fail` -/
example : (setOfOer ⟨48, 4, 0, true, some 200⟩ [0x04, 0xff, 0xff, 0xff, 0xff]).1 = .fail ∧
    (setOfOer ⟨48, 4, 0, true, some 200⟩ [0x04, 0xff, 0xff, 0xff, 0xff]).2.2.cnt = 202 := by decide +kernel

/-- **fragment_progress** (length determinant): "repeat" comes with a multiple of 16K between 16K and 64K
    items and costs exactly one octet of input. -/
theorem fragment_progress (lb : Nat) (bits : Bits) (n : Nat) (r : Bits)
    (h : uperGetLength none lb bits = some (n, true, r)) :
    16384 ≤ n ∧ n ≤ 65536 ∧ n % 16384 = 0 ∧ r.length + 8 = bits.length :=
  (uperGetLength_unconstrained h).2.2 rfl

/-- **fragment_progress** (string decoder): all rounds but the last have consumed ≥ 16K units of `u` bits
    each, so `k` rounds need `(k−1)·16384·u` bits of input. -/
theorem os_uper_fragment_progress (ssz bpc u : Nat) (bits : Bits) :
    ((osUper ssz bpc u none bits).rounds - 1) * (16384 * u) ≤ bits.length := by
  have := osUperLoop_rounds bpc u 0 (bits.length + 1) bits (({} : Heap).alloc ssz) none 0 0
  unfold osUper
  simp only [Nat.sub_mul]
  omega

/-- **heap_linear (UPER strings without size constraint).**  `S` = content octets backed by input that is
    present (`S·u ≤ bpc·bits`): the peak is at most `ssz + S + 65536·bpc + 1` — one fragment (≤ 64K
    characters) may be announced, and allocated, before its data is there, never more. -/
theorem os_uper_heap_linear (ssz bpc u : Nat) (bits : Bits) :
    ∃ S, S * u ≤ bpc * bits.length ∧
      (osUper ssz bpc u none bits).h.peak ≤ ssz + S + 65536 * bpc + 1 := by
  obtain ⟨S, _, h2, h3⟩ := osUperLoop_heap ssz bpc u none 0 65536
    (fun _ _ _ _ h => uperGetLength_le h) (bits.length + 1) bits (({} : Heap).alloc ssz) none 0 0
    (by simp [Heap.alloc])
  rw [Nat.zero_mul, Nat.zero_add] at h2
  refine ⟨S, Nat.le_trans (Nat.le_add_right _ _) h2, Nat.le_trans h3 (Nat.max_le.2 ⟨?_, Nat.le_refl _⟩)⟩
  show max 0 (0 + ssz) ≤ _
  omega

/-- OCTET STRING (`u = 8`, `bpc = 1`): peak ≤ ssz + n + 65537 for `n` input octets -/
theorem os_uper_heap_linear_octets (ssz : Nat) (bs : Bytes) :
    (osUper ssz 1 8 none (bytesToBits bs)).h.peak ≤ ssz + bs.length + 65537 := by
  obtain ⟨S, h1, h2⟩ := os_uper_heap_linear ssz 1 8 (bytesToBits bs)
  rw [Proofs.PerSupport.bytesToBits_length] at h1
  omega

/-- the zero-width character guard is in the source (`if(unit_bits == 0 && repeat) RETURN(RC_FAIL)`) -/
theorem zero_width_char_guard_present : zeroWidthCharGuardUper = true := by decide

/-- **zero_width_guard (UPER strings; F71 repaired).**  Characters that occupy no bits (single-character
    permitted alphabet, `u = 0`), no size constraint: `os_uper_heap_linear` says nothing (`S·0 ≤ …`), but a
    fragment is refused, so at most one unfragmented length (< 16K characters) is ever allocated — whatever
    the input. -/
theorem os_uper_zero_width_bounded (ssz bpc : Nat) (bits : Bits) :
    (osUper ssz bpc 0 none bits).h.peak ≤ ssz + (16383 * bpc + 1) ∧
    (osUper ssz bpc 0 none bits).rounds ≤ 1 := by
  unfold osUper
  simp only
  rw [osUperLoop_first]
  cases hg : uperGetLength none 0 bits with
  | none => simp [Heap.alloc]
  | some p =>
    obtain ⟨n, rep, bits1⟩ := p
    cases rep with
    | true => simp [Heap.alloc]
    | false =>
      have hm : n * bpc ≤ 16383 * bpc :=
        Nat.mul_le_mul_right _ (Nat.le_of_lt_succ ((uperGetLength_unconstrained hg).2.1 rfl))
      simp only [Nat.mul_zero, Nat.not_lt_zero, Bool.false_eq_true, and_false, if_false, Heap.alloc]
      omega

/-- a fragment of zero-width characters is answered with `fail` before anything is allocated for it -/
theorem os_uper_zero_width_fragment_fails (ssz bpc : Nat) (bits : Bits) (n : Nat) (r : Bits)
    (hg : uperGetLength none 0 bits = some (n, true, r)) :
    (osUper ssz bpc 0 none bits).rc = .fail ∧ (osUper ssz bpc 0 none bits).h.peak = ssz := by
  unfold osUper
  simp only
  rw [osUperLoop_first, hg]
  simp [Heap.alloc]

/-- **F71 repaired — the former witness**: `IA5String (FROM ("a"))`, eight octets `c4` (each announcing 64K
    characters that cost no input; 65536 bytes of heap per octet before the repair): `fail`, only the 40-byte
    structure is held -/
theorem f71_former_witness_fails :
    (osUper 40 1 0 none (bytesToBits [0xc4, 0xc4, 0xc4, 0xc4, 0xc4, 0xc4, 0xc4, 0xc4])).rc = .fail ∧
    (osUper 40 1 0 none (bytesToBits [0xc4, 0xc4, 0xc4, 0xc4, 0xc4, 0xc4, 0xc4, 0xc4])).h.peak = 40 :=
  os_uper_zero_width_fragment_fails 40 1 _ 65536 (bytesToBits [0xc4, 0xc4, 0xc4, 0xc4, 0xc4, 0xc4, 0xc4]) (by decide)

/-- **A variable-size string holds what its length says** (F70 repaired).  `SIZE(lb..ub)` with `lb < ub`
    (`eb ≠ 0`): once the length `n` has been read the decoder holds the structure and exactly `n·bpc + 1`
    bytes — nothing is allocated from `ub`. -/
theorem os_uper_variable_size_exact (ssz bpc u eb lb ub : Nat) (bits : Bits) (heb : eb ≠ 0)
    (n : Nat) (rep : Bool) (r : Bits) (hg : uperGetLength (some eb) lb bits = some (n, rep, r)) :
    (osUper ssz bpc u (some (eb, lb, ub)) bits).h.peak = ssz + (n * bpc + 1) := by
  cases (uperGetLength_constrained hg).1
  unfold osUper
  simp only [if_neg heb]
  rw [osUperLoop_first, hg]
  simp only [Bool.false_eq_true, and_false, if_false]
  split <;> simp only [Heap.alloc] <;> omega

/-- before the length is there, only the structure is held -/
theorem os_uper_variable_size_starved (ssz bpc u eb lb ub : Nat) (bits : Bits) (heb : eb ≠ 0)
    (hg : uperGetLength (some eb) lb bits = none) :
    (osUper ssz bpc u (some (eb, lb, ub)) bits).h.peak = ssz ∧
    (osUper ssz bpc u (some (eb, lb, ub)) bits).rc = .more := by
  unfold osUper
  simp only [if_neg heb]
  rw [osUperLoop_first, hg]
  simp [Heap.alloc]

/-- **SIZE constraint (F of the property).**  With a PER-visible size constraint (`effective_bits = eb`,
    bounds `lb..ub`) nothing larger than `max ub (lb + 2^eb)·bpc + 1` is ever requested, whatever the input. -/
theorem os_uper_size_prealloc (ssz bpc u eb lb ub : Nat) (bits : Bits) :
    (osUper ssz bpc u (some (eb, lb, ub)) bits).h.peak ≤ ssz + (max ub (lb + 2 ^ eb) * bpc + 1) := by
  have hm1 : ub * bpc ≤ max ub (lb + 2 ^ eb) * bpc := Nat.mul_le_mul_right _ (Nat.le_max_left _ _)
  have hm2 : (lb + 2 ^ eb) * bpc ≤ max ub (lb + 2 ^ eb) * bpc := Nat.mul_le_mul_right _ (Nat.le_max_right _ _)
  generalize max ub (lb + 2 ^ eb) * bpc = M at hm1 hm2 ⊢
  by_cases heb : eb = 0
  · unfold osUper
    simp only [if_pos heb]
    split <;> simp only [Heap.alloc] <;> omega
  · cases hg : uperGetLength (some eb) lb bits with
    | none => rw [(os_uper_variable_size_starved ssz bpc u eb lb ub bits heb hg).1]; omega
    | some p =>
      obtain ⟨n, rep, r⟩ := p
      have hm : n * bpc ≤ (lb + 2 ^ eb) * bpc :=
        Nat.mul_le_mul_right _ (Nat.le_of_lt (uperGetLength_constrained hg).2.1)
      rw [os_uper_variable_size_exact ssz bpc u eb lb ub bits heb n rep r hg]
      omega

/-- **F70 repaired — the former witness**: an empty `OCTET STRING (SIZE(0..65535))` (length field `00 00`) holds
    the 40-byte structure and one byte, not the 65536-byte preallocation it used to keep
    (`65576` before the repair) -/
theorem f70_former_witness_small :
    (osUper 40 1 8 (some (16, 0, 65535)) (bytesToBits [0x00, 0x00])).h.peak = 41 ∧
    (osUper 40 1 8 (some (16, 0, 65535)) (bytesToBits [0x00, 0x00])).rc = .ok :=
  ⟨os_uper_variable_size_exact 40 1 8 16 0 65535 _ (by decide) 0 false [] (by decide), by decide⟩

/-- `OCTET STRING (SIZE(65535))`, empty input: 65536 bytes are held (the constant of the type), rc = more -/
example : (osUper 40 1 8 (some (0, 65535, 65535)) []).h.peak = 65576 ∧
    (osUper 40 1 8 (some (0, 65535, 65535)) []).rc = .more := by decide

/-- the `APPEND` macro never more than doubles what the data needs (16 bytes minimum), and always fits it -/
theorem append_cap_linear (ns es : Nat) :
    es < appendCap ns es ∧ appendCap ns es ≤ max ns (2 * es + 16) := by
  unfold appendCap
  split
  · obtain ⟨h1, h2⟩ := appendCapLoop_spec (es + 1) ns es ‹_› (Nat.lt_succ_of_le (Nat.le_add_left ..))
    exact ⟨h1, Nat.le_trans h2 (Nat.le_max_right ..)⟩
  · exact ⟨Nat.lt_of_not_le ‹_›, Nat.le_max_left ..⟩

/-- **octet_string_nesting_heap_only.**  Constructed OCTET STRINGs nest on a heap-allocated `_stack`
    (48 bytes per level), not on the C stack; each level costs at least two octets of input (tag, length),
    so `depth` levels around one primitive segment (2 more header octets) of `len` content octets, out of `n`
    input octets, cost at most `26·n + ssz + 32`. -/
theorem octet_string_nesting_heap_only (ssz depth len n : Nat) (h : 2 * depth + 2 + len ≤ n) :
    osBerPeak ssz depth len ≤ 26 * n + ssz + 32 := by
  have := (append_cap_linear 0 len).2
  rw [Nat.zero_max] at this
  unfold osBerPeak osBerHeap
  split
  · omega
  · split <;> omega

end Asn1c.Props.C15
