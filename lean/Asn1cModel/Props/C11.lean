import Asn1cModel.Proofs.FixerMisc
/-
  C11 — ambiguous or inconsistent specifications are rejected, unambiguous ones accepted.

  Impl = `Impl.Fixer` (model of libasn1fix, tied to the C code by running the real asn1c on
  every generated module: exit class and `-E -F` dump of the fixed tree, see vlib/props/c11.py).
  Spec = `Spec.Fix` (X.680 distinct-tag rules over `HasOuter`, ENUMERATED numbering, …).

  Shape of the result: on an explicit decidable domain the fixer's verdict is exactly
  `¬ Spec.consistent`.  The domain excludes one region where asn1c violates the property (with
  counter-example theorems below) and the region where the model runs out of fuel:
    * numbering — the code numbers un-numbered enumeration items max+1 instead of X.680 §20.3
                   (`enum_numbering_rejects_valid_cex`, `enum_numbering_accepts_duplicate_cex`)
    * fuel      — a type that contains itself without an intervening tag: the C code's
                   `_asn1f_compare_tags` stops at its depth guard with a FATAL diagnostic, the model
                   runs out of fuel; both report reject (`recursive_untagged_choice_rejected`: the
                   verdict is the right one on the former witness of the stack overflow, and the
                   check demands a rejection by exit status on every such module).  The guard
                   stays in `Dom_C11` because "out of fuel implies inconsistent" is not proved in
                   general.
  The check replays on the real asn1c the module of every theorem at the end of the file: the
  counter-examples, the witnesses of the two repaired findings, the quirk.
-/
namespace Asn1c.Props.C11
open Asn1c.Fix Asn1c.Impl.Fixer Asn1c.Spec.Fix Asn1c.Proofs.Fixer

/-- No rejection reason *outside* the property's catalogue applies: type names are distinct
    (a typereference is assigned once), no `IMPLICIT` is written on an untagged choice type
    (X.680 §31.2.9), additions are untagged where the root is (automatic tagging, §25.3).
    Stated with the fixer's own checks for these three reasons (decidable): `asn1f_check_duplicate`,
    "tagged in IMPLICIT mode but must be EXPLICIT", "extensions are tagged but root components
    are not". -/
def WfModule (M : Module) : Prop := otherFatal M = some false

/-- The model's reference following never ran out of fuel (true for every module whose
    look-through graph is acyclic) and the code's numbering of every ENUMERATED is the X.680
    numbering. -/
def Dom_C11 (M : Module) : Prop :=
  (fixerRun M).isSome = true ∧ ∀ t ∈ M.nodes, EnumAgrees t

instance (M : Module) : Decidable (WfModule M) := by unfold WfModule; infer_instance
instance (M : Module) : Decidable (Dom_C11 M) := by unfold Dom_C11; infer_instance

/-- **asn1f_fetch_outmost_tag**: when it returns a tag, that tag is the only possible
    outermost tag of the expression (X.680 §31.2 / Table 1 / through references). -/
theorem fetch_outmost_tag_spec (M : Module) (f : Nat) (x : Ex) (g : OTag)
    (h : fetchOutmost M f x = .tag g) : ∀ g', outerTags M x g' ↔ g' = g :=
  fetchOutmost_tag M f x g h

/-- **_asn1f_compare_tags**: whenever it answers (without running out of fuel), it reports
    "same tag" iff the sets of possible outermost tags of the two members intersect — looking
    through type references and nested untagged CHOICEs, with the members of those CHOICEs
    tagged as the tagging environment (incl. AUTOMATIC) says. -/
theorem compare_tags_iff (M : Module) (f : Nat) (a b : Ex) (r : Bool)
    (h : compareTags M f a b = some r) :
    r = true ↔ ∃ g, outerTags M a g ∧ outerTags M b g :=
  compareTags_sound M f a b r h

/-- **asn1f_fix_constr_tag + asn1f_fix_constr_autotag** give every member the (class, number)
    the X.680 tagging environment gives it: the fixed member list and `Spec.comps` agree
    position by position on OPTIONAL-ness, (class, number) and the untagged type. -/
theorem autotag_spec (M : Module) (root adds : List Comp) (hasExt : Bool) (ss : List Slot)
    (h : Asn1c.Impl.Fixer.comps M root hasExt adds = some ss) :
    AllRel SlotRel ss (Asn1c.Spec.Fix.comps M root hasExt adds) :=
  comps_rel h

/-- **_asn1f_check_if_tag_must_be_explicit** decides "untagged choice type" (X.680 §31.2.7 c) -/
theorem must_explicit_iff (M : Module) (v : Ty) (b : Bool) (h : mustExplicit M v = some b) :
    b = true ↔ IsUntaggedChoice M (v.withTag none) :=
  mustExplicit_iff h

/-- **asn1f_fix_constr_autotag** is the X.680 automatic tagging transformation (§25.8): under
    AUTOMATIC TAGS, when no component carries a tag, the fixed list is `number 0 (root ++ adds)`
    — context tags 0, 1, 2, … over root then additions, the marker skipped — with the mode
    EXPLICIT exactly for untagged choice types and IMPLICIT otherwise; and no FATAL is raised. -/
theorem autotag_mode_spec (M : Module) (root adds : List Comp) (fc : FixC)
    (hauto : M.dflt = .automatic) (hr : ∀ c ∈ root, c.ty.tag = none) (ha : ∀ c ∈ adds, c.ty.tag = none)
    (h : fixConstr M root adds = some fc) :
    AllRel (AutoRel M) (fc.root ++ fc.adds) (number 0 (root ++ adds)) ∧
    fc.root.length = root.length ∧ fc.fImplicit = false ∧ fc.fExt = false := by
  have hfc := fixConstr_spec h
  rw [if_pos (autoSelected_iff.2 ⟨hauto, hr, ha⟩)] at hfc
  obtain ⟨h1, h2, h3, h4⟩ := hfc
  have s1 := autoNumber_spec _ _ _ h1
  refine ⟨?_, ?_, h3, h4⟩
  · rw [number_append, Nat.zero_add]; exact s1.append (autoNumber_spec _ _ _ h2)
  · rw [s1.length, number_length]

/-- under AUTOMATIC TAGS with no tagged component: context tags 0, 1, 2, … in textual order,
    root first, then the additions; the marker takes no number -/
theorem autotag_numbering (M : Module) (root adds : List Comp) (hasExt : Bool)
    (hauto : M.dflt = .automatic) (hr : ∀ c ∈ root, c.ty.tag = none) (ha : ∀ c ∈ adds, c.ty.tag = none) :
    Asn1c.Spec.Fix.comps M root hasExt adds =
      slotsOf (number 0 root) hasExt (number root.length adds) := by
  rw [Asn1c.Spec.Fix.comps, if_pos (autoSelected_iff.2 ⟨hauto, hr, ha⟩)]

/-- **asn1f_check_constr_tags_distinct** on one SEQUENCE/SET/CHOICE: FATAL iff the X.680
    distinctness rule of that kind is violated (SEQUENCE: runs of OPTIONAL/DEFAULT components
    plus the following one; SET/CHOICE: all pairs). -/
theorem tags_distinct_iff (M : Module) (k : CKind) (root adds : List Comp) (hasExt : Bool)
    (ss : List Slot) (c : Bool)
    (hs : Asn1c.Impl.Fixer.comps M root hasExt adds = some ss)
    (hc : checkDistinct M (k == .sequence) ss = some c) :
    c = true ↔ ¬ tagsDistinct M k (Asn1c.Spec.Fix.comps M root hasExt adds) :=
  eq_true_iff_not (checkDistinct_tagsDistinct hs hc)

/-- **asn1f_check_unique_expr**: FATAL iff a component identifier repeats -/
theorem unique_identifiers_iff (names : List String) : dupNames [] names = true ↔ ¬ names.Nodup :=
  eq_true_iff_not (dupNames_nil_iff names)

/-- **asn1f_fix_enum**, with the values *it* assigns: FATAL iff an item name repeats, a value
    repeats, or the additions are not strictly increasing -/
theorem fix_enum_iff (r a : List EnumItem) :
    (fixEnum r a).2 = true ↔
      ¬ (((r ++ a).map EnumItem.name).Nodup ∧ (fixEnum r a).1.Nodup ∧
         ((fixEnum r a).1.drop r.length).Pairwise (· < ·)) :=
  eq_true_iff_not (fixEnum_spec r a)

/-- … hence, where the code's numbering is the X.680 numbering, FATAL iff X.680 §20 is violated -/
theorem fix_enum_iff_partial (r a : List EnumItem) (hag : (fixEnum r a).1 = enumVals r a) :
    (fixEnum r a).2 = true ↔ ¬ enumOk r a :=
  eq_true_iff_not (fixEnum_enumOk hag)

/-- **asn1f_fix_dereference_types**: a module passes iff every referenced type name is assigned -/
theorem unknown_type_iff (M : Module) (hloop : ∀ t ∈ M.nodes, derefFatal M t ≠ none) :
    (∃ t ∈ M.nodes, derefFatal M t = some true) ↔
      ∃ g n, Ty.ref g n ∈ M.nodes ∧ M.lookup n = none :=
  -- `hloop` is not needed: an undefined name is seen at the first step, whatever the fuel (`derefFatal_undefined`)
  (fun _ => derefFatal_exists_iff M) hloop

/-- **Main theorem.**  For every module of the algebra in which no rejection reason outside the
    catalogue applies (`WfModule`) and which lies in `Dom_C11`: asn1c's semantic checker
    rejects iff the module is ambiguous or inconsistent — two alternatives of a CHOICE, two
    components of a SET, or a run of OPTIONAL/DEFAULT SEQUENCE components and the component
    following it do not have disjoint sets of outermost tags (through untagged CHOICEs and
    references, after IMPLICIT/EXPLICIT/AUTOMATIC tagging), a component identifier repeats, an
    enumeration name or value repeats (or additions do not increase), or a referenced type is
    undefined. -/
theorem verdict_iff (M : Module) (hwf : WfModule M) (hdom : Dom_C11 M) :
    fixerVerdict M = .reject ↔ ¬ consistent M := by
  obtain ⟨hrun, henum⟩ := hdom
  unfold WfModule at hwf
  cases hcat : catalogueFatal M with
  | none => unfold fixerRun at hrun; rw [hcat] at hrun; simp at hrun
  | some a =>
    have hrun' : fixerRun M = some a := by
      unfold fixerRun; rw [hcat, hwf]; simp
    have h := catalogue_iff hcat henum
    unfold fixerVerdict
    rw [hrun', ← h]
    cases a <;> simp

/-- accept side, spelled out -/
theorem accepts_consistent (M : Module) (hwf : WfModule M) (hdom : Dom_C11 M) (hc : consistent M) :
    fixerVerdict M = .accept := by
  cases hv : fixerVerdict M with
  | accept => rfl
  | reject => exact absurd hc ((verdict_iff M hwf hdom).1 hv)

/-! ### non-vacuity: a module with AUTOMATIC TAGS, references, a nested untagged CHOICE behind a
    reference chain, an extensible SEQUENCE with an OPTIONAL run, an ENUMERATED with mixed
    numbering — lies in the domain and is accepted -/

def P (p : Prim) : Ty := .prim none p

def exampleModule : Module := ⟨.automatic, [
  ⟨"T0", .constr none .choice [.mk "a" (P .integer) .mandatory, .mk "b" (P .boolean) .mandatory] false []⟩,
  ⟨"T1", .ref none "T0"⟩,
  ⟨"T2", .constr none .sequence
      [.mk "x" (.ref (some ⟨.context, 5, .default_⟩) "T1") .optional,
       .mk "y" (.prim (some ⟨.context, 6, .implicit⟩) .octetString) .optional,
       .mk "z" (.ref none "T1") .mandatory] true
      [.mk "w" (.enum none [⟨"r", some 0⟩, ⟨"s", none⟩] true [⟨"t", none⟩]) .optional]⟩,
  ⟨"T3", .constr none .set [.mk "p" (.ref none "T2") .mandatory, .mk "q" (.seqOf none (.ref none "T3")) .mandatory] false []⟩]⟩

example : WfModule exampleModule ∧ Dom_C11 exampleModule ∧ fixerVerdict exampleModule = .accept := by
  decide +kernel

/-- a consistent module of the shape that used to be cut by the TM_RECURSION marks (an untagged type
    reference followed by a reference to an untagged CHOICE, T0 ::= BOOLEAN sharing no tag with it)
    lies in the domain and is accepted -/
def exampleModule2 : Module := ⟨.explicit, [
  ⟨"T0", P .boolean⟩,
  ⟨"T1", .constr none .choice
      [.mk "x" (.ref none "T0") .mandatory, .mk "y" (.ref none "T2") .mandatory] false []⟩,
  ⟨"T2", .constr none .choice
      [.mk "p" (P .integer) .mandatory, .mk "q" (P .null) .mandatory] false []⟩]⟩

example : WfModule exampleModule2 ∧ Dom_C11 exampleModule2 ∧ fixerVerdict exampleModule2 = .accept := by
  decide +kernel

/-- T1 ::= CHOICE { x T0, y T2 },  T0 ::= INTEGER,  T2 ::= CHOICE { p INTEGER, q NULL } -/
def markModule : Module := ⟨.explicit, [
  ⟨"T0", P .integer⟩,
  ⟨"T1", .constr none .choice
      [.mk "x" (.ref none "T0") .mandatory, .mk "y" (.ref none "T2") .mandatory] false []⟩,
  ⟨"T2", .constr none .choice
      [.mk "p" (P .integer) .mandatory, .mk "q" (P .null) .mandatory] false []⟩]⟩

/-- **Former finding F61 (TM_RECURSION), repaired.**  Alternatives x and y of T1 can both carry
    UNIVERSAL 2.  `_asn1f_compare_tags(x, y)` used to mark x before descending into T2, and
    `asn1f_fetch_tags_impl` refused to follow the marked reference x: accepted.  Without the marks
    the clash p / x is found: the module is in the domain and rejected. -/
theorem typeref_then_choice_ref_diagnosed :
    WfModule markModule ∧ Dom_C11 markModule ∧ fixerVerdict markModule = .reject ∧
    ¬ consistent markModule := by
  have hwf : WfModule markModule := by decide +kernel
  have hdom : Dom_C11 markModule := by decide +kernel
  have hrej : fixerVerdict markModule = .reject := by decide +kernel
  exact ⟨hwf, hdom, hrej, (verdict_iff markModule hwf hdom).1 hrej⟩

/-- T0 ::= ENUMERATED { a, b(0) } -/
def enumModule1 : Module := ⟨.explicit, [⟨"T0", .enum none [⟨"a", none⟩, ⟨"b", some 0⟩] false []⟩]⟩

/-- **Finding (numbering, reject side).**  X.680 §20.3 gives a = 1, b = 0: consistent; the code
    numbers a = 0 and reports a collision. -/
theorem enum_numbering_rejects_valid_cex :
    WfModule enumModule1 ∧ fixerVerdict enumModule1 = .reject ∧ consistent enumModule1 := by
  refine ⟨by decide +kernel, by decide +kernel, ?_⟩
  intro t ht
  have : t = .enum none [⟨"a", none⟩, ⟨"b", some 0⟩] false [] := by
    simpa [enumModule1, Module.nodes, nodesOf, Ty.nodes] using ht
  subst this
  simp only [NodeOk]
  unfold enumOk
  decide +kernel

/-- T0 ::= ENUMERATED { a(1), b, ..., c(0) } -/
def enumModule2 : Module :=
  ⟨.explicit, [⟨"T0", .enum none [⟨"a", some 1⟩, ⟨"b", none⟩] true [⟨"c", some 0⟩]⟩]⟩

/-- **Finding (numbering, accept side).**  X.680 §20.3 gives b = 0, so c(0) repeats a value;
    the code numbers b = 2 and accepts. -/
theorem enum_numbering_accepts_duplicate_cex :
    WfModule enumModule2 ∧ fixerVerdict enumModule2 = .accept ∧ ¬ consistent enumModule2 := by
  refine ⟨by decide +kernel, by decide +kernel, ?_⟩
  intro hc
  have h := hc (.enum none [⟨"a", some 1⟩, ⟨"b", none⟩] true [⟨"c", some 0⟩])
    (by simp [enumModule2, Module.nodes, nodesOf, Ty.nodes])
  simp only [NodeOk] at h
  have hv := h.2.1
  revert hv
  decide +kernel

/-- T0 ::= CHOICE { a T0, b INTEGER } -/
def recModule : Module := ⟨.explicit, [
  ⟨"T0", .constr none .choice
      [.mk "a" (.ref none "T0") .mandatory, .mk "b" (P .integer) .mandatory] false []⟩]⟩

/-- **Former finding (unbounded recursion), repaired.**  Alternative a has every tag of T0, in
    particular that of b, so the module is ambiguous.  The model's tag comparison runs out of
    fuel — the C function now stops at its depth guard with "the type is defined through itself"
    instead of recursing until the stack is exhausted — and the verdict is the one the
    standard demands: reject. -/
theorem recursive_untagged_choice_rejected :
    fixerRun recModule = none ∧ fixerVerdict recModule = .reject ∧ ¬ consistent recModule := by
  refine ⟨by decide +kernel, by decide +kernel, ?_⟩
  intro hc
  have hnode := hc (.constr none .choice
      [.mk "a" (.ref none "T0") .mandatory, .mk "b" (P .integer) .mandatory] false [])
    (by simp [recModule, Module.nodes, nodesOf, Ty.nodes, Comp.nodesL, P])
  have hd : allDistinct recModule [⟨.ty (.ref none "T0"), false⟩, ⟨.ty (P .integer), false⟩] := hnode.2
  have hbb : Clash recModule (.ty (P .integer)) (.ty (P .integer)) :=
    ⟨.key .universal 2, .univ rfl rfl, .univ rfl rfl⟩
  -- alternative `a` refers to T0 itself, whose alternative `b` is an INTEGER like `b`
  have hab : Clash recModule (.ty (.ref none "T0")) (.ty (P .integer)) :=
    clash_ref.2 ⟨_, rfl, clash_choice.2 ⟨⟨.ty (P .integer), false⟩, List.mem_cons_of_mem _ List.mem_cons_self, hbb⟩⟩
  exact (List.pairwise_cons.1 hd).1 _ List.mem_cons_self hab

/-- T0 ::= SEQUENCE { a INTEGER OPTIONAL, ..., b INTEGER } -/
def acrossMarkerModule : Module := ⟨.explicit, [
  ⟨"T0", .constr none .sequence [.mk "a" (P .integer) .optional] true [.mk "b" (P .integer) .mandatory]⟩]⟩

/-- **Quirk (not a violation of the property text, which speaks of root components).**  The
    marker ends a run: an OPTIONAL root component just before `...` is not compared with the
    additions after it, although both can start with the same tag on the wire. -/
theorem seq_run_across_marker_accepted :
    fixerVerdict acrossMarkerModule = .accept ∧ consistent acrossMarkerModule ∧
    Clash acrossMarkerModule (.ty (P .integer)) (.ty (P .integer)) := by
  refine ⟨by decide +kernel, ?_, ⟨.key .universal 2, .univ rfl rfl, .univ rfl rfl⟩⟩
  apply Classical.byContradiction
  intro hn
  have hv := (verdict_iff acrossMarkerModule (by decide +kernel) (by decide +kernel)).2 hn
  revert hv
  decide +kernel

end Asn1c.Props.C11
