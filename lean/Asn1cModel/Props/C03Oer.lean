import Asn1cModel.Proofs.L2OerVariants
/-
  C03 (OER part) — "decoders accept every valid encoding of a value, not only the library's own".

  `L2.OerVar.encV t v s` (L2/OerVariants.lean) enumerates the valid BASIC-OER encodings of `v` that the canonical
  encoder `encOER` does not produce (X.696: (a) extension presence bitmap of an older / newer version of the type,
  unknown additions absent or present with arbitrary open-type contents; (b) long-form and zero-padded length
  determinants, at every length determinant; (c) ENUMERATED long form for 0..127; (d) BOOLEAN TRUE as any of
  0x01..0xFF; (e) SET OF elements in any order), one variation at a chosen position or at all positions,
  selected by the state `s`.

  * `oer_accepts_variant`: the reference decoder `decOER` (the decoder of the C02 OER oracle, tied to the C decoder
    by the K leg of `vlib/c03_oer.py` on the same variants) accepts every `encV` output — for EVERY selector state,
    hence for every position, every combination of positions, every padding width, every TRUE octet, every list
    of unknown additions with arbitrary contents — consumes exactly the encoding and returns exactly `v`.
    Values are taken up to the order of SET OF lists (`UCanon`; `ucanon_of_ocanon`: every canonical value qualifies).
  * `oer_accepts_setOf_any_order`: every permutation of a SET OF list is accepted and decodes to that permutation
    (the same abstract value).
  * building blocks stated on their own: `decLen_long_form` (§8.6.5 with any number of leading zero octets),
    `decEnum_long_form`, `boolean_any_nonzero`, `older_bitmap_accepted`, `newer_bitmap_skipped`.
  * `encV_none`: without a variation `encV` is the canonical encoder `encOER` on canonical values, so the family
    really is "the canonical encoding and its variants".
-/
namespace Asn1c.Props.C03Oer
open Asn1c Asn1c.Impl.BerTlv Asn1c.L2 Asn1c.L2.Oer Asn1c.L2.OerVar Asn1c.Spec
open Asn1c.Proofs.L2Oer Asn1c.Proofs.L2OerVariants Asn1c.Proofs.L2Der

/-- **the OER decoder accepts every valid variant**: RC_OK, exactly the encoding consumed, the value returned —
    whatever variation (`s.kind`), position (`s.skip`, `s.all`), parameter (`s.param`, `s.extra`) was chosen,
    whatever follows the encoding. -/
theorem oer_accepts_variant (t : OTy) (hw : OTyWf t) (v : Val) (hc : UCanon t v) (s s' : VSt) (out rest : Bytes)
    (h : encV t v s = some (out, s')) : decOER t (out ++ rest) = .ok v rest :=
  rtv_all t hw v s s' out rest hc h

/-- the hypotheses are satisfiable and the variants differ from the canonical encoding: an extensible SEQUENCE
    with three additions of which only the first is present — canonical bitmap `100` (02 05 80), an older sender
    that knows one addition sends `1` (02 07 80), a newer one with two more additions, the last present with
    contents AA BB, sends `10001` (02 03 88 … 02 AA BB); all lengths in long form with one zero octet of padding. -/
example :
    let t : OTy := .seq [.integer (.fixedU 1)] [⟨false, none, false⟩] true [.boolean, .octets none, .integer .varS]
                     [⟨true, none, true⟩, ⟨true, none, true⟩, ⟨true, none, true⟩]
    let v : Val := .seq [.int 7, .bool true, .absent, .absent]
    OTyWf t ∧ UCanon t v ∧
      (encV t v {}).map (·.1) = some [0x80, 7, 2, 5, 0x80, 1, 0xff] ∧
      (encV t v { kind := .older }).map (·.1) = some [0x80, 7, 2, 7, 0x80, 1, 0xff] ∧
      (encV t v { kind := .newer, extra := [none, some [0xaa, 0xbb]] }).map (·.1)
        = some [0x80, 7, 2, 3, 0x88, 1, 0xff, 2, 0xaa, 0xbb] ∧
      (encV t v { kind := .lenLong, all := true, param := 1 }).map (·.1)
        = some [0x80, 7, 0x82, 0, 2, 5, 0x80, 0x82, 0, 1, 0xff] ∧
      (encV t v { kind := .boolTrue, param := 0 }).map (·.1) = some [0x80, 7, 2, 5, 0x80, 1, 1] := by
  decide +kernel

/-- every canonical value (`OCanon`, the domain of `C02Oer.oer_roundtrip`) is in the domain of `oer_accepts_variant` -/
theorem ucanon_of_ocanon : ∀ (t : OTy) (v : Val), OCanon t v → UCanon t v :=
  Asn1c.Proofs.L2OerVariants.ucanon_of_ocanon

/-- … so the decoder accepts every variant of every canonical value -/
theorem oer_accepts_variant_of_canonical (t : OTy) (hw : OTyWf t) (v : Val) (hc : OCanon t v) (s s' : VSt)
    (out rest : Bytes) (h : encV t v s = some (out, s')) : decOER t (out ++ rest) = .ok v rest :=
  oer_accepts_variant t hw v (ucanon_of_ocanon t v hc) s s' out rest h

/-- **no variation = the canonical encoding**: with a selector that varies nothing, `encV` is the reference
    canonical-OER encoder of C02 (`encOER`, compared byte for byte with the C encoder there) on every canonical value -/
theorem encV_none (t : OTy) (v : Val) (hc : OCanon t v) (s : VSt) (hs : s.kind = .none) :
    encV t v s = (encOER t v).map fun x => (x, s) := nv_all t v s hs hc

/-- the normal form does not depend on the order of a SET OF list -/
theorem ucanon_setOf_perm (e : OTy) (vs vs' : List Val) (hp : vs'.Perm vs) (h : UCanon (.setOf e) (.list vs)) :
    UCanon (.setOf e) (.list vs') := by
  simp only [UCanon, ucanonB, List.all_eq_true] at h ⊢
  exact fun x hx => h x (hp.subset hx)

/-- **SET OF elements in any order**: whatever permutation `vs'` of the elements the sender emits (and whatever
    other variation), the decoder returns the list in wire order — the same SET OF value -/
theorem oer_accepts_setOf_any_order (e : OTy) (hw : OTyWf (.setOf e)) (vs vs' : List Val) (hp : vs'.Perm vs)
    (hc : UCanon (.setOf e) (.list vs)) (s s' : VSt) (out rest : Bytes)
    (h : encV (.setOf e) (.list vs') s = some (out, s')) :
    decOER (.setOf e) (out ++ rest) = .ok (.list vs') rest :=
  oer_accepts_variant _ hw _ (ucanon_setOf_perm e vs vs' hp hc) s s' out rest h

/-- (b) X.696 §8.6.5: the long form — 0x80 | k, then the length in k octets — with any number `pad` of leading
    zero octets is read back as the length -/
theorem decLen_long_form (pad n : Nat) (rest : Bytes) :
    lenLong pad n = (128 + (pad + (unsOctets n).length)) :: (List.replicate pad 0 ++ unsOctets n) ∧
    decLen (lenLong pad n ++ rest) = .ok n rest := by
  refine ⟨by simp [lenLong], decLen_lenLong pad n rest⟩

/-- every length determinant written by `encV` is a short form, a minimal long form or a padded long form of at
    most 127 length octets, and is read back -/
theorem lenV_cases (n : Nat) (s : VSt) (rest : Bytes) :
    ((lenV n s).1 = lenDet n ∨ ((lenV n s).1 = lenLong s.param n ∧ s.param + (unsOctets n).length ≤ 127)) ∧
    decLen ((lenV n s).1 ++ rest) = .ok n rest := by
  refine ⟨?_, decLen_lenV n s rest⟩
  unfold lenV
  simp only []
  split
  · rename_i hs
    right
    -- a position is chosen only where it is applicable: here, where the padded form fits
    have hfit : s.param + (unsOctets n).length ≤ 127 ∧ (n ≤ 127 ∨ 0 < s.param) :=
      of_decide_eq_true (site_true _ _ _ hs)
    exact ⟨rfl, hfit.1⟩
  · left; rfl

/-- (c) X.696 §11.3: the long form `81 zz` of an enumeration value 0..127 is accepted -/
theorem decEnum_long_form (z : Int) (hz : 0 ≤ z ∧ z ≤ 127) (rest : Bytes) :
    encEnumV z { kind := .enumLong } = some ([129, z.toNat], { kind := .none, hits := 1 }) ∧
    decEnum ([129, z.toNat] ++ rest) = .ok z rest := by
  have h : encEnumV z { kind := .enumLong } = some ([129, z.toNat], { kind := .none, hits := 1 }) := by
    simp [encEnumV, VSt.site, hz]
  exact ⟨h, decEnum_encEnumV z _ _ _ rest h⟩

/-- (d) X.696 §9.2: every non-zero octet is TRUE; `encV` emits 0xFF or, at a chosen position, any of 0x01..0xFE -/
theorem boolean_any_nonzero (o : Nat) (ho : o ≠ 0) (rest : Bytes) :
    decOER .boolean (o :: rest) = .ok (.bool true) rest ∧
    (1 ≤ o ∧ o ≤ 254 → (encV .boolean (.bool true) { kind := .boolTrue, param := o - 1 }).map (·.1) = some [o]) := by
  refine ⟨by simp [decOER, ho], ?_⟩
  intro h
  have : (o - 1) % 254 = o - 1 := Nat.mod_eq_of_lt (by omega)
  simp only [encV, boolV, VSt.site, if_true, Option.map_some]
  simp [this]; omega

/-- (a) older sender: a bitmap that stops after the last addition the sender knows (only absent additions are cut
    off) is compatible with the receiver's presence bits -/
theorem older_bitmap_accepted (k : Nat) (abits : Bits) :
    Compat abits (shorten k abits) ∧ (shorten k abits).length ≤ abits.length ∧
    ((abits.drop k).all (· == false) = true → shorten k abits = abits.take k) := by
  refine ⟨(shorten_spec k abits).1, (shorten_spec k abits).2.1, ?_⟩
  intro h; unfold shorten; rw [if_pos h]

/-- (a) newer sender: the bits beyond the receiver's additions and the open types they announce — with arbitrary
    contents — are skipped exactly -/
theorem newer_bitmap_skipped (abits : Bits) (extra : List (Option Bytes)) (rest : Bytes) :
    Compat abits (abits ++ extraBits extra) ∧
    skipOpen ((abits ++ extraBits extra).drop abits.length) (extraBody extra ++ rest) = .ok () rest := by
  refine ⟨compat_append _ _, ?_⟩
  rw [List.drop_left]; exact skipOpen_extra extra rest

/-- the receiver decodes its known additions from any compatible bitmap (`Compat`: equal on the common part,
    the additions beyond a shorter bitmap absent) -/
theorem decAdds_compatible (ms : List OTy) (hw : ∀ m ∈ ms, OTyWf m) (as : List Attr) (vs : List Val) (s s' : VSt)
    (bits : Bits) (body : Bytes) (B : Bits) (rest : Bytes) (hc : ucanonComps ms as vs = true)
    (h : encAddsV ms as vs s = some (bits, body, s')) (hB : Compat bits B) :
    decAdds ms as B (body ++ rest) = .ok vs rest :=
  (decAdds_encAddsV ms (fun m _ => rtv_all m) hw as vs s s' bits body B rest hc h hB).1

end Asn1c.Props.C03Oer
