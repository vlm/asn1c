import Asn1cModel.Impl.Unber
import Asn1cModel.Impl.Enber
import Asn1cModel.Spec.TlvForest
import Asn1cModel.Proofs.Unber
import Asn1cModel.Proofs.UnberSafe
import Asn1cModel.Proofs.UnberDepth
import Asn1cModel.Proofs.Enber
import Mathlib.Algebra.Group.Nat.Defs
/-
  C20 — "unber and enber are mutually inverse; unber is safe on arbitrary input".

  Objects: `Spec.TlvForest` (X.690 §8.1 TLV forests, their encoding, well-formedness, and what
  unber has to print for them) and the Impl models `Impl.Unber.unber` (= `unber -p file`),
  `Impl.Enber.enber` (= `enber file`), both tied to the real tools on every run of the check.

  Guards.  `inDomainList` and `depthList x ≤ maxLevel` are the limits of the tools, not of BER (tag
  numbers < 2^30, at most 32 identifier+length octets, contents < 2^62 octets; at most
  `UNBER_MAX_NESTING_LEVEL` = 2048 constructed TLVs inside one another — beyond that unber stops with a
  diagnostic instead of exhausting the C stack: F41 repaired, `unber_nesting_limit`).  `minimalList` (every definite length
  in its shortest form) is the guard of the round-trip theorem: outside it the unchanged code
  violates the property — finding F8, `enber_unber_nonminimal_cex`.
-/
namespace Asn1c.Props.C20
open Asn1c Asn1c.Impl.Unber Asn1c.Impl.Enber Asn1c.Spec.TlvForest

/-- **Fields agree.**  For every well-formed BER forest `x` (any class, any tag number < 2^30,
    definite lengths in *any* valid form — also non-minimal —, indefinite lengths, any nesting up to
    `UNBER_MAX_NESTING_LEVEL`),
    `unber -p` succeeds on `encode x` and prints, for every TLV and in document order, exactly
    `expected`: O = offset of the TLV, T = its tag, TL = number of identifier+length octets,
    V = number of contents octets (or Indefinite), the contents octets of primitive TLVs,
    and the closing elements with the end offset and L = total size. -/
theorem unber_fields_agree (x : List Tlv) (hwf : wfList x = true) (hdom : inDomainList x = true)
    (hdep : depthList x ≤ maxLevel) :
    unberOuts (encodeList x) = (.ok, expectedList 0 0 x) :=
  Proofs.Unber.unberOuts_forest x hwf hdom hdep

/-- the same on the level of the printed text -/
theorem unber_text (x : List Tlv) (hwf : wfList x = true) (hdom : inDomainList x = true)
    (hdep : depthList x ≤ maxLevel) :
    unber (encodeList x) = (.ok, renderAll (expectedList 0 0 x)) := by
  simp only [unber, unber_fields_agree x hwf hdom hdep]

/-- **enber ∘ unber = id (partial: minimal definite lengths).**  For every well-formed BER forest
    `x` whose definite lengths are in the minimal form (indefinite lengths allowed anywhere),
    `unber -p` accepts `encode x` and `enber` applied to the text it printed exits normally and
    writes exactly `encode x`.
    Missing for the full property: non-minimal length forms (F8, `enber_unber_nonminimal_cex` below). -/
theorem enber_unber_partial (x : List Tlv) (hwf : wfList x = true) (hdom : inDomainList x = true)
    (hdep : depthList x ≤ maxLevel) (hmin : minimalList x = true) :
    (unber (encodeList x)).1 = .ok ∧ enber (unber (encodeList x)).2 = ⟨encodeList x, none⟩ := by
  rw [unber_text x hwf hdom hdep]
  exact ⟨rfl, Proofs.Enber.enber_forest x hwf hdom hmin⟩

/-- The same with the tools' limits spelled out: tag numbers < 2^30, contents < 2^62 octets, nesting
    ≤ 2048 (with minimal lengths the 32-octet `tagbuf` is never a restriction). -/
theorem enber_unber_minimal (x : List Tlv) (hwf : wfList x = true) (hr : inRangeList x = true)
    (hdep : depthList x ≤ 2048) (hmin : minimalList x = true) :
    (unber (encodeList x)).1 = .ok ∧ enber (unber (encodeList x)).2 = ⟨encodeList x, none⟩ :=
  enber_unber_partial x hwf (Proofs.Enber.inDomainList_of_minimal x hr hmin) hdep hmin

/-- the sample forest `30 80 04 02 61 62 bf 1f 03 02 01 05 00 00  05 00` used for non-vacuity -/
def sample : List Tlv :=
  [ .indef 0 16 [ .prim 0 4 .short [0x61, 0x62], .cons 2 30 .short [ .prim 0 2 .short [5] ] ],
    .prim 0 5 .short [] ]

example : wfList sample = true ∧ inDomainList sample = true ∧ minimalList sample = true := by decide
example : depthList sample = 2 ∧ depthList sample ≤ maxLevel := by decide
example : (enber (unber (encodeList sample)).2).out = encodeList sample := by decide

/-- a well-formed forest with a non-minimal length: `04 81 02 61 62` -/
def sampleF8 : List Tlv := [ .prim 0 4 (.long 1) [0x61, 0x62] ]

example : encodeList sampleF8 = [0x04, 0x81, 0x02, 0x61, 0x62] := by decide
example : wfList sampleF8 = true ∧ inDomainList sampleF8 = true ∧ minimalList sampleF8 = false
    ∧ depthList sampleF8 ≤ maxLevel := by decide

/-- **F8 (counter-example for the unguarded round trip).**  `04 81 02 61 62` is well-formed BER
    within the tools' limits, unber accepts it (and the fields agree: TL="3"), but enber
    re-encodes the length minimally, finds 2 ≠ 3 and exits with "Cannot encode TL": nothing is
    written.  So `minimalList` cannot be dropped from `enber_unber_partial`. -/
theorem enber_unber_nonminimal_cex :
    wfList sampleF8 = true ∧ inDomainList sampleF8 = true ∧
    (unber (encodeList sampleF8)).1 = .ok ∧
    enber (unber (encodeList sampleF8)).2 = ⟨[], some .cannotEncodeTL⟩ := by
  decide

/-- **unber is total and safe on arbitrary bytes.**  For every byte string the model of
    `unber -p` (run with fuel `length + 1`) ends in `ok` or in one of the nine diagnostics;
    the outcomes `nofuel` (non-termination), `oob` (a read of `tagbuf` outside the octets stored
    so far / a store at index ≥ 32) and `assertion` (one of the five `assert()`s of
    `process_deeper`) are unreachable. -/
theorem unber_total (inp : Bytes) :
    (unber inp).1 = .ok ∨ ∃ e, (unber inp).1 = .failed e :=
  Proofs.UnberSafe.unber_total inp

theorem unber_no_oob (inp : Bytes) :
    (unber inp).1 ≠ .oob ∧ (unber inp).1 ≠ .assertion ∧ (unber inp).1 ≠ .nofuel := by
  rcases unber_total inp with h | ⟨e, h⟩ <;> rw [h] <;> simp

/-- **Bounded recursion on arbitrary bytes (F41 repaired).**  `process_deeper` runs one C stack frame
    per nesting level; every element `unber -p` prints — on any input whatsoever — was printed by an
    activation at a level ≤ `UNBER_MAX_NESTING_LEVEL` = 2048, i.e. at most 2049 frames of
    `process_deeper` are ever live, whatever the input nests. -/
theorem unber_levels_bounded (inp : Bytes) : ∀ o ∈ (unberOuts inp).2, o.level ≤ 2048 :=
  Proofs.UnberDepth.unberOuts_levels inp

/-- **Beyond the limit unber exits with the nesting diagnostic.**  Every well-formed BER forest (within
    the other limits of the tool) that nests constructed TLVs more than `UNBER_MAX_NESTING_LEVEL` deep is
    answered with "Too deep nesting" (exit EX_DATAERR) — together with `unber_fields_agree` this decides
    every well-formed in-domain input: accepted with the right fields iff the nesting is within the limit. -/
theorem unber_nesting_limit (x : List Tlv) (hwf : wfList x = true) (hdom : inDomainList x = true)
    (hdeep : depthList x > maxLevel) : (unber (encodeList x)).1 = .failed .tooDeep := by
  have := Proofs.UnberDepth.unberOuts_deep x hwf hdom hdeep
  simpa [unber] using this

/-- **F41 witness, repaired.**  `30 80` repeated `n > 2048` times (the former witness: n = 100000, which
    killed unber with a stack overflow), followed by anything: unber stops with the nesting diagnostic. -/
theorem unber_nesting_witness (n : Nat) (rest : Bytes) (h : 2048 < n) :
    (unber ((List.replicate n [0x30, 0x80]).flatten ++ rest)).1 = .failed .tooDeep := by
  have h1 := Proofs.UnberDepth.unberOuts_nest n rest h
  simpa [unber] using h1

/-- the former witness itself -/
theorem unber_nesting_witness_100000 :
    (unber (List.replicate 100000 [0x30, 0x80]).flatten).1 = .failed .tooDeep := by
  have := unber_nesting_witness 100000 [] (by decide)
  rwa [List.append_nil] at this

/-- **Accounting of one `process_deeper` activation on arbitrary input** (`limit ≥ -1`,
    fuel > remaining input): it never ends in `oob`/`assertion`/`nofuel`; when it returns, the
    input it leaves is a suffix of the input it got, `bytesRead` advanced by exactly the number of
    octets taken, and what it added to `*frame_size` does not exceed its `limit` — the fact that
    makes every `assert(limit >= …)` of the C code unreachable. -/
theorem pd_accounting (fuel level : Nat) (eoc : Bool) (tagbuf : Bytes) (limit : Int) (esize : Nat)
    (pdc : Pdc) (inp : Bytes) (off : Nat) (hlim : -1 ≤ limit) (hf : inp.length < fuel) :
    match pd fuel level eoc tagbuf limit esize pdc inp off with
    | .done _ frame inp' off' _ =>
        (limit ≠ -1 → (frame : Int) ≤ limit) ∧ ∃ consumed, inp = consumed ++ inp' ∧ off' = off + consumed.length
    | .failed _ _ => True
    | .oob _ => False
    | .assertion _ => False
    | .nofuel => False :=
  Proofs.UnberSafe.pd_safe fuel level eoc tagbuf limit esize pdc inp off hlim hf

/-- the TL decoders never read outside `buf[0..size)` when `size` is the number of octets
    stored, and report a consumed count within `1..size` -/
theorem fetch_in_bounds (constr : Bool) (buf : Bytes) :
    Impl.UnberTlv.fetchTag buf buf.length ≠ .oob ∧ Impl.UnberTlv.fetchLength constr buf buf.length ≠ .oob ∧
    (∀ t n, Impl.UnberTlv.fetchTag buf buf.length = .ok t n → 1 ≤ n ∧ n ≤ buf.length) ∧
    (∀ l n, Impl.UnberTlv.fetchLength constr buf buf.length = .ok l n → 1 ≤ n ∧ n ≤ buf.length) :=
  ⟨(Proofs.UnberSafe.fetchTag_safe buf).1, (Proofs.UnberSafe.fetchLength_safe constr buf).1,
   (Proofs.UnberSafe.fetchTag_safe buf).2,
   fun l n h => ⟨((Proofs.UnberSafe.fetchLength_safe constr buf).2 l n h).1,
                 ((Proofs.UnberSafe.fetchLength_safe constr buf).2 l n h).2.1⟩⟩

/-- **render / parse.**  What `process_line` reads back from an opening tag printed by
    `print_TL` for a definite-length TLV are the printed TL, V and tag (`parseAttrs ∘ render = id`
    on the attributes enber uses). -/
theorem parse_render_open (level : Nat) (constr : Bool) (off tl tag v : Nat)
    (htl : 2 ≤ tl ∧ tl < 2 ^ 63) (hv : v < 2 ^ 63) (htag : tag / 4 < 2 ^ 30) :
    ∃ tagPart, render (.opn level constr off tl tag (Int.ofNat v)) = indent level ++ tagPart ∧
      parseAttrs (if constr then 1 else 0) tagPart = .ok (tl, v, tag) := by
  refine ⟨_, Proofs.Enber.render_opn level constr off tl tag (Int.ofNat v), ?_⟩
  cases constr
  · exact Proofs.Enber.parseAttrs_open 0 _ off tl tag v _ (.inr ⟨by omega, rfl⟩) (by simp [formLetter]) htl hv htag
  · have : formLetter true (Int.ofNat v) = 67 := by simp [formLetter]
    rw [this]
    exact Proofs.Enber.parseAttrs_open 1 67 off tl tag v _ (.inr ⟨by omega, rfl⟩) (by omega) htl hv htag

/-- the TL primitives invert each other: `ber_fetch_tag` reads back what `ber_tlv_tag_serialize`
    wrote, `ber_fetch_length` what `der_tlv_length_serialize` wrote (whatever follows) -/
theorem fetch_serialize (c n len : Nat) (constr : Bool) (rest : Bytes) (hc : c < 4) (hn : n < 2 ^ 30)
    (hl : len < 2 ^ 62) :
    Impl.UnberTlv.fetchTag ((Impl.UnberTlv.tagSerialize (n * 4 + c) 32).1 ++ rest)
        ((Impl.UnberTlv.tagSerialize (n * 4 + c) 32).1 ++ rest).length
      = .ok (n * 4 + c) (Impl.UnberTlv.tagSerialize (n * 4 + c) 32).2 ∧
    Impl.UnberTlv.fetchLength constr ((Impl.UnberTlv.lenSerialize len 32).1 ++ rest)
        ((Impl.UnberTlv.lenSerialize len 32).1 ++ rest).length
      = .ok (Int.ofNat len) (Impl.UnberTlv.lenSerialize len 32).2 := by
  constructor
  · rw [Proofs.UnberTlv.tagSerialize_ident c n hc hn]
    exact Proofs.UnberTlv.fetchTag_ident c false n rest hn
  · rw [Proofs.UnberTlv.lenSerialize_eq len 32 (by omega), Proofs.UnberTlv.fetchLength_eq,
      Proofs.BerTlv.fetchLength_serialize len constr rest (by omega)]
    rfl

end Asn1c.Props.C20
