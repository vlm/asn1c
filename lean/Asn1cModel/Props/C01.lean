import Asn1cModel.Proofs.L2Tlv
import Asn1cModel.Proofs.L2Variants
import Mathlib.Algebra.Group.Nat.Defs
/-
  C01 (DER part) — "for every type and every value, encoding with DER succeeds and decoding the
  produced bytes returns RC_OK, consumes exactly the bytes that were produced, and yields the
  same abstract value".

  Model: `encDER t v = (toTlv t v).map Tlv.enc`, `decBER fuel t bs = interp t (parseTlv fuel bs)`
  (L2/Der.lean, L2/Tlv.lean; tied to the C skeletons by the differential test of the L2 driver).
  `t.Wf` (= `TyWf`) and `Canon t v` are defined in Proofs/L2Der.lean, `Tlv.Wf` in Proofs/L2Tlv.lean.
  Property theorems only; helper lemmas live in Proofs/L2Tlv.lean, Proofs/L2Contents.lean (contents octets,
  sorting), Proofs/L2Der.lean and Proofs/L2Variants.lean (`interp` on every valid BER tree, the DER tree being one).
-/
namespace Asn1c.Props.C01
open Asn1c Asn1c.Impl.BerTlv Asn1c.L2 Asn1c.Spec Asn1c.Proofs.L2Tlv Asn1c.Proofs.L2Der

/-- **DER encoding succeeds** for every canonical value of every well-formed type. -/
theorem encDER_total (t : Ty) (v : Val) (hw : t.Wf) (hc : Canon t v) : ∃ bs, encDER t v = some bs := by
  obtain ⟨x, hx⟩ := toTlv_total t v hw hc
  exact ⟨x.enc, by simp [encDER, hx]⟩

/-- **DER round trip**: decoding the bytes produced by the DER encoder — followed by arbitrary
    further input `rest` — succeeds (RC_OK) for every sufficiently large recursion budget, yields
    the encoded value, and leaves exactly `rest` unconsumed (i.e. consumes exactly the bytes that
    were produced).  `2^62-1` = RSSIZE_MAX is the largest length `ber_fetch_length` accepts. -/
theorem der_roundtrip (t : Ty) (v : Val) (bs : Bytes) (hw : t.Wf) (hc : Canon t v)
    (h : encDER t v = some bs) (hl : bs.length ≤ 2 ^ 62 - 1) :
    ∃ N, ∀ fuel, N ≤ fuel → ∀ rest, decBER fuel t (bs ++ rest) = .ok v rest := by
  obtain ⟨x, hx, rfl, hwf⟩ := encDER_eq_some hw h hl
  refine ⟨x.size, fun fuel hf rest => ?_⟩
  unfold decBER
  rw [Asn1c.Proofs.L2Tlv.parseTlv_enc_any_form x hwf fuel hf rest]
  simp only [interp_toTlv t v x hw hc hx]

/-- the same with nothing following the encoding: the whole input is consumed -/
theorem der_roundtrip_exact (t : Ty) (v : Val) (bs : Bytes) (hw : t.Wf) (hc : Canon t v)
    (h : encDER t v = some bs) (hl : bs.length ≤ 2 ^ 62 - 1) :
    ∃ N, ∀ fuel, N ≤ fuel → decBER fuel t bs = .ok v [] := by
  obtain ⟨N, hN⟩ := der_roundtrip t v bs hw hc h hl
  exact ⟨N, fun fuel hf => by simpa using hN fuel hf []⟩

/-- **a truncated DER encoding is answered with "want more"** (RC_WMORE), never with a value or
    an error (used by C05) -/
theorem der_truncated_more (t : Ty) (v : Val) (bs p : Bytes) (hw : t.Wf)
    (h : encDER t v = some bs) (hl : bs.length ≤ 2 ^ 62 - 1) (hp : p <+: bs) (hne : p ≠ bs) :
    ∃ N, ∀ fuel, N ≤ fuel → decBER fuel t p = .more := by
  obtain ⟨x, _, rfl, hwf⟩ := encDER_eq_some hw h hl
  refine ⟨x.size, fun fuel hf => ?_⟩
  unfold decBER
  rw [parseTlv_prefix_more x hwf p hp hne fuel hf]

/-- `parseTlv` inverts `Tlv.enc` for every well-formed tree in **every length form**
    (non-minimal definite, indefinite), whatever follows -/
theorem parseTlv_enc_any_form (x : Tlv) (hx : x.Wf) (fuel : Nat) (hf : x.size ≤ fuel) (rest : Bytes) :
    parseTlv fuel (x.enc ++ rest) = .ok x rest :=
  Asn1c.Proofs.L2Tlv.parseTlv_enc_any_form x hx fuel hf rest

/-- a proper prefix of a valid encoding (any form) makes the parser ask for more -/
theorem parseTlv_prefix_more (x : Tlv) (hx : x.Wf) (p : Bytes) (hp : p <+: x.enc) (hne : p ≠ x.enc)
    (fuel : Nat) (hf : x.size ≤ fuel) : parseTlv fuel p = .more :=
  Asn1c.Proofs.L2Tlv.parseTlv_prefix_more x hx p hp hne fuel hf

/-- interpretation inverts the DER tree builder -/
theorem interp_toTlv (t : Ty) (v : Val) (x : Tlv) (hw : t.Wf) (hc : Canon t v)
    (h : toTlv t v = some x) : interp t x = some v :=
  Asn1c.Proofs.L2Der.interp_toTlv t v x hw hc h

theorem twosVal_intOctets (z : Int) : twosVal (intOctets z) = z := Asn1c.Proofs.L2Der.twosVal_intOctets z
theorem intOctets_ne_nil (z : Int) : intOctets z ≠ [] := Asn1c.Proofs.L2Der.intOctets_ne_nil z
theorem intOctets_minimal (z : Int) : MinimalTwos (intOctets z) := Asn1c.Proofs.L2Der.intOctets_minimal z
theorem intOctets_wf (z : Int) : Bytes.wf (intOctets z) := Asn1c.Proofs.L2Der.intOctets_wf z

/-- a value and its canonical representative (`canonV`: DEFAULT-valued components dropped, SET OF
    lists sorted by element encoding, recursively) have the same DER encoding — no hypothesis -/
theorem encDER_canonV (t : Ty) (v : Val) : encDER t (canonV t v) = encDER t v := by
  simp only [encDER, toTlv_canonV]

/-- the DER encoding depends only on the canonical representative -/
theorem encDER_eq_of_canonV_eq (t : Ty) (v₁ v₂ : Val) (h : canonV t v₁ = canonV t v₂) :
    encDER t v₁ = encDER t v₂ := by
  rw [← encDER_canonV t v₁, ← encDER_canonV t v₂, h]

/-- SET OF: the DER encoding does not depend on the order in which the elements are given -/
theorem encDER_setOf_perm (tags : List Tag) (e : Ty) (vs₁ vs₂ : List Val) (hp : vs₁.Perm vs₂) :
    encDER (.setOf tags e) (.list vs₁) = encDER (.setOf tags e) (.list vs₂) :=
  Asn1c.Proofs.L2Der.encDER_setOf_perm tags e vs₁ vs₂ hp

/-- the canonical orders are produced by an idempotent sort (total order suffices) … -/
theorem sortBy_idem {α : Type} (le : α → α → Bool) (htot : ∀ a b, le a b = true ∨ le b a = true)
    (l : List α) : sortBy le (sortBy le l) = sortBy le l :=
  Asn1c.Proofs.L2Der.sortBy_idem le htot l

/-- … whose output depends only on the multiset of its input (total, transitive, antisymmetric) -/
theorem sortBy_perm_eq {α : Type} (le : α → α → Bool) (htot : ∀ a b, le a b = true ∨ le b a = true)
    (htr : ∀ a b c, le a b = true → le b c = true → le a c = true)
    (hanti : ∀ a b, le a b = true → le b a = true → a = b)
    (l₁ l₂ : List α) (hp : l₁.Perm l₂) : sortBy le l₁ = sortBy le l₂ :=
  Asn1c.Proofs.L2Der.sortBy_perm_eq le htot htr hanti l₁ l₂ hp

/-- `bytesLe` (C: `_el_buf_cmp`) is such an order on octet strings -/
theorem bytesLe_order :
    (∀ a b, bytesLe a b = true ∨ bytesLe b a = true) ∧
    (∀ a b c, bytesLe a b = true → bytesLe b c = true → bytesLe a c = true) ∧
    (∀ a b, bytesLe a b = true → bytesLe b a = true → a = b) :=
  ⟨bytesLe_total, bytesLe_trans, bytesLe_antisymm⟩

/-- `SEQUENCE { a [0] INTEGER OPTIONAL, b CHOICE { x BOOLEAN, y OCTET STRING }, c SEQUENCE OF INTEGER }` -/
def exTy : Ty :=
  .seq [⟨0, 16⟩]
    [.prim [⟨2, 0⟩] .integer,
     .choice [] [.prim [⟨0, 1⟩] .boolean, .prim [⟨0, 4⟩] .octets] false,
     .seqOf [⟨0, 16⟩] (.prim [⟨0, 2⟩] .integer)]
    [⟨true, none, false⟩, ⟨false, none, false⟩, ⟨false, none, false⟩] false
/-- `{ b y : '010203'H, c { 5, -129 } }` (a absent) -/
def exVal : Val := .seq [.absent, .choice 1 (.octets [1, 2, 3]), .list [.int 5, .int (-129)]]

example : exTy.Wf := by decide
example : Canon exTy exVal := by decide
theorem exTy_encDER : encDER exTy exVal = some [48, 14, 4, 3, 1, 2, 3, 48, 7, 2, 1, 5, 2, 2, 255, 127] := by
  simp [encDER, exTy, exVal, toTlv, toTlvs, toTlvAlt, toTlvList, primContent, wrapTags, wrapAround,
    isDefault, intOctets, natOctets, Proofs.Real.toBE_small, Tlv.enc, Tlv.encList, tagOctets, tagSerialize, lenForm,
    lenSerialize]
/-- `der_roundtrip` and `encDER_total` instantiated -/
example : ∃ N, ∀ fuel, N ≤ fuel → ∀ rest,
    decBER fuel exTy ([48, 14, 4, 3, 1, 2, 3, 48, 7, 2, 1, 5, 2, 2, 255, 127] ++ rest) = .ok exVal rest :=
  der_roundtrip exTy exVal _ (by decide) (by decide) exTy_encDER (by decide)
example : ∃ bs, encDER exTy exVal = some bs := encDER_total exTy exVal (by decide) (by decide)
example : ∃ N, ∀ fuel, N ≤ fuel → decBER fuel exTy [48, 14, 4, 3, 1, 2, 3, 48, 7] = .more :=
  der_truncated_more exTy exVal _ _ (by decide) exTy_encDER (by decide) (by decide) (by decide)

/-- `SET { p [1] BOOLEAN, q [0] EXPLICIT INTEGER DEFAULT 7, r SET OF OCTET STRING,
          s BIT STRING OPTIONAL, u REAL, ... }` -/
def exSet : Ty :=
  .set [⟨0, 17⟩]
    [.prim [⟨2, 1⟩] .boolean, .prim [⟨2, 0⟩, ⟨0, 2⟩] .integer,
     .setOf [⟨0, 17⟩] (.prim [⟨0, 4⟩] .octets), .prim [⟨0, 3⟩] .bits, .prim [⟨0, 9⟩] .real]
    [⟨false, none, false⟩, ⟨true, some (.int 7), false⟩, ⟨false, none, false⟩,
     ⟨true, none, false⟩, ⟨false, none, false⟩] true
/-- q takes its DEFAULT (so it is `absent` in the canonical value), the SET OF elements are in
    DER order, the BIT STRING has 5 unused (zero) bits, u = 1.5 -/
def exSetVal : Val :=
  .seq [.bool true, .absent, .list [.octets [1], .octets [2], .octets [1, 0]], .bits [0xA0] 5,
    .real 0x3ff8000000000000]

example : exSet.Wf := by decide
example : Canon exSet exSetVal := by
  simp [Canon, canonB, canonSeq, exSet, exSetVal, isAbsent, isDefault, canonPrim, sortedEnc, toTlvList, toTlv,
    primContent, wrapTags, wrapAround, chainB, Tlv.enc, tagOctets, tagSerialize, lenForm, lenSerialize, bytesLe,
    maskLast]
  decide

/-- a BER tree with an indefinite-length node, a non-minimal definite length (`02 82 00 01 05`),
    a long-form length for an empty body and a multi-octet tag -/
def exTlv : Tlv :=
  .cons ⟨0, 16⟩ none [.prim ⟨0, 2⟩ 2 [5], .cons ⟨2, 1000⟩ (some 1) [], .prim ⟨1, 31⟩ 0 [1, 2, 3]]
example : exTlv.Wf := by decide +kernel
example : twosVal (intOctets (-129)) = -129 ∧ intOctets (-129) ≠ [] ∧ MinimalTwos (intOctets (-129)) :=
  ⟨twosVal_intOctets _, intOctets_ne_nil _, intOctets_minimal _⟩

end Asn1c.Props.C01
