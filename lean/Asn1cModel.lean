import Asn1cModel.Base
import Asn1cModel.Impl.Integer
import Asn1cModel.Spec.Twos
import Asn1cModel.Proofs.Integer
import Asn1cModel.Props.C16
import Asn1cModel.Impl.BerTlv
import Asn1cModel.Spec.Ber
import Asn1cModel.Proofs.BerFetch
import Asn1cModel.Proofs.BerTlv
import Asn1cModel.Proofs.BerTlvSpec
import Asn1cModel.Spec.Numeral
import Asn1cModel.Proofs.Strtox
import Asn1cModel.Impl.Real
import Asn1cModel.Spec.Real
import Asn1cModel.Proofs.Real
import Asn1cModel.Impl.Oid
import Asn1cModel.Impl.Time
import Asn1cModel.Spec.Oid
import Asn1cModel.Spec.Time
import Asn1cModel.Proofs.Oid
import Asn1cModel.Proofs.Time
import Asn1cModel.Proofs.TimeFrac
import Asn1cModel.Props.C17
import Asn1cModel.Spec.ModuleAst
import Asn1cModel.Spec.TagRules
import Asn1cModel.Impl.Fixer
import Asn1cModel.Proofs.Fixer
import Asn1cModel.Proofs.FixerMisc
import Asn1cModel.Props.C11
import Asn1cModel.Spec.Per
import Asn1cModel.Spec.Constraint
import Asn1cModel.Impl.CRange
import Asn1cModel.Impl.CTables
import Asn1cModel.Impl.ConsParse
import Asn1cModel.Proofs.CRange
import Asn1cModel.Proofs.CRangeCompute
import Asn1cModel.Proofs.CRangeChain
import Asn1cModel.Proofs.CTables
import Asn1cModel.Props.C09
import Asn1cModel.Impl.Reentrancy
import Asn1cModel.Generated.Globals
import Asn1cModel.Props.C19
import Asn1cModel.Impl.UnberTlv
import Asn1cModel.Impl.Unber
import Asn1cModel.Impl.Enber
import Asn1cModel.Spec.TlvForest
import Asn1cModel.Proofs.UnberTlv
import Asn1cModel.Proofs.UnberPass
import Asn1cModel.Proofs.Unber
import Asn1cModel.Proofs.UnberSafe
import Asn1cModel.Proofs.UnberDepth
import Asn1cModel.Proofs.Enber
import Asn1cModel.Props.C20
import Asn1cModel.Proofs.L2Tlv
import Asn1cModel.Proofs.Sort
import Asn1cModel.Proofs.L2Contents
import Asn1cModel.Proofs.L2Der
import Asn1cModel.Props.C01
import Asn1cModel.Generated.StackGuard
import Asn1cModel.Impl.StackGuard
import Asn1cModel.Impl.PerSizeAlpha
import Asn1cModel.Proofs.StackGuard
import Asn1cModel.Props.C15
import Asn1cModel.Impl.Native
import Asn1cModel.Proofs.Native
import Asn1cModel.Props.C13
import Asn1cModel.Generated.ReservedWords
import Asn1cModel.Impl.Naming
import Asn1cModel.Impl.WfDescr
import Asn1cModel.Impl.CompilerMain
import Asn1cModel.Proofs.Naming
import Asn1cModel.Proofs.WfDescr
import Asn1cModel.Props.C10
import Asn1cModel.Impl.Print
import Asn1cModel.Impl.Lookup
import Asn1cModel.Proofs.Print
import Asn1cModel.Props.C12
import Asn1cModel.Impl.Lifecycle
import Asn1cModel.Proofs.Lifecycle
import Asn1cModel.Props.C14
import Asn1cModel.Spec.ConstraintCheck
import Asn1cModel.Generated.AlphabetTables
import Asn1cModel.Impl.ConstraintCheck
import Asn1cModel.Impl.ConstraintCheckDom
import Asn1cModel.Proofs.ConstraintCheck
import Asn1cModel.Props.C08
import Asn1cModel.Impl.BitData
import Asn1cModel.Impl.PerSupport
import Asn1cModel.Impl.OerSupport
import Asn1cModel.Spec.Oer
import Asn1cModel.Proofs.PerSupport
import Asn1cModel.Proofs.OerSupport
import Asn1cModel.Props.L1Per
import Asn1cModel.Props.C02
import Asn1cModel.Props.C04
import Asn1cModel.Impl.OpenType
import Asn1cModel.Spec.ObjectSet
import Asn1cModel.Proofs.OpenType
import Asn1cModel.Props.C18
import Asn1cModel.Impl.Application
import Asn1cModel.Spec.EncoderApi
import Asn1cModel.Proofs.Application
import Asn1cModel.Props.C07
import Asn1cModel.Props.C05
import Asn1cModel.L2.OerTypes
import Asn1cModel.L2.Oer
import Asn1cModel.Proofs.L2OerEqns
import Asn1cModel.Proofs.L2Oer
import Asn1cModel.Props.C02Oer
import Asn1cModel.L2.PerTypes
import Asn1cModel.L2.Uper
import Asn1cModel.Proofs.L2UperEqns
import Asn1cModel.Proofs.L2Uper
import Asn1cModel.Props.C02Uper
import Asn1cModel.Proofs.L2Variants
import Asn1cModel.Props.C03
import Asn1cModel.L2.OerVariants
import Asn1cModel.L2.UperVariants
import Asn1cModel.Proofs.L2OerVariantsEqns
import Asn1cModel.Proofs.L2VarSel
import Asn1cModel.Proofs.L2OerVariants
import Asn1cModel.Props.C03Oer
import Asn1cModel.Proofs.L2UperVariantsEqns
import Asn1cModel.Proofs.L2UperVariants
import Asn1cModel.Props.C03Uper
import Asn1cModel.Impl.CompileDescr
import Asn1cModel.Impl.CompileDescrL2
import Asn1cModel.Proofs.CompileDescr
import Asn1cModel.Props.C10Compile
import Asn1cModel.L2.XerTypes
import Asn1cModel.L2.Xer
import Asn1cModel.Proofs.L2XerEqns
import Asn1cModel.Proofs.L2XerTok
import Asn1cModel.Proofs.L2XerBody
import Asn1cModel.Proofs.L2XerDom
import Asn1cModel.Proofs.L2Xer
import Asn1cModel.Props.C01Xer
import Asn1cModel.Props.C06
import Asn1cModel.Impl.BerStream
import Asn1cModel.Proofs.BerStream
import Asn1cModel.Proofs.BerStreamLaws
import Asn1cModel.Proofs.BerStreamOstr
import Asn1cModel.Proofs.BerStreamTop
import Asn1cModel.Proofs.BerStreamRefine
import Asn1cModel.Props.C05Stream
